/- math.c and string.c: the histogram based statistics, serial correlation, Monte-Carlo pi and the
   string statistics equal their definitions over the byte list; strtoll stays inside int64. -/
import YaraModel.Lemmas.HashMathWalk
namespace YaraModel.HM
open Spec

theorem count_cons (b : UInt8) (bs : Bytes) (i : Nat) :
    count (b :: bs) i = count bs i + (if b.toNat = i then 1 else 0) := by
  unfold count
  rw [List.countP_cons]
  simp

theorem foldl_histStep (bs : Bytes) (h : Nat → Nat) (i : Nat) :
    (bs.foldl histStep h) i = h i + count bs i := by
  induction bs generalizing h with
  | nil => simp [count]
  | cons b bs ih =>
    rw [List.foldl_cons, ih, count_cons]
    unfold histStep
    by_cases hb : i = b.toNat
    · simp [hb]; omega
    · have : ¬ b.toNat = i := fun e => hb e.symm
      simp [hb, this]

theorem histOf_eq (bs : Bytes) : histOf bs = count bs := by
  funext i; simp [histOf, foldl_histStep, histZero]

/-! `total256` and `sum256` are the same loop over `Nat` and over `Rat`; what is needed of it holds for any
addition that is associative and commutative. -/

section
variable {α : Type} [Add α] (g g' : Nat → α) (z : α)

theorem rangeSum_zero (hz : z + z = z) (h : ∀ i, g i = z) (n : Nat) :
    (List.range n).foldl (fun s i => s + g i) z = z := by
  induction n with
  | zero => rfl
  | succ n ih => rw [List.range_succ, List.foldl_append, ih, List.foldl_cons, List.foldl_nil, h, hz]

/-- `g'` is `g` with `d` added at `k` (`hne`, `hk`) -/
theorem rangeSum_update (assoc : ∀ a b c : α, a + b + c = a + (b + c)) (comm : ∀ a b : α, a + b = b + a)
    (k : Nat) (d : α) (hne : ∀ i, i ≠ k → g' i = g i) (hk : g' k = g k + d) (n : Nat) :
    (List.range n).foldl (fun s i => s + g' i) z =
      if k < n then (List.range n).foldl (fun s i => s + g i) z + d
      else (List.range n).foldl (fun s i => s + g i) z := by
  induction n with
  | zero => rfl
  | succ n ih =>
    rw [List.range_succ, List.foldl_append, List.foldl_append, ih]
    simp only [List.foldl_cons, List.foldl_nil]
    by_cases h1 : k < n
    · rw [if_pos h1, if_pos (Nat.lt_succ_of_lt h1), hne n (Nat.ne_of_gt h1), assoc, comm d, ← assoc]
    · by_cases h2 : k = n
      · subst h2
        rw [if_neg h1, if_pos (Nat.lt_succ_self _), hk, assoc]
      · rw [if_neg h1, if_neg (by omega), hne n (Ne.symm h2)]
end

theorem total_count (bs : Bytes) : total256 (count bs) = bs.length := by
  induction bs with
  | nil => exact rangeSum_zero _ 0 rfl (fun _ => rfl) 256
  | cons b bs ih =>
    exact (rangeSum_update (count bs) (count (b :: bs)) 0 Nat.add_assoc Nat.add_comm b.toNat 1
      (fun i hi => by rw [count_cons, if_neg (Ne.symm hi)]; rfl) (by rw [count_cons, if_pos rfl]) 256).trans
      ((if_pos b.toNat_lt).trans (congrArg (· + 1) ih))

theorem weighted_count (w : Nat → Rat) (bs : Bytes) :
    sum256 (fun i => w i * (count bs i : Rat)) = sumRat (bs.map fun b => w b.toNat) := by
  induction bs with
  | nil => exact rangeSum_zero _ 0 (Rat.add_zero 0) (fun i => by simp [count]) 256
  | cons b bs ih =>
    refine (rangeSum_update (fun i => w i * (count bs i : Rat)) (fun i => w i * (count (b :: bs) i : Rat)) 0
      Rat.add_assoc Rat.add_comm b.toNat (w b.toNat) (fun i hi => by rw [count_cons, if_neg (Ne.symm hi)]; rfl)
      (by rw [count_cons, if_pos rfl, Rat.natCast_add, Rat.mul_add]; simp) 256).trans ?_
    rw [if_pos b.toNat_lt]
    exact (Rat.add_comm _ _).trans (congrArg (w b.toNat + ·) ih)

theorem absRat_eq (q : Rat) : HM.absRat q = Spec.absRat q := rfl

theorem meanHist_count (bs : Bytes) : meanHist (count bs) = Spec.mean bs := by
  unfold meanHist Spec.mean divOrUndef
  rw [total_count, weighted_count (fun i => (i : Rat)) bs]

theorem deviationHist_count (bs : Bytes) (m : Rat) : deviationHist (count bs) m = Spec.deviation bs m := by
  unfold deviationHist Spec.deviation divOrUndef
  rw [total_count, weighted_count (fun i => HM.absRat ((i : Rat) - m)) bs]
  rfl

theorem percentageHist_count (bs : Bytes) (v : Int) (hv : ¬ (v < 0 ∨ v > 255)) :
    percentageHist (count bs) v = Spec.percentage bs v.toNat := by
  unfold percentageHist Spec.percentage divOrUndef
  rw [if_neg hv, total_count]

theorem countHist_count (bs : Bytes) (v : Int) (hv : ¬ (v < 0 ∨ v > 255)) :
    countHist (count bs) v = some (count bs v.toNat : Int) := if_neg hv

theorem countHist_out (h : Nat → Nat) (v : Int) (hv : v < 0 ∨ v > 255) : countHist h v = none := by
  simp [countHist, hv]

theorem getDistribution_eq (blocks : List Block) (off len : Int) :
    getDistribution blocks off len = (rangeWalk blocks off len).map count := by
  rw [show count = histOf from (funext histOf_eq).symm]
  exact chunksWalk_fold histStep histZero id blocks off len

theorem getDistribution_bind {β : Type} (F : (Nat → Nat) → Option β) (G : Bytes → Option β)
    (h : ∀ bs, F (count bs) = G bs) (blocks : List Block) (off len : Int) :
    (getDistribution blocks off len).bind F = (rangeWalk blocks off len).bind G := by
  rw [getDistribution_eq, Option.bind_map]
  exact congrArg _ (funext h)

/-- `modeHist` with the bound 256 a variable, for the induction. -/
def modeUpTo (n : Nat) (h : Nat → Nat) : Nat :=
  (List.range n).foldl (fun best i => if h i > h best then i else best) 0

theorem modeUpTo_succ (n : Nat) (h : Nat → Nat) :
    modeUpTo (n + 1) h = if h n > h (modeUpTo n h) then n else modeUpTo n h := by
  simp [modeUpTo, List.range_succ, List.foldl_append]

theorem modeUpTo_spec (n : Nat) (h : Nat → Nat) :
    modeUpTo (n + 1) h < n + 1 ∧ (∀ v, v < n + 1 → h v ≤ h (modeUpTo (n + 1) h)) ∧
    (∀ v, v < modeUpTo (n + 1) h → h v < h (modeUpTo (n + 1) h)) := by
  induction n with
  | zero => simp [modeUpTo]
  | succ n ih =>
    obtain ⟨h1, h2, h3⟩ := ih
    rw [modeUpTo_succ (n + 1)]
    split
    · next hg =>
      exact ⟨Nat.lt_succ_self _,
        Nat.forall_lt_succ_right.2 ⟨fun v hv => Nat.le_trans (h2 v hv) (Nat.le_of_lt hg), Nat.le_refl _⟩,
        fun v hv => Nat.lt_of_le_of_lt (h2 v hv) hg⟩
    · next hg => exact ⟨Nat.lt_succ_of_lt h1, Nat.forall_lt_succ_right.2 ⟨h2, Nat.le_of_not_lt hg⟩, h3⟩

theorem modeHist_isMode (bs : Bytes) : IsMode bs (modeHist (count bs)) :=
  modeUpTo_spec 255 (count bs)

theorem foldl_sccStep (conv : UInt8 → Int) (rest : Bytes) (s : Scc) :
    rest.foldl (sccStep conv) s =
      { first := s.first, last := (s.last :: rest.map conv).getLast?.getD 0, t1 := s.t1 + pairSum (s.last :: rest.map conv),
        t2 := s.t2 + sumInt (rest.map conv), t3 := s.t3 + sumInt ((rest.map conv).map fun x => x * x),
        n := s.n + rest.length } := by
  induction rest generalizing s with
  | nil => simp [pairSum, sumInt]
  | cons b rest ih =>
    rw [List.foldl_cons, ih]
    simp only [sccStep, List.map_cons, pairSum, sumInt, List.foldr_cons, List.getLast?_cons_cons, List.length_cons,
      Int.add_assoc, Nat.add_assoc, Nat.add_comm 1]

theorem sccFinish_chunk_init (conv : UInt8 → Int) (bs : Bytes) :
    sccFinish (sccChunk conv {} bs) = serialCorrelationOf (bs.map conv) := by
  show sccFormula _ _ _ _ = _
  unfold serialCorrelationOf
  cases bs with
  | nil => simp [sccChunk, pairSum, sumInt]
  | cons b rest =>
    simp only [sccChunk, foldl_sccStep]
    simp only [sccStep, Int.zero_mul, Int.zero_add, Int.add_zero, List.map_cons, List.head?_cons,
      Option.getD_some, List.length_cons, sumInt, List.foldr_cons, List.length_map]
    congr 1
    omega

theorem sccStr_eq (conv : UInt8 → Int) (bs : Bytes) (h : ∀ b ∈ bs, conv b = b.toNat) :
    sccStr conv bs = Spec.serialCorrelation bs := by
  unfold sccStr Spec.serialCorrelation
  rw [sccFinish_chunk_init, List.map_congr_left h]

theorem sccFold_past (chunks : List Bytes) (s : Scc) :
    (chunks.foldl (fun (st : Scc × Bool) ch => (sccBlock st.1 st.2 ch, true)) (s, true)).1 =
      chunks.flatten.foldl (sccStep unsignedConv) s := by
  induction chunks generalizing s with
  | nil => rfl
  | cons c cs ih =>
    rw [List.foldl_cons, List.flatten_cons, List.foldl_append, ← ih]
    cases c <;> rfl

/-- `h`: on chunk lists as the walker produces them an empty first chunk is the only chunk -/
theorem sccChunks_eq (chunks : List Bytes) (h : ∀ cs, chunks = [] :: cs → cs = []) :
    sccChunks chunks = Spec.serialCorrelation chunks.flatten := by
  unfold sccChunks
  match chunks, h with
  | [], _ => exact sccStr_eq unsignedConv [] fun _ _ => rfl
  | [] :: cs, h => rw [h cs rfl]; exact sccStr_eq unsignedConv [] fun _ _ => rfl
  | (b :: rest) :: cs, _ =>
    rw [List.foldl_cons, sccFold_past, ← sccStr_eq unsignedConv _ fun _ _ => rfl]
    show sccFinish (cs.flatten.foldl _ (rest.foldl _ _)) = _
    rw [← List.foldl_append]
    rfl

theorem mcChunk_eq (conv : UInt8 → Int) (bs : Bytes) (h : ∀ b ∈ bs, conv b = b.toNat) : mcChunk conv bs = Spec.mcCount bs := by
  fun_induction Spec.mcCount bs with
  | case1 a b c d e f rest mx my r ih =>
    simp only [mcChunk, ih fun x hx => h x (by simp [hx]), h a (by simp), h b (by simp), h c (by simp), h d (by simp),
      h e (by simp), h f (by simp)]
    rfl
  | case2 bs hne =>
    unfold mcChunk
    split
    · next a b c d e f rest => exact absurd rfl (hne a b c d e f rest)
    · rfl

theorem mcStr_eq (conv : UInt8 → Int) (bs : Bytes) (h : ∀ b ∈ bs, conv b = b.toNat) :
    mcStr conv bs = Spec.monteCarloPi bs := by
  unfold mcStr Spec.monteCarloPi mcFinish
  rw [mcChunk_eq conv bs h]
  rfl

theorem mcChunk_short (conv : UInt8 → Int) (p : Bytes) (h : p.length < 6) : mcChunk conv p = (0, 0) := by
  unfold mcChunk
  split
  · simp at h; omega
  · rfl

theorem mcChunk_six_append (conv : UInt8 → Int) (p bs : Bytes) (h : p.length = 6) :
    mcChunk conv (p ++ bs) =
      ((mcChunk conv bs).1 + (mcChunk conv p).1, (mcChunk conv bs).2 + (mcChunk conv p).2) := by
  match p, h with
  | [a, b, c, d, e, f], _ =>
    simp only [List.cons_append, List.nil_append, mcChunk]
    simp

theorem mcFold (bs : Bytes) (s : Mc) (h : s.pend.length < 6) :
    (bs.foldl mcStep s).cnt = s.cnt + (mcChunk unsignedConv (s.pend ++ bs)).1 ∧
    (bs.foldl mcStep s).inm = s.inm + (mcChunk unsignedConv (s.pend ++ bs)).2 := by
  induction bs generalizing s with
  | nil => simp [mcChunk_short unsignedConv s.pend h]
  | cons b bs ih =>
    rw [List.foldl_cons, show s.pend ++ b :: bs = (s.pend ++ [b]) ++ bs by simp, mcStep]
    split
    · next h6 =>
      rw [(ih _ ?_).1, (ih _ ?_).2, mcChunk_six_append unsignedConv _ bs h6]
      · exact ⟨by simp only [List.nil_append]; omega, by simp only [List.nil_append]; omega⟩
      · exact Nat.zero_lt_succ 5
      · exact Nat.zero_lt_succ 5
    · next h6 =>
      exact ih _ (by simp at h6 ⊢; omega)

theorem mcChunks_eq (chunks : List Bytes) : mcChunks chunks = Spec.monteCarloPi chunks.flatten := by
  have h := mcFold chunks.flatten {} (Nat.zero_lt_succ 5)
  rw [List.nil_append, Nat.zero_add, Nat.zero_add] at h
  unfold mcChunks
  rw [← List.foldl_flatten, ← mcStr_eq unsignedConv _ fun _ _ => rfl]
  show mcFinish _ _ = mcFinish _ _
  rw [h.1, h.2]

/-! The string statistics read the conversion only at the bytes of the string: with a conversion that reads these as 0..255
    (`unsignedConv` always, `signedConv`/`sextConv` on 7-bit bytes) each is its definition. -/

theorem foldl_conv_sumRat (g : Int → Rat) (conv : UInt8 → Int) (bs : Bytes) (h : ∀ b ∈ bs, conv b = b.toNat) (a : Rat) :
    bs.foldl (fun s b => s + g (conv b)) a = a + sumRat (bs.map fun b => g (b.toNat : Int)) := by
  induction bs generalizing a with
  | nil => exact (Rat.add_zero a).symm
  | cons x l ih =>
    rw [List.foldl_cons, h x List.mem_cons_self, ih (fun b hb => h b (List.mem_cons_of_mem _ hb))]
    exact Rat.add_assoc _ _ _

theorem meanStr_eq (conv : UInt8 → Int) (bs : Bytes) (h : ∀ b ∈ bs, conv b = b.toNat) : meanStr conv bs = Spec.mean bs := by
  unfold meanStr divOrUndef
  rw [foldl_conv_sumRat (fun x => (x : Rat)) conv bs h, Rat.zero_add]
  rfl

theorem deviationStr_eq (conv : UInt8 → Int) (bs : Bytes) (m : Rat) (h : ∀ b ∈ bs, conv b = b.toNat) :
    deviationStr conv bs m = Spec.deviation bs m := by
  unfold deviationStr divOrUndef
  rw [foldl_conv_sumRat (fun x => HM.absRat ((x : Rat) - m)) conv bs h, Rat.zero_add]
  rfl

theorem conv_agree (b : UInt8) (h : b.toNat < 128) :
    signedConv b = unsignedConv b ∧ sextConv b = unsignedConv b := by
  unfold signedConv sextConv
  rw [if_neg (Nat.not_le_of_lt h), if_neg (Nat.not_le_of_lt h)]
  exact ⟨rfl, rfl⟩

theorem strToInt_range (s : Bytes) (base : Nat) (r : Int) (h : strToInt s base = some r) :
    -two63 ≤ r ∧ r ≤ two63 - 1 := by
  change parseDigits _ _ _ = some r at h
  simp only [parseDigits, inInt64, Option.ite_none_left_eq_some, Option.some.injEq] at h
  obtain ⟨_, h2, rfl⟩ := h
  omega

end YaraModel.HM
