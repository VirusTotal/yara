/- What pointer conversion and the heap picture look at in a buffer — address, capacity, length (`key`, `key3`) — and the
   congruences in them; the heap picture after one buffer was placed elsewhere; the bodies of an arena; the growth arithmetic;
   reference → pointer → reference (`refToPtr_denotes`); what both branches take of save (`backVal`, `save_eq_saveOfAbs`). -/
import YaraModel.Lemmas.ArenaPtr
namespace YaraModel.Arena

/-- all that `ptrToRef` / `refToPtr` read of a buffer: (address, used bytes) -/
def key (b : Buf) : Nat × Nat := (b.base, b.data.length)

/-- all that the protocol `WF` reads of a buffer besides slot contents: (address, capacity, used bytes) -/
def key3 (b : Buf) : Nat × Nat × Nat := (b.base, b.cap, b.data.length)

theorem getD_of_map_eq {β : Type} {f : Buf → β} {l l' : List Buf} (h : l.map f = l'.map f) (i : Nat) :
    f (l.getD i {}) = f (l'.getD i {}) := by
  have e : ∀ l : List Buf, f (l.getD i {}) = (l.map f).getD i (f {}) := fun l => by
    rw [List.getD_eq_getElem?_getD, List.getD_eq_getElem?_getD, List.getElem?_map, Option.getD_map]
  rw [e, e, h]

theorem getD_of_keys {l l' : List Buf} (h : l.map key = l'.map key) (i : Nat) :
    (l.getD i {}).base = (l'.getD i {}).base ∧ (l.getD i {}).data.length = (l'.getD i {}).data.length := by
  simpa [key] using getD_of_map_eq h i

theorem getD_of_keys3 {l l' : List Buf} (h : l.map key3 = l'.map key3) (i : Nat) :
    (l.getD i {}).base = (l'.getD i {}).base ∧ (l.getD i {}).cap = (l'.getD i {}).cap ∧
      (l.getD i {}).data.length = (l'.getD i {}).data.length := by
  simpa [key3] using getD_of_map_eq h i

theorem keys_of_keys3 {l l' : List Buf} (h : l.map key3 = l'.map key3) : l.map key = l'.map key := by
  have := congrArg (List.map (fun k : Nat × Nat × Nat => (k.1, k.2.2))) h
  rw [List.map_map, List.map_map] at this
  exact this

theorem findBuf_congr {l l' : List Buf} (h : l.map key = l'.map key) (p k : Nat) : findBuf p l k = findBuf p l' k := by
  induction l generalizing l' k with
  | nil =>
    cases l' with
    | nil => rfl
    | cons _ _ => simp at h
  | cons b t ih =>
    cases l' with
    | nil => simp at h
    | cons b' t' =>
      simp only [List.map_cons, List.cons.injEq, key, Prod.mk.injEq] at h
      rw [findBuf_cons, findBuf_cons, ih h.2, h.1.1]
      exact ite_cond_congr (by unfold Hits; rw [h.1.1, h.1.2])

theorem ptrToRef_congr {l l' : List Buf} (h : l.map key = l'.map key) (p : Nat) : ptrToRef l p = ptrToRef l' p := by
  unfold ptrToRef; rw [findBuf_congr h]

theorem toRefs_of_keys {a : Arena} {l : List Buf} (hk : a.bufs.map key = l.map key) :
    toRefs a = mapSlots (fun v => encRef (ptrToRef l v).2) a.relocs a := by
  rw [toRefs_eq]
  congr 1
  funext v
  rw [ptrToRef_congr hk]

theorem refToPtr_congr {l l' : List Buf} (h : l.map key = l'.map key) (x : Option Ref) : refToPtr l x = refToPtr l' x := by
  have hl : l.length = l'.length := by simpa using congrArg List.length h
  cases x with
  | none => rfl
  | some r =>
    have := getD_of_keys h r.buf
    simp only [refToPtr, hl, this.1, this.2]

theorem ValidPtr.congr {l l' : List Buf} (h : l.map key = l'.map key) {v : Nat} (hv : ValidPtr l v) : ValidPtr l' v := by
  have hl : l.length = l'.length := by simpa using congrArg List.length h
  rcases hv with h0 | ⟨j, hj, hh⟩
  · exact Or.inl h0
  · refine Or.inr ⟨j, by omega, ?_⟩
    have hk := getD_of_keys h j
    unfold Hits at *
    omega

theorem keys3_setSlot (a : Arena) (r : Ref) (v : Nat) : (setSlot a r v).bufs.map key3 = a.bufs.map key3 :=
  map_modify_same key3 (fun x => { x with data := wr64 x.data r.off v }) (fun x => by simp [key3, length_wr64]) a.bufs r.buf

theorem keys3_mapSlots (φ : Nat → Nat) (rs : List Ref) (a : Arena) : (mapSlots φ rs a).bufs.map key3 = a.bufs.map key3 :=
  mapSlots_preserves (fun x => x.bufs.map key3) keys3_setSlot φ rs a

theorem keys_setSlot (a : Arena) (r : Ref) (v : Nat) : (setSlot a r v).bufs.map key = a.bufs.map key :=
  keys_of_keys3 (keys3_setSlot a r v)

theorem keys_mapSlots (φ : Nat → Nat) (rs : List Ref) (a : Arena) : (mapSlots φ rs a).bufs.map key = a.bufs.map key :=
  keys_of_keys3 (keys3_mapSlots φ rs a)

theorem keys3_setMeta (a : Arena) (i cap base : Nat) (d : Bool) :
    (setMeta a i cap base d).bufs.map key3 = (a.bufs.map key3).modify i (fun k => (base, cap, k.2.2)) :=
  map_modify key3 (fun x => { x with cap := cap, base := base, dirty := d }) _ (fun _ => rfl) a.bufs i

theorem ptrToRef_refToPtr {bufs : List Buf} (hr : RangesOk bufs) {t : Ref} (hl : t.buf < bufs.length)
    (ho : t.off < (bufs.getD t.buf {}).data.length) :
    refToPtr bufs (some t) = .ok ((bufs.getD t.buf {}).base + t.off) ∧
      Hits (bufs.getD t.buf {}) ((bufs.getD t.buf {}).base + t.off) ∧ (bufs.getD t.buf {}).base + t.off < 2 ^ 64 ∧
      ptrToRef bufs ((bufs.getD t.buf {}).base + t.off) = (true, some t) := by
  have hm := getD_mem t.buf hl
  have hfit := hr.fits _ hm
  -- a buffer with a used byte is allocated: an unallocated one has capacity 0
  have hb : (bufs.getD t.buf {}).base ≠ 0 := fun h0 => by have := hr.null _ hm h0; omega
  have hh : Hits (bufs.getD t.buf {}) ((bufs.getD t.buf {}).base + t.off) := ⟨hb, by omega, by omega⟩
  refine ⟨by rw [refToPtr_some hl (Nat.le_of_lt ho), if_neg hb], hh, by omega, ?_⟩
  rw [ptrToRef_hit hr hl hh, Nat.add_sub_cancel_left]

theorem refToPtr_denotes {bufs : List Buf} (hr : RangesOk bufs) {x : Option Ref}
    (hx : ∀ t, x = some t → t.buf < bufs.length ∧ t.off < (bufs.getD t.buf {}).data.length) :
    ∃ p, refToPtr bufs x = .ok p ∧ ValidPtr bufs p ∧ p < 2 ^ 64 ∧ ptrToRef bufs p = (true, x) := by
  cases x with
  | none => exact ⟨0, rfl, Or.inl rfl, by decide, ptrToRef_zero _⟩
  | some t =>
    have ⟨hl, ho⟩ := hx t rfl
    have ⟨h1, h2, h3, h4⟩ := ptrToRef_refToPtr hr hl ho
    exact ⟨_, h1, Or.inr ⟨t.buf, hl, h2⟩, h3, h4⟩

theorem ptrToRef_valid {bufs : List Buf} (hr : RangesOk bufs) {v : Nat} (hv : ValidPtr bufs v) :
    (ptrToRef bufs v).1 = true ∧ ((v = 0 ∧ (ptrToRef bufs v).2 = none) ∨ ∃ t, (ptrToRef bufs v).2 = some t ∧ t.buf < bufs.length ∧
      t.off < (bufs.getD t.buf {}).data.length ∧ (bufs.getD t.buf {}).base ≠ 0 ∧ v = (bufs.getD t.buf {}).base + t.off) := by
  rcases hv with rfl | ⟨j, hj, hh⟩
  · rw [ptrToRef_zero]; exact ⟨rfl, Or.inl ⟨rfl, rfl⟩⟩
  · rw [ptrToRef_hit hr hj hh]
    unfold Hits at hh
    exact ⟨rfl, Or.inr ⟨_, rfl, hj, by show v - (bufs.getD j {}).base < (bufs.getD j {}).data.length; omega, hh.1,
      by show v = (bufs.getD j {}).base + (v - (bufs.getD j {}).base); omega⟩⟩

theorem WF.size_lt {a : Arena} (h : WF a) (j : Nat) : (a.bufAt j).data.length < 2 ^ 32 := by
  by_cases hj : j < a.bufs.length
  · exact h.sizes _ (getD_mem j hj)
  · have : a.bufAt j = {} := by
      unfold Arena.bufAt
      rw [List.getD_eq_getElem?_getD, List.getElem?_eq_none (by omega)]; rfl
    rw [this]; decide

theorem Apart.symm {b c : Buf} (h : Apart b c) : Apart c b := by unfold Apart at *; omega

theorem pairwise_getD {l : List Buf} (h : l.Pairwise Apart) {i j : Nat} (hi : i < l.length) (hj : j < l.length) (hne : i ≠ j) :
    Apart (l.getD i {}) (l.getD j {}) := by
  rw [List.pairwise_iff_getElem] at h
  have ei : l.getD i {} = l[i] := by simp [hi]
  have ej : l.getD j {} = l[j] := by simp [hj]
  rw [ei, ej]
  rcases Nat.lt_or_gt_of_ne hne with hlt | hgt
  · exact h i j hi hj hlt
  · exact (h j i hj hi hgt).symm

theorem pairwise_of_getD {l : List Buf} (h : ∀ i j, i < l.length → j < l.length → i < j → Apart (l.getD i {}) (l.getD j {})) :
    l.Pairwise Apart := by
  rw [List.pairwise_iff_getElem]
  intro i j hi hj hlt
  have := h i j hi hj hlt
  simpa [hi, hj] using this

theorem RangesOk.of_blocks {l l' : List Buf} (hr : RangesOk l) (hn : l'.length = l.length)
    (hb : ∀ j, j < l.length → (l'.getD j {}).base = (l.getD j {}).base ∧ (l'.getD j {}).cap = (l.getD j {}).cap ∧
      (l'.getD j {}).data.length ≤ (l'.getD j {}).cap) : RangesOk l' := by
  constructor
  · intro x hx
    obtain ⟨j, hj, rfl⟩ := mem_iff_getD.1 hx
    have := hr.fits _ (getD_mem j (by omega))
    have hk := hb j (by omega)
    omega
  · intro x hx
    obtain ⟨j, hj, rfl⟩ := mem_iff_getD.1 hx
    have := hr.null _ (getD_mem j (by omega))
    have hk := hb j (by omega)
    omega
  · apply pairwise_of_getD
    intro i j hi hj hlt
    have := pairwise_getD hr.apart (show i < l.length by omega) (show j < l.length by omega) (by omega)
    have hki := hb i (by omega)
    have hkj := hb j (by omega)
    unfold Apart at *
    omega

theorem RangesOk.congr {l l' : List Buf} (h : l.map key3 = l'.map key3) (hr : RangesOk l) : RangesOk l' := by
  have hl : l.length = l'.length := by simpa using congrArg List.length h
  refine hr.of_blocks hl.symm (fun j hj => ?_)
  have hk := getD_of_keys3 h j
  have := (hr.fits _ (getD_mem j hj)).1
  omega

theorem rangesOk_setMeta {a : Arena} (h : RangesOk a.bufs) {b newBase nc : Nat} (hf : Fresh a b newBase nc) (d : Bool) :
    RangesOk (setMeta a b nc newBase d).bufs := by
  have hget : ∀ j, (setMeta a b nc newBase d).bufs.getD j {} = _ := bufAt_setMeta a b nc newBase d
  constructor
  · intro x hx
    obtain ⟨j, hj, rfl⟩ := mem_iff_getD.1 hx
    rw [setMeta_length] at hj
    rw [hget]
    split
    · rename_i hb; obtain ⟨rfl, _⟩ := hb; exact hf.fits
    · exact h.fits _ (getD_mem j hj)
  · intro x hx
    obtain ⟨j, hj, rfl⟩ := mem_iff_getD.1 hx
    rw [setMeta_length] at hj
    rw [hget]
    split
    · intro h0; exact absurd h0 hf.nonnull
    · exact h.null _ (getD_mem j hj)
  · -- by symmetry of `Apart`, say `j` is not the moved buffer
    have hpair : ∀ i j, i < a.bufs.length → j < a.bufs.length → i ≠ j → b ≠ j →
        Apart ((setMeta a b nc newBase d).bufs.getD i {}) ((setMeta a b nc newBase d).bufs.getD j {}) := by
      intro i j hi hj hij hbj
      rw [hget, hget, if_neg (c := b = j ∧ _) (fun h => hbj h.1)]
      split
      · rename_i hb; obtain ⟨rfl, _⟩ := hb
        have := hf.others j hj (by omega)
        unfold Apart; simp only; omega
      · exact pairwise_getD h.apart hi hj hij
    apply pairwise_of_getD
    intro i j hi hj hlt
    rw [setMeta_length] at hi hj
    by_cases hbj : b = j
    · exact (hpair j i hj hi (by omega) (by omega)).symm
    · exact hpair i j hi hj (by omega) hbj

theorem bodies_getD (a : Arena) (j : Nat) : (bodies a).getD j [] = (a.bufAt j).data :=
  List.getD_map Buf.data a.bufs j {}

theorem bodies_setSlot (a : Arena) (s : Ref) (v : Nat) :
    bodies (setSlot a s v) = (bodies a).modify s.buf (fun d => wr64 d s.off v) :=
  map_modify (fun x : Buf => x.data) (fun x => { x with data := wr64 x.data s.off v }) (fun d => wr64 d s.off v) (fun _ => rfl) a.bufs s.buf

theorem bodies_mapSlots_congr (φ : Nat → Nat) (rs : List Ref) {a a' : Arena} (h : bodies a' = bodies a) :
    bodies (mapSlots φ rs a') = bodies (mapSlots φ rs a) := by
  induction rs generalizing a a' with
  | nil => exact h
  | cons r t ih =>
    have hg : getSlot a' r = getSlot a r := by unfold getSlot; rw [← bodies_getD, ← bodies_getD, h]
    rw [mapSlots_cons, mapSlots_cons, hg]
    exact ih (by rw [bodies_setSlot, bodies_setSlot, h])

theorem bodies_toRefs_lengths (a : Arena) : (bodies (toRefs a)).map (·.length) = (bodies a).map (·.length) := by
  rw [toRefs_eq]
  have := keys_mapSlots (fun v => encRef (ptrToRef a.bufs v).2) a.relocs a
  have h2 := congrArg (List.map Prod.snd) this
  simpa [bodies, key, Function.comp_def] using h2

theorem length_bodies_toRefs (a : Arena) : (bodies (toRefs a)).length = a.bufs.length := by
  simpa [bodies] using congrArg List.length (bodies_toRefs_lengths a)

theorem length_getD_bodies_toRefs (a : Arena) (j : Nat) : ((bodies (toRefs a)).getD j []).length = (a.bufAt j).data.length := by
  rw [bodies_getD, toRefs_eq, bufAt_mapSlots_len]

theorem dblUntil_le (f s need : Nat) : dblUntil f s need ≤ max s (2 * need) := by
  induction f generalizing s with
  | zero => simp [dblUntil]; omega
  | succ f ih =>
    simp only [dblUntil]
    split
    · have := ih (s * 2); omega
    · omega

theorem dblUntil_ge (f s need : Nat) (h : need ≤ s * 2 ^ f) : need ≤ dblUntil f s need := by
  induction f generalizing s with
  | zero => simpa [dblUntil] using h
  | succ f ih =>
    simp only [dblUntil]
    split
    · apply ih; rw [Nat.pow_succ] at h; rw [Nat.mul_assoc, Nat.mul_comm 2]; exact h
    · omega

theorem newCap_ge {init cap used size : Nat} (hi : 0 < init) : used + size ≤ newCap init cap used size := by
  apply dblUntil_ge
  have hs : 1 ≤ (if cap = 0 then init else cap * 2) := by split <;> omega
  have h2 : used + size < 2 ^ (used + size) := Nat.lt_two_pow_self
  calc used + size ≤ 1 * 2 ^ (used + size) := by omega
    _ ≤ (if cap = 0 then init else cap * 2) * 2 ^ (used + size) := Nat.mul_le_mul_right _ hs

/-- what the last loop of save does to a slot value -/
def backVal (bufs : List Buf) (v : Nat) : Nat :=
  match refToPtr bufs (decRef v) with
  | .ok p => p
  | .error _ => v

theorem backVal_congr {l l' : List Buf} (h : l.map key = l'.map key) : backVal l = backVal l' := by
  funext v; unfold backVal; rw [refToPtr_congr h]

theorem decRef_encRef_valid {a : Arena} (h : WF a) {v : Nat} (hv : ValidPtr a.bufs v) :
    (ptrToRef a.bufs v).1 = true ∧ decRef (encRef (ptrToRef a.bufs v).2) = (ptrToRef a.bufs v).2 := by
  obtain ⟨h1, ⟨_, h2⟩ | ⟨t, ht, hb, ho, _⟩⟩ := ptrToRef_valid h.ranges hv
  · rw [h2]; exact ⟨h1, decRef_encRef_none⟩
  · have hsz : (a.bufs.getD t.buf {}).data.length < 2 ^ 32 := h.size_lt t.buf
    have hc : a.bufs.length ≤ 16 := h.count
    rw [ht]; exact ⟨h1, decRef_encRef_some (by omega) (by omega)⟩

theorem save_eq_saveOfAbs (a : Arena) : save a = saveOfAbs (abs a) := by
  unfold save saveOfAbs abs
  simp only [length_bodies_toRefs, bodies_toRefs_lengths]

end YaraModel.Arena
