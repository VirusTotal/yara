/-
  The file-queue model (D11): the classifiers of a program counter that the statements are written with, `step` as a
  relation, the inductive invariant, and its preservation by every atomic action.  The fields of `Inv` by what they are
  about: the mutex (`lockP lockC lockR`); the ring and the FIFO it holds (`head_lt qlen tail_eq ringq wrote`); what a
  consumer inside the critical section has seen (`reading haveRead`); the ledgers of the two semaphores (`unusedEq usedEq
  fink`); the end of the run (`seenEmpty finTodo`); the history variables (`inputEq putEq takenPerm`); `len` is the number
  of consumers.
-/
import YaraModel.Model.Queue
import YaraModel.Lemmas.QueueBasic
namespace YaraModel.Queue
open List (getElem?_set_cases forall_set forall_set_of_ne)
variable {α : Type}

/-- 1 for a consumer in `file_queue_get` that has taken a path out of the ring (advanced `queue_head`) and has not yet
    done `cli_semaphore_release(&unused_slots)`: a slot is free again but its token is still outstanding. -/
def owes : CPc α → Nat
  | .advanced (some _) | .unlocked (some _) => 1
  | _ => 0
/-- `ex`tra token: 1 for a consumer that found `queue_head == queue_tail`, returned NULL and released `unused_slots` all
    the same (`file_queue_get` releases it on both branches): a token of `unused_slots` that no slot stands for. -/
def ex : CPc α → Nat
  | .returned none | .exited => 1
  | _ => 0
/-- `a`cquired `u`sed-slot token: 1 for a consumer that has passed `cli_semaphore_wait(&used_slots)` and has not (yet, or
    ever: the NULL branch) taken a path out of the ring for it: a token of `used_slots` taken, with no dequeue to show
    for it. -/
def au : CPc α → Nat
  | .idle | .advanced (some _) | .unlocked (some _) | .returned (some _) => 0
  | _ => 1
/-- `Z` for zero: the consumer is on the `result = NULL` branch of `file_queue_get` or has left the loop of
    `scanning_thread` -/
def isZ : CPc α → Bool
  | .advanced none | .unlocked none | .returned none | .exited => true
  | _ => false
def cCrit : CPc α → Bool
  | .locked | .reading | .haveRead _ | .advanced _ => true
  | _ => false
def pCrit : PPc α → Bool
  | .locked _ | .wrote _ | .advanced => true
  | _ => false
/-- 1 while `file_queue_put` has passed `cli_semaphore_wait(&unused_slots)` and has not yet advanced `queue_tail`:
    a slot is reserved and not yet counted in the queue -/
def pHold : PPc α → Nat
  | .wantLock _ | .locked _ | .wrote _ => 1
  | _ => 0
/-- 1 while `file_queue_put` has advanced `queue_tail` and has not yet done `cli_semaphore_release(&used_slots)` -/
def pPend : PPc α → Nat
  | .advanced | .unlocked => 1
  | _ => 0
/-- how many of the `cli_semaphore_release(&used_slots)` of the loop in `file_queue_finish` have been done -/
def posted (c : Cfg) : PPc α → Nat
  | .finishing k => c.finishPosts - k
  | .done => c.finishPosts
  | _ => 0
def pFin : PPc α → Bool
  | .finishing _ | .done => true
  | _ => false
/-- the argument of the `file_queue_put` call in progress, until it is in the FIFO -/
def cur : PPc α → List α
  | .wantLock x | .locked x | .wrote x => [x]
  | _ => []
/-- the path a consumer has dequeued and not yet finished scanning -/
def held : CPc α → Option α
  | .advanced r | .unlocked r | .returned r => r
  | _ => none

inductive Fires (c : Cfg) (s : State α) : Act → State α → Prop
  | pWait {x : α} {rest : List α} : s.ppc = .idle → s.todo = x :: rest → 0 < s.unused →
      Fires c s .pWait { s with unused := s.unused - 1, ppc := .wantLock x, todo := rest }
  | pLock {x : α} : s.ppc = .wantLock x → s.lock = none →
      Fires c s .pLock { s with lock := some .prod, ppc := .locked x }
  | pWrite {x : α} : s.ppc = .locked x →
      Fires c s .pWrite { s with ring := updRing s.ring s.tail x, ppc := .wrote x }
  | pAdvTail {x : α} : s.ppc = .wrote x →
      Fires c s .pAdvTail { s with tail := (s.tail + 1) % c.putMod, ppc := .advanced, q := s.q ++ [x], put := s.put ++ [x] }
  | pUnlock : s.ppc = .advanced → Fires c s .pUnlock { s with lock := none, ppc := .unlocked }
  | pPost : s.ppc = .unlocked → Fires c s .pPost { s with used := s.used + 1, ppc := .idle }
  | pFinishBegin : s.ppc = .idle → s.todo = [] → Fires c s .pFinishBegin { s with ppc := .finishing c.finishPosts }
  | pFinishPost {k : Nat} : s.ppc = .finishing (k + 1) →
      Fires c s .pFinishPost { s with used := s.used + 1, ppc := .finishing k }
  | pFinishEnd : s.ppc = .finishing 0 → Fires c s .pFinishEnd { s with ppc := .done }
  | cWait {i : Nat} : s.cs[i]? = some .idle → 0 < s.used →
      Fires c s (.cWait i) { s with used := s.used - 1, cs := s.cs.set i .wantLock }
  | cLock {i : Nat} : s.cs[i]? = some .wantLock → s.lock = none →
      Fires c s (.cLock i) { s with lock := some (.cons i), cs := s.cs.set i .locked }
  | cTestEmpty {i : Nat} : s.cs[i]? = some .locked → s.head = s.tail →
      Fires c s (.cTest i) { s with cs := s.cs.set i (.advanced none) }
  | cTestNonempty {i : Nat} : s.cs[i]? = some .locked → s.head ≠ s.tail →
      Fires c s (.cTest i) { s with cs := s.cs.set i .reading }
  | cRead {i : Nat} : s.cs[i]? = some .reading →
      Fires c s (.cRead i) { s with cs := s.cs.set i (.haveRead (s.ring s.head)) }
  | cAdvHead {i : Nat} {r : Option α} : s.cs[i]? = some (.haveRead r) →
      Fires c s (.cAdvHead i) { s with head := (s.head + 1) % c.getMod, cs := s.cs.set i (.advanced r),
                                       q := s.q.drop 1, taken := s.taken ++ s.q.take 1 }
  | cUnlock {i : Nat} {r : Option α} : s.cs[i]? = some (.advanced r) →
      Fires c s (.cUnlock i) { s with lock := none, cs := s.cs.set i (.unlocked r) }
  | cPost {i : Nat} {r : Option α} : s.cs[i]? = some (.unlocked r) →
      Fires c s (.cPost i) { s with unused := s.unused + 1, cs := s.cs.set i (.returned r) }
  | cReturnFile {i : Nat} {x : α} : s.cs[i]? = some (.returned (some x)) →
      Fires c s (.cReturn i) { s with delivered := s.delivered ++ [x], cs := s.cs.set i .idle }
  | cReturnNull {i : Nat} : s.cs[i]? = some (.returned none) →
      Fires c s (.cReturn i) { s with cs := s.cs.set i .exited }

theorem step_eq_some {c : Cfg} {s s' : State α} {a : Act} : step c s a = some s' ↔ Fires c s a s' := by
  constructor
  · intro hs
    revert hs
    fun_cases step c s a <;> intro hs <;> cases hs <;> constructor <;> assumption
  · intro hf
    cases hf <;> simp only [step, *] <;> rfl

/-- the body of the field `ringq` of `Inv` -/
def Holds (ring : Nat → Option α) (R head : Nat) (q : List α) : Prop :=
  ∀ (k : Nat) (h : k < q.length), ring ((head + k) % R) = some q[k]

theorem holds_write {ring : Nat → Option α} {R head : Nat} {q : List α} (h : Holds ring R head q) (hq : q.length < R)
    (x : α) : Holds (updRing ring ((head + q.length) % R) x) R head q := by
  intro k hk
  have hne : (head + k) % R ≠ (head + q.length) % R := fun e => by
    have := mod_add_inj (by omega) hq e
    omega
  simp only [updRing, hne, if_false]
  exact h k hk

theorem holds_append {ring : Nat → Option α} {R head : Nat} {q : List α} {x : α} (h : Holds ring R head q)
    (hx : ring ((head + q.length) % R) = some x) : Holds ring R head (q ++ [x]) := by
  intro k hk
  by_cases hlt : k < q.length
  · rw [List.getElem_append_left hlt]; exact h k hlt
  · have : k = q.length := by simp only [List.length_append, List.length_singleton] at hk; omega
    subst this
    rw [hx, List.getElem_concat_length rfl]

theorem holds_tail {ring : Nat → Option α} {R head : Nat} {x : α} {rest : List α} (h : Holds ring R head (x :: rest)) :
    Holds ring R ((head + 1) % R) rest := by
  intro k hk
  rw [succ_mod_add]
  exact h (k + 1) (Nat.succ_lt_succ hk)

theorem holds_first {ring : Nat → Option α} {R head : Nat} {x : α} {rest : List α} (h : Holds ring R head (x :: rest))
    (hh : head < R) : ring head = some x := by
  have := h 0 (Nat.zero_lt_succ _)
  rwa [Nat.add_zero, Nat.mod_eq_of_lt hh] at this

structure Inv (c : Cfg) (n : Nat) (input : List α) (s : State α) : Prop where
  len : s.cs.length = n
  lockP : pCrit s.ppc = true ↔ s.lock = some .prod
  lockC : ∀ (i : Nat) (pc : CPc α), s.cs[i]? = some pc → (cCrit pc = true ↔ s.lock = some (.cons i))
  lockR : ∀ (i : Nat), s.lock = some (.cons i) → i < s.cs.length
  head_lt : s.head < c.slots
  qlen : s.q.length + pHold s.ppc ≤ c.unusedInit
  tail_eq : s.tail = (s.head + s.q.length) % c.slots
  ringq : ∀ (k : Nat) (h : k < s.q.length), s.ring ((s.head + k) % c.slots) = some s.q[k]
  wrote : ∀ (x : α), s.ppc = .wrote x → s.ring s.tail = some x
  reading : ∀ (i : Nat), s.cs[i]? = some CPc.reading → s.q ≠ []
  haveRead : ∀ (i : Nat) (r : Option α), s.cs[i]? = some (CPc.haveRead r) → ∃ x rest, s.q = x :: rest ∧ r = some x
  unusedEq : s.unused + s.q.length + pHold s.ppc + wsum owes s.cs = c.unusedInit + wsum ex s.cs
  usedEq : s.used + wsum au s.cs + pPend s.ppc = s.q.length + posted c s.ppc
  fink : ∀ (k : Nat), s.ppc = .finishing k → k ≤ c.finishPosts
  seenEmpty : ∀ (i : Nat) (pc : CPc α), s.cs[i]? = some pc → isZ pc = true → s.q = [] ∧ pFin s.ppc = true
  finTodo : pFin s.ppc = true → s.todo = []
  inputEq : s.put ++ cur s.ppc ++ s.todo = input
  putEq : s.put = s.taken ++ s.q
  takenPerm : s.taken.Perm (s.delivered ++ s.cs.filterMap held)

theorem eq_of_getElem?_replicate {β : Type} {n i : Nat} {a x : β} (h : (List.replicate n a)[i]? = some x) : x = a :=
  List.eq_of_mem_replicate (List.mem_of_getElem? h)

theorem inv_init (c : Cfg) (hc : c.WF) (n : Nat) (input : List α) : Inv c n input (init c n input) := by
  have hz : ∀ (w : CPc α → Nat), w .idle = 0 → wsum w (List.replicate n (CPc.idle : CPc α)) = 0 := fun w hw =>
    wsum_eq_zero _ _ fun x hx => (List.eq_of_mem_replicate hx) ▸ hw
  have hfm : (List.replicate n (CPc.idle : CPc α)).filterMap held = [] :=
    List.filterMap_eq_nil_iff.2 fun x hx => (List.eq_of_mem_replicate hx) ▸ rfl
  exact {
    len := List.length_replicate
    lockP := ⟨nofun, nofun⟩
    lockC := fun i pc h => eq_of_getElem?_replicate h ▸ ⟨nofun, nofun⟩
    lockR := nofun
    head_lt := Nat.lt_of_le_of_lt (Nat.zero_le _) hc.cap_lt
    qlen := Nat.zero_le _
    tail_eq := (Nat.zero_mod _).symm
    ringq := nofun
    wrote := nofun
    reading := fun i h => nomatch eq_of_getElem?_replicate h
    haveRead := fun i r h => nomatch eq_of_getElem?_replicate h
    unusedEq := by simp only [init, hz owes rfl, hz ex rfl, pHold, List.length_nil, Nat.add_zero]
    usedEq := by simp only [init, hz au rfl, hc.used0, pPend, posted, List.length_nil, Nat.add_zero]
    fink := nofun
    seenEmpty := fun i pc h hzz => nomatch (eq_of_getElem?_replicate h ▸ hzz : isZ (CPc.idle : CPc α) = true)
    finTodo := nofun
    inputEq := List.nil_append _
    putEq := rfl
    takenPerm := by simp only [init, hfm, List.append_nil]; exact List.Perm.refl _ }

theorem ex_isZ (pc : CPc α) : ex pc = 0 ∨ isZ pc = true := by
  cases pc with
  | returned r => cases r <;> simp [ex, isZ]
  | _ => simp [ex, isZ]

theorem au_le_one (pc : CPc α) : au pc ≤ 1 := by
  cases pc with
  | advanced r => cases r <;> simp [au]
  | unlocked r => cases r <;> simp [au]
  | returned r => cases r <;> simp [au]
  | _ => simp [au]

theorem ex_zero_of_notFin {c : Cfg} {n : Nat} {input : List α} {s : State α} (h : Inv c n input s) (hp : pFin s.ppc = false) :
    wsum ex s.cs = 0 := by
  apply wsum_eq_zero
  intro x hx
  obtain ⟨i, hi⟩ := List.mem_iff_getElem?.1 hx
  rcases ex_isZ x with h0 | hz
  · exact h0
  · have := (h.seenEmpty i x hi hz).2
    rw [hp] at this
    cases this

theorem q_lt_slots {c : Cfg} {n : Nat} {input : List α} {s : State α} (hc : c.WF) (h : Inv c n input s) :
    s.q.length < c.slots := by
  have := h.qlen; have := hc.cap_lt; omega

theorem posted_pos_pFin (c : Cfg) (p : PPc α) (h : 0 < posted c p) : pFin p = true := by
  cases p <;> simp_all [posted, pFin]

/-- The test `queue_head == queue_tail` of `file_queue_get` decides emptiness: the ring has a slot more than the queue
    may hold (`cap_lt`), so a full queue does not look empty. -/
theorem head_eq_tail_iff {c : Cfg} {n : Nat} {input : List α} {s : State α} (hc : c.WF) (h : Inv c n input s) :
    s.head = s.tail ↔ s.q = [] := by
  rw [h.tail_eq]
  constructor
  · exact fun e => List.eq_nil_of_length_eq_zero (mod_add_eq_self h.head_lt (q_lt_slots hc h) e.symm)
  · exact fun e => e ▸ (Nat.mod_eq_of_lt h.head_lt).symm

/-- default treatment of the consumer-indexed fields after `cs := cs.set i pc'` -/
macro "cons_close" h:ident hi:ident s1:ident s2:ident s3:ident : tactic => `(tactic| (
  all_goals try (case len => (dsimp only; rw [List.length_set]; exact ($h).len))
  all_goals try (case lockC =>
    (intro j pc hj; dsimp only at hj ⊢; have hl := ($h).lockC _ _ $hi
     rcases getElem?_set_cases hj with ⟨e1, e2⟩ | ⟨hne, hj'⟩
     · subst e1 e2; simp_all [cCrit]
     · have := ($h).lockC j pc hj'; simp_all [cCrit]))
  all_goals try (case lockR =>
    (intro j hj; dsimp only at hj ⊢; rw [List.length_set]; exact ($h).lockR j hj))
  all_goals try (case reading =>
    (intro j hj; dsimp only at hj ⊢
     rcases getElem?_set_cases hj with ⟨e1, e⟩ | ⟨hne, hj'⟩
     · cases e
     · exact ($h).reading j hj'))
  all_goals try (case haveRead =>
    (intro j r hj; dsimp only at hj ⊢
     rcases getElem?_set_cases hj with ⟨e1, e⟩ | ⟨hne, hj'⟩
     · cases e
     · exact ($h).haveRead j r hj'))
  all_goals try (case unusedEq =>
    (dsimp only; simp only [owes, ex, au] at $s1:ident $s2:ident $s3:ident; have := ($h).unusedEq; omega))
  all_goals try (case usedEq =>
    (dsimp only; simp only [owes, ex, au] at $s1:ident $s2:ident $s3:ident; have := ($h).usedEq; omega))
  all_goals try (case seenEmpty =>
    (intro j pc hj hz; dsimp only at hj ⊢
     rcases getElem?_set_cases hj with ⟨e1, e2⟩ | ⟨hne, hj'⟩
     · subst e1 e2
       first | (simp [isZ] at hz; done) | exact ($h).seenEmpty _ _ $hi rfl
     · exact ($h).seenEmpty j pc hj' hz))
  all_goals try (case takenPerm =>
    (dsimp only; rw [filterMap_set_same held _ _ _ _ $hi (by simp [held])]; exact ($h).takenPerm))))

/-- The frame for a consumer's move (every consumer rule but `cAdvHead`).  A row of `inv_fires` gives the hypotheses by
    position, in three groups, each starting a line: `pc'` with `hlk hcrit` (for `lockP lockC lockR`); `hread hhave hz`
    (`reading haveRead seenEmpty`); `hun hus hdel` (`unusedEq usedEq takenPerm`).  Where `pc` and `pc'` lie on the same
    side of the critical section, `hcrit` is `h.lockC i _ hi`: `cCrit` evaluates alike on both. -/
theorem inv_cons_move {c : Cfg} {n : Nat} {input : List α} {s : State α} {i : Nat} {pc : CPc α}
    (h : Inv c n input s) (hi : s.cs[i]? = some pc) (pc' : CPc α) {used' unused' : Nat} {lock' : Option Tid}
    {delivered' : List α}
    (hlk : ∀ t, t ≠ .cons i → (lock' = some t ↔ s.lock = some t))
    (hcrit : cCrit pc' = true ↔ lock' = some (.cons i))
    (hread : pc' = .reading → s.q ≠ [])
    (hhave : ∀ r, pc' = .haveRead r → ∃ x rest, s.q = x :: rest ∧ r = some x)
    (hz : isZ pc' = true → s.q = [] ∧ pFin s.ppc = true)
    (hun : unused' + owes pc' + ex pc = s.unused + owes pc + ex pc')
    (hus : used' + au pc' = s.used + au pc)
    (hdel : (delivered' ++ (held pc').toList).Perm (s.delivered ++ (held pc).toList)) :
    Inv c n input
      { s with used := used', unused := unused', lock := lock', cs := s.cs.set i pc', delivered := delivered' } :=
  { h with
    len := List.length_set.trans h.len
    lockP := h.lockP.trans (hlk .prod nofun).symm
    lockC := forall_set_of_ne
      (fun j pcj hne hj => (h.lockC j pcj hj).trans (hlk _ fun e => hne (Tid.cons.inj e)).symm) hcrit
    lockR := fun j hj => List.length_set.symm ▸
      if e : j = i then e ▸ (List.getElem?_eq_some_iff.1 hi).1
      else h.lockR j ((hlk _ fun e' => e (Tid.cons.inj e')).1 hj)
    reading := fun j hj => (getElem?_set_cases hj).elim (fun e => hread e.2.symm) (fun e => h.reading j e.2)
    haveRead := fun j r hj => (getElem?_set_cases hj).elim (fun e => hhave r e.2.symm) (fun e => h.haveRead j r e.2)
    unusedEq := by
      have := wsum_set owes hi pc'
      have := wsum_set ex hi pc'
      have := h.unusedEq
      dsimp only
      omega
    usedEq := by
      have := wsum_set au hi pc'
      have := h.usedEq
      dsimp only
      omega
    seenEmpty := forall_set h.seenEmpty hz
    takenPerm := by
      -- with the old entry's path appended on both sides the two exchanges apply; then cancel it
      refine (List.perm_append_right_iff (held pc).toList).1 ?_
      have e1 : (s.delivered ++ s.cs.filterMap held ++ (held pc).toList).Perm
          (s.delivered ++ (held pc).toList ++ s.cs.filterMap held) := by
        rw [List.append_assoc, List.append_assoc]
        exact List.perm_append_comm.append_left _
      have e2 := (filterMap_set held hi pc').symm.append_left delivered'
      rw [← List.append_assoc, ← List.append_assoc] at e2
      exact (h.takenPerm.append_right _).trans (e1.trans ((hdel.symm.append_right _).trans e2)) }

/-- The invariant with the known values of the producer's pc, its work list and the lock holder written into
    the state: with them in place, every field whose classifiers evaluate alike before and after a rule is
    literally the old field. -/
theorem inv_known {c : Cfg} {n : Nat} {input : List α} {s : State α} {p : PPc α} {t : List α} {l : Option Tid}
    (h : Inv c n input s) (hp : s.ppc = p) (ht : s.todo = t) (hl : s.lock = l) :
    Inv c n input { s with ppc := p, todo := t, lock := l } := by
  subst hp ht hl
  exact h

/-- After the case split the target state is the record update of the rule, so a field of `Inv` that reads only
    components the rule leaves alone is inherited as it stands; the fields listed in a producer's case are the ones the
    rule touches.  A consumer's case is a row of `inv_cons_move`, except `cAdvHead`, which moves the queue itself. -/
theorem inv_fires {c : Cfg} {n : Nat} {input : List α} {s s' : State α} {a : Act} (hc : c.WF) (h : Inv c n input s)
    (hf : Fires c s a s') : Inv c n input s' := by
  cases hf with
  | @pWait x rest hp ht hu =>
    have h' := inv_known h hp ht rfl
    have hex : wsum ex s.cs = 0 := ex_zero_of_notFin h (by rw [hp]; rfl)
    have hun := h.unusedEq
    simp only [hp, pHold] at hun
    exact { h' with
      -- the ring does not overflow: by the ledger `hun` of `unused_slots`, a token in hand (`hu`) and no surplus token
      -- before `finish` (`hex`) give `q.length + owes < unusedInit`
      qlen := by simp only [pHold]; omega
      wrote := nofun
      unusedEq := by simp only [pHold]; omega
      fink := nofun
      finTodo := nofun
      inputEq := by simpa [cur] using h'.inputEq }
  | @pLock x hp hl =>
    have h' := inv_known h hp rfl hl
    exact { h' with
      lockP := ⟨fun _ => rfl, fun _ => rfl⟩
      lockC := fun i pc hi => (h'.lockC i pc hi).trans ⟨nofun, nofun⟩
      lockR := nofun
      wrote := nofun
      fink := nofun }
  | @pWrite x hp =>
    have h' := inv_known h hp rfl rfl
    exact { h' with
      ringq := by rw [h.tail_eq]; exact holds_write h.ringq (q_lt_slots hc h) x
      wrote := fun y e => by cases e; simp only [updRing, if_true]
      fink := nofun }
  | @pAdvTail x hp =>
    have h' := inv_known h hp rfl rfl
    have hq := h.qlen
    have hun := h.unusedEq
    have hus := h.usedEq
    simp only [hp, pHold, pPend, posted] at hun hus hq
    have hlen : (s.q ++ [x]).length = s.q.length + 1 := List.length_append
    exact { h' with
      qlen := by simp only [pHold, hlen]; omega
      tail_eq := by simp only [hc.putMod_eq, h.tail_eq, Nat.mod_add_mod, hlen, Nat.add_assoc]
      ringq := holds_append h.ringq (h.tail_eq ▸ h.wrote x hp)
      wrote := nofun
      reading := fun i hi => List.append_ne_nil_of_left_ne_nil (h.reading i hi) _
      haveRead := fun i r hi => by
        obtain ⟨y, rest, hq, hr⟩ := h.haveRead i r hi
        exact ⟨y, rest ++ [x], by rw [hq]; rfl, hr⟩
      unusedEq := by simp only [pHold, hlen]; omega
      usedEq := by simp only [pPend, posted, hlen]; omega
      fink := nofun
      seenEmpty := fun i pc hi hz => nomatch (h'.seenEmpty i pc hi hz).2
      inputEq := by simpa [cur] using h'.inputEq
      putEq := by simp only [h.putEq, List.append_assoc] }
  | pUnlock hp =>
    have h' := inv_known h hp rfl (h.lockP.1 (by rw [hp]; rfl))
    exact { h' with
      lockP := ⟨nofun, nofun⟩
      lockC := fun i pc hi => (h'.lockC i pc hi).trans ⟨nofun, nofun⟩
      lockR := nofun
      wrote := nofun
      fink := nofun }
  | pPost hp =>
    have h' := inv_known h hp rfl rfl
    have hus := h.usedEq
    simp only [hp, pPend, posted] at hus
    exact { h' with
      wrote := nofun
      usedEq := by simp only [pPend, posted]; omega
      fink := nofun }
  | pFinishBegin hp ht =>
    have h' := inv_known h hp rfl rfl
    have hus := h.usedEq
    simp only [hp, pPend, posted] at hus
    exact { h' with
      wrote := nofun
      usedEq := by simp only [pPend, posted, Nat.sub_self]; exact hus
      fink := fun k e => by cases e; exact Nat.le_refl _
      seenEmpty := fun i pc hi hz => nomatch (h'.seenEmpty i pc hi hz).2
      finTodo := fun _ => ht }
  | @pFinishPost k hp =>
    have h' := inv_known h hp rfl rfl
    have hk := h.fink _ hp
    have hus := h.usedEq
    simp only [hp, pPend, posted] at hus
    exact { h' with
      wrote := nofun
      usedEq := by simp only [pPend, posted]; omega
      fink := fun k' e => by cases e; omega }
  | pFinishEnd hp =>
    have h' := inv_known h hp rfl rfl
    exact { h' with
      wrote := nofun
      fink := nofun }
  | @cWait i hi hu =>
    exact inv_cons_move h hi .wantLock (fun _ _ => .rfl) (h.lockC i _ hi :)
      nofun nofun nofun
      rfl (Nat.sub_add_cancel hu) (.refl _)
  | @cLock i hi hl =>
    exact inv_cons_move h hi .locked (fun t ht => hl ▸ ⟨fun e => absurd (Option.some.inj e).symm ht, nofun⟩)
      ⟨fun _ => rfl, fun _ => rfl⟩
      nofun nofun nofun
      rfl rfl (.refl _)
  | @cTestEmpty i hi he =>
    -- head = tail only if the queue is empty; the token this consumer holds is then one of `finish`
    have hq : s.q = [] := (head_eq_tail_iff hc h).1 he
    have hfin : pFin s.ppc = true := posted_pos_pFin c _ (by
      have := wsum_ge au _ _ _ hi
      have := h.usedEq
      simp only [au, hq, List.length_nil] at *
      omega)
    exact inv_cons_move h hi (.advanced none) (fun _ _ => .rfl) (h.lockC i _ hi :)
      nofun nofun (fun _ => ⟨hq, hfin⟩)
      rfl rfl (.refl _)
  | @cTestNonempty i hi hne =>
    exact inv_cons_move h hi .reading (fun _ _ => .rfl) (h.lockC i _ hi :)
      (fun _ => mt (head_eq_tail_iff hc h).2 hne) nofun nofun
      rfl rfl (.refl _)
  | @cRead i hi =>
    obtain ⟨x, rest, hq⟩ := List.exists_cons_of_ne_nil (h.reading i hi)
    have hx : s.ring s.head = some x := holds_first (hq ▸ h.ringq) h.head_lt
    exact inv_cons_move h hi (.haveRead (s.ring s.head)) (fun _ _ => .rfl) (h.lockC i _ hi :)
      nofun (fun r e => ⟨x, rest, hq, (CPc.haveRead.inj e).symm.trans hx⟩) nofun
      rfl rfl (.refl _)
  | @cAdvHead i r hi =>
    obtain ⟨x, rest, hq, rfl⟩ := h.haveRead i r hi
    have ho := wsum_set owes hi (.advanced (some x))
    have he := wsum_set ex hi (.advanced (some x))
    have ha := wsum_set au hi (.advanced (some x))
    simp only [owes, ex, au] at ho he ha
    have hl : s.lock = some (.cons i) := (h.lockC i _ hi).1 rfl
    have others : ∀ (j : Nat) (pc : CPc α), (s.cs.set i (.advanced (some x)))[j]? = some pc → cCrit pc = true →
        pc = .advanced (some x) := fun j pc hj hcrit =>
      (getElem?_set_cases hj).elim (fun e => e.2) (fun e => by
        have := (h.lockC j pc e.2).1 hcrit
        rw [hl] at this
        exact absurd (Tid.cons.inj (Option.some.inj this)).symm e.1)
    have hlen : s.q.length = rest.length + 1 := by rw [hq]; rfl
    have hdrop : s.q.drop 1 = rest := by rw [hq]; rfl
    have htake : s.q.take 1 = [x] := by rw [hq]; rfl
    have hqlen := h.qlen
    have hun := h.unusedEq
    have hus := h.usedEq
    exact { h with
      len := List.length_set.trans h.len
      lockC := forall_set h.lockC (h.lockC i (.haveRead (some x)) hi)
      lockR := fun j hj => Nat.lt_of_lt_of_eq (h.lockR j hj) List.length_set.symm
      head_lt := by dsimp only; rw [hc.getMod_eq]; exact Nat.mod_lt _ (Nat.zero_lt_of_lt h.head_lt)
      qlen := by dsimp only; rw [hdrop]; omega
      tail_eq := by dsimp only; rw [hc.getMod_eq, hdrop, succ_mod_add, h.tail_eq, hlen]
      ringq := by dsimp only; rw [hc.getMod_eq, hdrop]; exact holds_tail (hq ▸ h.ringq)
      reading := fun j hj => nomatch others j _ hj rfl
      haveRead := fun j r hj => nomatch others j _ hj rfl
      unusedEq := by dsimp only; rw [hdrop]; omega
      usedEq := by dsimp only; rw [hdrop]; omega
      seenEmpty := forall_set_of_ne
        (fun j pc _ hj hz => by have := (h.seenEmpty j pc hj hz).1; rw [hq] at this; cases this) nofun
      putEq := by dsimp only; rw [hdrop, htake, h.putEq, hq, List.append_assoc]; rfl
      takenPerm := by
        dsimp only
        rw [htake]
        have hp : ((s.cs.set i (.advanced (some x))).filterMap held).Perm (x :: s.cs.filterMap held) :=
          (List.Perm.of_eq (List.append_nil _).symm).trans (filterMap_set held hi (.advanced (some x)))
        exact (List.perm_append_singleton ..).trans
          ((h.takenPerm.cons x).trans (List.perm_middle.symm.trans (hp.symm.append_left _))) }
  | @cUnlock i r hi =>
    have hl : s.lock = some (.cons i) := (h.lockC i _ hi).1 rfl
    exact inv_cons_move h hi (.unlocked r) (fun t ht => hl ▸ ⟨nofun, fun e => absurd (Option.some.inj e).symm ht⟩)
      ⟨nofun, nofun⟩
      nofun nofun (fun hz => h.seenEmpty i _ hi (by cases r <;> exact hz))
      (by cases r <;> rfl) (by cases r <;> rfl) (.refl _)
  | @cPost i r hi =>
    -- an empty wake-up is counted in `ex` from now on, a dequeued path no longer in `owes`
    exact inv_cons_move h hi (.returned r) (fun _ _ => .rfl) (h.lockC i _ hi :)
      nofun nofun (fun hz => h.seenEmpty i _ hi (by cases r <;> exact hz))
      (by cases r <;> rfl) (by cases r <;> rfl) (.refl _)
  | @cReturnFile i x hi =>
    exact inv_cons_move h hi .idle (fun _ _ => .rfl) (h.lockC i _ hi :)
      nofun nofun nofun
      rfl rfl (.of_eq (List.append_nil _))
  | @cReturnNull i hi =>
    exact inv_cons_move h hi .exited (fun _ _ => .rfl) (h.lockC i _ hi :)
      nofun nofun (fun _ => h.seenEmpty i _ hi rfl)
      rfl rfl (.refl _)

theorem inv_step {c : Cfg} {n : Nat} {input : List α} {s s' : State α} (hc : c.WF) (h : Inv c n input s)
    (a : Act) (hs : step c s a = some s') : Inv c n input s' :=
  inv_fires hc h (step_eq_some.1 hs)

theorem inv_reachable {c : Cfg} {n : Nat} {input : List α} {s : State α} (hc : c.WF)
    (hr : Reachable c n input s) : Inv c n input s := by
  induction hr with
  | init => exact inv_init c hc n input
  | step _ hs ih => obtain ⟨a, ha⟩ := hs; exact inv_step hc ih a ha

end YaraModel.Queue
