/-
  Verification starts at the atom: `_yr_scan_verify_re_match` runs the FORWARD code from the instruction of the atom's first
  node (forward_code_ref, `holePos`) and the backward code from the code that follows that node's backward instruction
  (backward_code_ref, `bwdPos`).  For the loop-free contexts of hex strings (the hole lies under concatenations and
  alternatives only) the lengths these two runs report are the parts of a match after and before the node.
-/
import YaraModel.Lemmas.ReDir
import YaraModel.Lemmas.ReLower
import YaraModel.Lemmas.ReIrStep
namespace YaraModel.ReEmit
open YaraModel.Re YaraModel.ReVm

-- what soundness asks of a context (completeness asks `CtxS`, Lemmas/ReCompleteAtom.lean)
def HexCtx : Ctx → Prop
  | .hole => True
  | .catL c r => HexCtx c ∧ WF r
  | .catR l c => WF l ∧ HexCtx c
  | .altL c r => HexCtx c ∧ WF r
  | .altR l c => WF l ∧ HexCtx c
  | .plusIn _ _ => False

/-- forward code address of the hole when the code of `c.fill x` starts at `a` -/
def holePos : Ctx → Nat → Nat
  | .hole, a => a
  | .catL c _, a => holePos c a
  | .catR l c, a => holePos c (a + clen (lower l))
  | .altL c _, a => holePos c (a + 4)
  | .altR l c, a => holePos c (a + 4 + clen (lower l) + 3)
  | .plusIn c _, a => holePos c a

/-- the RE nodes atoms begin at -/
def AtomLeaf (x : Re) : Prop := (∃ b, x = .lit b) ∨ (∃ v m, x = .masked v m) ∨ x = .any

theorem lower_atomLeaf {x : Re} (h : AtomLeaf x) : lower x = .leaf x := by
  rcases h with ⟨b, rfl⟩ | ⟨v, m, rfl⟩ | rfl <;> rfl

theorem rev_atomLeaf {x : Re} (h : AtomLeaf x) : rev x = x := by
  rcases h with ⟨b, rfl⟩ | ⟨v, m, rfl⟩ | rfl <;> rfl

theorem atomLeaf_wf {x : Re} (h : AtomLeaf x) : WF x := by
  rcases h with ⟨b, rfl⟩ | ⟨v, m, rfl⟩ | rfl
  · exact .lit b
  · exact .masked v m
  · exact .any

theorem fill_wf {x : Re} (hx : WF x) : ∀ {c : Ctx}, HexCtx c → WF (c.fill x)
  | .hole, _ => hx
  | .catL _ _, h => .cat (fill_wf hx h.1) h.2
  | .catR _ _, h => .cat h.1 (fill_wf hx h.2)
  | .altL _ _, h => .alt (fill_wf hx h.1) h.2
  | .altR _ _, h => .alt h.1 (fill_wf hx h.2)
  | .plusIn _ _, h => h.elim

def revCtx : Ctx → Ctx
  | .hole => .hole
  | .catL c r => .catR (rev r) (revCtx c)
  | .catR l c => .catL (revCtx c) (rev l)
  | .altL c r => .altL (revCtx c) (rev r)
  | .altR l c => .altR (rev l) (revCtx c)
  | .plusIn c g => .plusIn (revCtx c) g

theorem rev_fill {x : Re} (hx : rev x = x) : ∀ c : Ctx, rev (c.fill x) = (revCtx c).fill x
  | .hole => hx
  | .catL c r => by simp only [revCtx, Ctx.fill, rev, rev_fill hx c]
  | .catR l c => by simp only [revCtx, Ctx.fill, rev, rev_fill hx c]
  | .altL c r => by simp only [revCtx, Ctx.fill, rev, rev_fill hx c]
  | .altR l c => by simp only [revCtx, Ctx.fill, rev, rev_fill hx c]
  | .plusIn c g => by simp only [revCtx, Ctx.fill, rev, rev_fill hx c]

theorem hexCtx_rev : ∀ {c : Ctx}, HexCtx c → HexCtx (revCtx c)
  | .hole, _ => trivial
  | .catL _ _, h => ⟨rev_wf h.2, hexCtx_rev h.1⟩
  | .catR _ _, h => ⟨hexCtx_rev h.2, rev_wf h.1⟩
  | .altL _ _, h => ⟨hexCtx_rev h.1, rev_wf h.2⟩
  | .altR _ _, h => ⟨rev_wf h.1, hexCtx_rev h.2⟩
  | .plusIn _ _, h => h.elim

/-- address just after the hole's instruction in the code of the mirrored pattern `rev (c.fill x)` placed at `a` -/
def bwdPos (x : Re) : Ctx → Nat → Nat
  | .hole, a => a + leafLen x
  | .catL c r, a => bwdPos x c (a + clen (lower (rev r)))
  | .catR _ c, a => bwdPos x c a
  | .altL c _, a => bwdPos x c (a + 4)
  | .altR l c, a => bwdPos x c (a + 4 + clen (lower (rev l)) + 3)
  | .plusIn c _, a => bwdPos x c a

theorem holePos_rev (x : Re) : ∀ (c : Ctx) (a : Nat), holePos (revCtx c) a + leafLen x = bwdPos x c a
  | .hole, _ => rfl
  | .catL c _, _ => holePos_rev x c _
  | .catR _ c, _ => holePos_rev x c _
  | .altL c _, _ => holePos_rev x c _
  | .altR _ c, _ => holePos_rev x c _
  | .plusIn c _, _ => holePos_rev x c _

theorem rev_after {x : Re} (hx : rev x = x) : ∀ c : Ctx, rev ((revCtx c).after x) = c.before x
  | .hole => rfl
  | .catL c _ => rev_after hx c
  | .catR l c => by simp only [revCtx, Ctx.after, Ctx.before, rev, rev_rev, rev_after hx c]
  | .altL c _ => rev_after hx c
  | .altR _ c => rev_after hx c
  | .plusIn c g => by simp only [revCtx, Ctx.after, Ctx.before, rev, ← rev_fill hx, rev_rev, rev_after hx c]

section
variable {code : Code} {x : Re}

theorem holePos_range (hx : AtomLeaf x) : ∀ {c : Ctx}, HexCtx c → ∀ {a b : Nat}, Seg code (lower (c.fill x)) a b →
    a ≤ holePos c a ∧ holePos c a + leafLen x ≤ b
  | .hole, _, a, b, hs => by
    simp only [Ctx.fill, lower_atomLeaf hx] at hs
    have := hs.len; simp only [clen] at this
    simp only [holePos]; omega
  | .catL c r, h, a, b, hs => by
    obtain ⟨h1, h2⟩ := Seg.cat_inv hs
    have ih := holePos_range hx h.1 h1
    exact ⟨ih.1, Nat.le_trans ih.2 h2.le⟩
  | .catR l c, h, a, b, hs => by
    have ih := holePos_range hx h.2 (Seg.cat_inv hs).2
    exact ⟨Nat.le_trans (Nat.le_add_right _ _) ih.1, ih.2⟩
  | .altL c r, h, a, b, hs => by
    have h1 := hs.alt_fst
    have h2 := hs.alt_snd
    have ih := holePos_range hx h.1 h1
    exact ⟨Nat.le_trans (Nat.le_add_right _ _) ih.1, Nat.le_trans ih.2 (Nat.le_trans (Nat.le_add_right _ _) h2.le)⟩
  | .altR l c, h, a, b, hs => by
    have ih := holePos_range hx h.2 hs.alt_snd
    exact ⟨Nat.le_trans (Nat.le_trans (Nat.le_trans (Nat.le_add_right _ _) (Nat.le_add_right _ _)) (Nat.le_add_right _ _)) ih.1, ih.2⟩
  | .plusIn _ _, h, _, _, _ => h.elim

/-- both entry points are valid machine states (or the end of the code).  `Valid` / `lang` take: code start, stack depth,
    (`lang`: `K`,) `ip`, spin count (-1: none), counter stack, mode -/
theorem valid_in_ctx (hx : AtomLeaf x) : ∀ {c : Ctx}, HexCtx c → ∀ {a b B : Nat} (s : List Nat), s.length = B →
    Seg code (lower (c.fill x)) a b → ∀ {ip : Nat}, ip = holePos c a ∨ ip = holePos c a + leafLen x →
    Valid (lower (c.fill x)) a B ip (-1) s .run ∨ ip = b
  | .hole, _, a, b, B, s, hB, hs, ip, hip => by
    simp only [Ctx.fill, lower_atomLeaf hx] at hs ⊢
    have := hs.len; simp only [clen] at this
    rcases hip with rfl | rfl
    · exact .inl ⟨rfl, rfl, rfl, hB⟩
    · exact .inr this.symm
  | .catL c r, h, a, b, B, s, hB, hs, ip, hip => by
    obtain ⟨h1, h2⟩ := Seg.cat_inv hs
    rcases valid_in_ctx hx h.1 s hB h1 hip with h' | rfl
    · exact .inl (.inl h')
    · exact (entry_ok h2 B s hB).imp_left .inr
  | .catR l c, h, a, b, B, s, hB, hs, ip, hip =>
    (valid_in_ctx hx h.2 s hB (Seg.cat_inv hs).2 hip).imp_left .inr
  | .altL c r, h, a, b, B, s, hB, hs, ip, hip => by
    have h1 := hs.alt_fst
    rcases valid_in_ctx hx h.1 s hB h1 hip with h' | h'
    · exact .inl (.inr (.inl h'))
    · exact .inl (.inr (.inr (.inl ⟨h', rfl, rfl, hB⟩)))
  | .altR l c, h, a, b, B, s, hB, hs, ip, hip =>
    (valid_in_ctx hx h.2 s hB hs.alt_snd hip).imp_left fun h' => .inr (.inr (.inr h'))
  | .plusIn _ _, h, _, _, _, _, _, _, _, _ => h.elim

/-- what the states at and just behind the hole's instruction accept in the whole code: what they accept in the one-instruction
    segment (the node, or nothing), then the rest of the pattern after the hole, then the continuation.  `ip` ranges over the
    two entry points: the node's instruction (forward run) and the address behind it (backward run, in the mirrored code);
    the siblings of the context are read through `M`, which `hM`, `heps`, `hcat` tie to the run's `L`. -/
theorem lang_in_ctx {L M : Re → Nat → Nat → Prop} (hM : ∀ {r q t}, WF r → IrM L (lower r) q t → M r q t)
    (heps : ∀ q, M .empty q q) (hcat : ∀ {a b q u t}, M a q u → M b u t → M (.cat a b) q t) (hx : AtomLeaf x) :
    ∀ {c : Ctx}, HexCtx c → ∀ {a b B : Nat} (K : Lang) (s : List Nat) (q q' : Nat), s.length = B →
    Seg code (lower (c.fill x)) a b → ∀ {ip : Nat}, holePos c a ≤ ip → ip ≤ holePos c a + leafLen x →
    lang L (lower (c.fill x)) a B K ip (-1) s .run q q' →
    ∃ e t, lang L (.leaf x) (holePos c a) B Keps ip (-1) s .run q e ∧ M (c.after x) e t ∧ K t q'
  | .hole, _, a, b, B, K, s, q, q', _, hs, ip, _, _, hl => by
    simp only [Ctx.fill, lower_atomLeaf hx] at hl
    show ∃ e t, lang L (.leaf x) a B Keps ip (-1) s .run q e ∧ M .empty e t ∧ K t q'
    simp only [lang] at hl ⊢
    split at hl
    · obtain ⟨t, h1, h2⟩ := hl
      exact ⟨t, t, by rw [if_pos ‹_›]; exact ⟨t, h1, rfl⟩, heps t, h2⟩
    · exact ⟨q, q, by rw [if_neg ‹_›]; rfl, heps q, hl⟩
  | .catL c r, h, a, b, B, K, s, q, q', hB, hs, ip, h0, h1, hl => by
    obtain ⟨s1, s2⟩ := Seg.cat_inv hs
    simp only [Ctx.fill, lower, holePos] at hl h0 h1 ⊢
    -- the hole may be the last instruction of the left part: the address behind it is then the END of that part (`≤`, not `<`)
    rw [lang_cat_fst (Nat.le_trans h1 (holePos_range hx h.1 s1).2) fun _ => ⟨rfl, rfl, hB⟩] at hl
    obtain ⟨e, t, k1, k2, k3⟩ := lang_in_ctx hM heps hcat hx h.1 _ s q q' hB s1 h0 h1 hl
    obtain ⟨t2, k4, k5⟩ := lang_entry _ s2 B K _ _ _ k3
    exact ⟨e, t2, k1, hcat k2 (hM h.2 k4), k5⟩
  | .catR l c, h, a, b, B, K, s, q, q', hB, hs, ip, h0, h1, hl => by
    have s2 := (Seg.cat_inv hs).2
    simp only [Ctx.fill, lower, holePos] at hl h0 h1 ⊢
    rw [lang_cat_snd (Nat.le_trans (holePos_range hx h.2 s2).1 h0)] at hl
    exact lang_in_ctx hM heps hcat hx h.2 K s q q' hB s2 h0 h1 hl
  | .altL c r, h, a, b, B, K, s, q, q', hB, hs, ip, h0, h1, hl => by
    have s1 := hs.alt_fst
    have hr := holePos_range hx h.1 s1
    simp only [Ctx.fill, lower, holePos] at hl h0 h1 ⊢
    rw [lang_alt_fst (Nat.le_trans hr.1 h0) (Nat.le_trans h1 hr.2)] at hl
    exact lang_in_ctx hM heps hcat hx h.1 K s q q' hB s1 h0 h1 hl
  | .altR l c, h, a, b, B, K, s, q, q', hB, hs, ip, h0, h1, hl => by
    have s2 := hs.alt_snd
    simp only [Ctx.fill, lower, holePos] at hl h0 h1 ⊢
    rw [lang_alt_snd (Nat.le_trans (holePos_range hx h.2 s2).1 h0)] at hl
    exact lang_in_ctx hM heps hcat hx h.2 K s q q' hB s2 h0 h1 hl
  | .plusIn _ _, h, _, _, _, _, _, _, _, _, _, _, _, _, _ => h.elim

end

/-- a run of the code of `r'` entered at any valid machine state; its twin for the entry state is `exec_irm` (Lemmas/ReEmit.lean,
    not imported here) -/
theorem exec_lang (e : Env) (D : Dir e) {r' : Re} (hwf : WF r') (hsz : (emit false r' 0).1.length < 32000)
    (hcode : e.code = ((emit false r' 0).1 ++ [0xAD]).toArray)
    (hstart : ∀ {n}, Seg e.code (lower r') 0 n → ValidF (lower r') 0 0 { ip := e.entry } .run ∨ AtEnd n 0 { ip := e.entry } .run)
    (hsc : e.fl.scan = false) {m : Int} {cl : List Nat} (h : exec e = .done m cl) :
    Reports m cl fun L => D.ok L ∧ lang D.L (lower r') 0 0 Keps e.entry (-1) [] .run 0 L := by
  obtain ⟨_, hseg, hmatch⟩ := emitted_seg hwf hsz hcode
  refine Reports.imp (exec_sound e m cl h) fun L ⟨f, md, hr, hm⟩ => ?_
  obtain ⟨s0, _, k2, k3, k4⟩ := match_lang_at e D hseg hmatch (hstart hseg) hr hm
  rw [k3 hsc] at k4
  exact ⟨k2, k4⟩

/-- **Forward verification from the atom.**  The forward code of a pattern `c.fill x` entered at the instruction of the node
    `x` (a byte / masked byte / `??` under concatenations and alternatives — every atom position of a hex string): every
    length L the model of `yr_re_exec` reports is a match of `x` at the start position followed by the rest of the pattern
    after `x`, ending at start + L. -/
theorem vm_sound_from_atom_fwd (c : Ctx) (hc : HexCtx c) (x : Re) (hx : AtomLeaf x) (hsz : (emit false (c.fill x) 0).1.length < 32000)
    (buf : Bytes) (start : Nat) (hst : start ≤ buf.size) (fl : VmFlags) (hb : fl.backwards = false) (hsc : fl.scan = false)
    (fuel : Nat) (m : Int) (cl : List Nat)
    (h : exec { code := (emitCode false (c.fill x)).toArray, entry := holePos c 0, buf := buf, start := start, fl := fl, syncFuel := fuel } = .done m cl) :
    Reports m cl fun L => ∃ e, Re.Matches (specFlagsG fl) buf x start (start + e) ∧ c.After (specFlagsG fl) buf x (start + e) (start + L) := by
  have hwf := fill_wf (atomLeaf_wf hx) hc
  refine (exec_lang _ (fwdDir _ hb (.ofNoScan hst hsc)) hwf hsz rfl
    (fun hs => (valid_in_ctx hx hc [] rfl hs (.inl rfl)).imp_right fun h' => ⟨h', rfl, rfl, rfl⟩) hsc h).imp fun L ⟨_, k⟩ => ?_
  obtain ⟨e, t, k1, k2, k3⟩ := lang_in_ctx (M := fun r q t => Re.Matches (specFlagsG fl) buf r (start + q) (start + t))
    (fun hw hm => (lower_sem hw _ _).1 (irm_fwd (specFlagsG fl) buf start hm)) (fun _ => .empty) .cat hx hc Keps [] 0 L rfl
    (emitted_seg hwf hsz rfl).2.1 (Nat.le_refl _) (Nat.le_add_right _ _) k
  simp only [lang, if_true] at k1
  obtain ⟨e', k1, he⟩ := k1
  cases (k3 : t = L)
  exact ⟨e, he ▸ k1, (Ctx.after_iff x c _ _).2 k2⟩

/-- **Backward verification from the atom.**  The backward code of `c.fill x` entered just after the instruction of the node
    `x`, run with RE_FLAGS_BACKWARDS from `start`: every reported length L has L ≤ start and the part of the pattern BEFORE
    `x` matches buf[start - L, start). -/
theorem vm_sound_from_atom_bwd (c : Ctx) (hc : HexCtx c) (x : Re) (hx : AtomLeaf x) (hsz : (emit true (c.fill x) 0).1.length < 32000)
    (buf : Bytes) (start : Nat) (hst : start ≤ buf.size) (fl : VmFlags) (hb : fl.backwards = true) (hsc : fl.scan = false)
    (fuel : Nat) (m : Int) (cl : List Nat)
    (h : exec { code := (emitCode true (c.fill x)).toArray, entry := bwdPos x c 0, buf := buf, start := start, fl := fl, syncFuel := fuel } = .done m cl) :
    Reports m cl fun L => L ≤ start ∧ c.Before (specFlagsG fl) buf x (start - L) start := by
  rw [emit_rev] at hsz
  have hwf := rev_wf (fill_wf (atomLeaf_wf hx) hc)
  have hcode : (emitCode true (c.fill x)).toArray = ((emit false (rev (c.fill x)) 0).1 ++ [0xAD]).toArray := by simp only [emitCode, emit_rev]
  have hrev := rev_fill (rev_atomLeaf hx) c
  have hseg := (emitted_seg hwf hsz hcode).2.1
  rw [hrev] at hseg
  refine (exec_lang _ (bwdDir _ hb (.ofNoScan hst hsc)) hwf hsz hcode
    (fun hs => by
      rw [hrev] at hs ⊢
      exact (valid_in_ctx hx (hexCtx_rev hc) [] rfl hs (.inr (holePos_rev x c 0).symm)).imp_right fun h' => ⟨h', rfl, rfl, rfl⟩)
    hsc h).imp fun L ⟨hok, k⟩ => ⟨hok.2, ?_⟩
  rw [hrev] at k
  obtain ⟨e, t, k1, k2, k3⟩ := lang_in_ctx (M := fun r q t => Re.Matches (specFlagsG fl) buf (rev r) (start - t) (start - q))
    (fun hw hm => lowerB_sem (rev_wf hw) _ _ (by rw [rev_rev]; exact irm_bwd (specFlagsG fl) buf start hm)) (fun _ => .empty) (fun h1 h2 => .cat h2 h1) hx (hexCtx_rev hc) Keps [] 0 L rfl
    hseg (holePos_rev x c 0 ▸ Nat.le_add_right _ _) (Nat.le_of_eq (holePos_rev x c 0).symm) k
  simp only [lang] at k1
  rw [if_neg (Nat.ne_of_gt (holePos_rev x c 0 ▸ Nat.lt_add_of_pos_right (leafLen_pos x)))] at k1
  cases k1
  cases (k3 : t = L)
  rw [rev_after (rev_atomLeaf hx)] at k2
  exact (Ctx.before_iff x c _ _).2 k2

/-- **Verification around the atom is sound** (`_yr_scan_verify_re_match`, hex strings): if the forward code entered at the
    atom's node reports `lf` and the backward code entered behind that node reports `lb`, the whole pattern matches
    buf[o - lb, o + lf). -/
theorem verify_from_atom_sound (c : Ctx) (hc : HexCtx c) (x : Re) (hx : AtomLeaf x)
    (hszf : (emit false (c.fill x) 0).1.length < 32000) (hszb : (emit true (c.fill x) 0).1.length < 32000)
    (buf : Bytes) (o : Nat) (ho : o ≤ buf.size) (flf flb : VmFlags) (hf1 : flf.backwards = false) (hf2 : flf.scan = false)
    (hb1 : flb.backwards = true) (hb2 : flb.scan = false) (hsame : specFlagsG flf = specFlagsG flb)
    (fuel1 fuel2 : Nat) (m1 m2 : Int) (c1 c2 : List Nat)
    (hfw : exec { code := (emitCode false (c.fill x)).toArray, entry := holePos c 0, buf := buf, start := o, fl := flf, syncFuel := fuel1 } = .done m1 c1)
    (hbw : exec { code := (emitCode true (c.fill x)).toArray, entry := bwdPos x c 0, buf := buf, start := o, fl := flb, syncFuel := fuel2 } = .done m2 c2)
    (lf lb : Nat) (hlf : lf ∈ c1) (hlb : lb ∈ c2) :
    lb ≤ o ∧ Re.Matches (specFlagsG flf) buf (c.fill x) (o - lb) (o + lf) := by
  obtain ⟨e, k1, k2⟩ := (vm_sound_from_atom_fwd c hc x hx hszf buf o ho flf hf1 hf2 fuel1 m1 c1 hfw).1 lf hlf
  obtain ⟨k3, k4⟩ := (vm_sound_from_atom_bwd c hc x hx hszb buf o ho flb hb1 hb2 fuel2 m2 c2 hbw).1 lb hlb
  rw [← hsame] at k4
  exact ⟨k3, through_sound c x _ _ ⟨o, o + e, k4, k1, k2⟩⟩

theorem hexAst_ctx {x : Re} : ∀ {c : Ctx}, HexAst (c.fill x) → HexCtx c
  | .hole, _ => trivial
  | .catL c r, h => by cases h with | seq h1 h2 => exact ⟨hexAst_ctx h1, h2.wf⟩
  | .catR l c, h => by cases h with | seq h1 h2 => exact ⟨h1.wf, hexAst_ctx h2⟩
  | .altL c r, h => by cases h with | alt h1 h2 => exact ⟨hexAst_ctx h1, h2.wf⟩
  | .altR l c, h => by cases h with | alt h1 h2 => exact ⟨h1.wf, hexAst_ctx h2⟩
  | .plusIn c g, h => by cases h

end YaraModel.ReEmit
