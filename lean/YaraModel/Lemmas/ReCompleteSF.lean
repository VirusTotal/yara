/-
  VM completeness for the STAR-FREE fragment (byte mode): every consuming one-character node (literals, `.`, classes,
  \w \W \s \S \d \D), the empty expression, `.{n,m}`, concatenation and alternation whose first branch cannot be passed
  without consuming a character.  Every match of such a pattern gives an accepting path of stopped fibers through the
  emitted code (`AccN`, Lemmas/ReComplete.lean), hence its length is reported by the exhaustive run (`vm_complete_sf`,
  `vm_complete_sf_bwd`, at the end).  Alternatives: the executed-split set of `_yr_re_fiber_sync` never kills a fiber of the
  path, because split ids are numbered in emission order, the code only branches forwards, and the first branch of an
  alternative stops (at a character, or in a jump) before it leaves its own code (`Fresh`).
  The specification flags are `specFlags fl` (soundness: `specFlagsG fl`, the same when `fl.wide = false`: `specFlagsG_eq`,
  Lemmas/ReDir.lean).
-/
import YaraModel.Lemmas.ReComplete
import YaraModel.Lemmas.ReDir
import YaraModel.Lemmas.ReLower
import YaraModel.Lemmas.ReIrStep
namespace YaraModel.ReEmit
open YaraModel.Re YaraModel.ReVm

/-- `sfHd` on hex tokens (`Hd.sfHd`; decidable: `ReHexG.hd`, `hd_iff`).  `Hd`, `HexG` are the hex instance; the proofs below are
    over `SF` -/
inductive Hd : Re → Prop
  | byte (b : UInt8) : Hd (.lit b)
  | wild : Hd .any
  | mask (v m : UInt8) : Hd (.masked v m)
  | notByte (b : UInt8) : Hd (.notLit b)
  | notMask (v m : UInt8) : Hd (.maskedNot v m)
  | jump (lo hi : Nat) (g : Bool) : 1 ≤ hi → Hd (.rangeAny lo hi g)
  | seq {a : Re} (b : Re) : Hd a → Hd (.cat a b)
  | alt {a b} : Hd a → Hd b → Hd (.alt a b)

/-- hex ASTs whose alternatives have a first branch that begins with a byte-like token or a non-degenerate jump.
    The hex grammar only produces such ASTs (`tokens : token | token token | token token_sequence token`: a branch of an
    alternative begins and ends with a byte or a nested alternative). -/
inductive HexG : Re → Prop
  | byte (b : UInt8) : HexG (.lit b)
  | wild : HexG .any
  | mask (v m : UInt8) : HexG (.masked v m)
  | notByte (b : UInt8) : HexG (.notLit b)
  | notMask (v m : UInt8) : HexG (.maskedNot v m)
  | jump (lo hi : Nat) : lo ≤ hi → hi < 65536 → HexG (.rangeAny lo hi false)
  | seq {a b} : HexG a → HexG b → HexG (.cat a b)
  | alt {a b} : HexG a → HexG b → Hd a → HexG (.alt a b)

theorem HexG.hexAst {r : Re} (h : HexG r) : HexAst r := by
  induction h with
  | byte b => exact .byte b
  | wild => exact .wild
  | mask v m => exact .mask v m
  | notByte b => exact .notByte b
  | notMask v m => exact .notMask v m
  | jump lo hi h1 h2 => exact .jump lo hi h1 h2
  | seq _ _ ih1 ih2 => exact .seq ih1 ih2
  | alt _ _ _ ih1 ih2 => exact .alt ih1 ih2

def consLeaf : Re → Bool
  | .lit _ | .masked _ _ | .notLit _ | .maskedNot _ _ | .any | .cls _ _ | .wordCh | .nonWordCh | .space | .nonSpace | .digit | .nonDigit => true
  | _ => false

/-- the expression cannot be entered without stopping inside it (at a character, or in `.{n,m}` with m ≥ 1) -/
def sfHd : Re → Bool
  | .rangeAny _ hi _ => decide (1 ≤ hi)
  | .cat a _ => sfHd a
  | .alt a b => sfHd a && sfHd b
  | r => consLeaf r

/-- the fragment: no `*`, `+`, `{n,m}` of a sub-expression, no anchors / word boundaries, and the FIRST branch of every
    alternative consumes a character before it can be left (`(|a)`, `(.{0,0}|a)` are excluded; `(a|)` is not) -/
def starFree : Re → Bool
  | .empty => true
  | .rangeAny lo hi _ => decide (lo ≤ hi) && decide (hi < 65536)
  | .cat a b => starFree a && starFree b
  | .alt a b => starFree a && starFree b && sfHd a
  | r => consLeaf r

inductive SF : Re → Prop
  | leaf {r} : consLeaf r = true → SF r
  | empty : SF .empty
  | jump (lo hi : Nat) (g : Bool) : lo ≤ hi → hi < 65536 → SF (.rangeAny lo hi g)
  | seq {a b} : SF a → SF b → SF (.cat a b)
  | alt {a b} : SF a → SF b → sfHd a = true → SF (.alt a b)

theorem starFree_sound : ∀ {r : Re}, starFree r = true → SF r := by
  intro r
  induction r with
  | empty => intro _; exact .empty
  | rangeAny lo hi g => intro h; simp only [starFree, Bool.and_eq_true, decide_eq_true_eq] at h; exact .jump lo hi g h.1 h.2
  | cat a b iha ihb => intro h; simp only [starFree, Bool.and_eq_true] at h; exact .seq (iha h.1) (ihb h.2)
  | alt a b iha ihb => intro h; simp only [starFree, Bool.and_eq_true] at h; exact .alt (iha h.1.1) (ihb h.1.2) h.2
  | _ => intro h; exact .leaf (by simpa [starFree] using h)

theorem Hd.sfHd {r : Re} (h : Hd r) : sfHd r = true := by
  induction h with
  | jump lo hi g h1 => exact decide_eq_true h1
  | seq b _ ih => exact ih
  | alt _ _ ih1 ih2 => exact Bool.and_eq_true_iff.2 ⟨ih1, ih2⟩
  | _ => rfl

theorem HexG.sf {r : Re} (h : HexG r) : SF r := by
  induction h with
  | jump lo hi h1 h2 => exact .jump lo hi false h1 h2
  | seq _ _ ih1 ih2 => exact .seq ih1 ih2
  | alt _ _ hd ih1 ih2 => exact .alt ih1 ih2 hd.sfHd
  | _ => exact .leaf rfl

structure LeafFacts (r : Re) : Prop where
  lower : lower r = .leaf r
  rev : rev r = r
  wf : WF r
  ids : ∀ s, (emit false r s).2 = s
  len : ∀ {fl : Flags} {buf : Bytes} {P Q : Nat}, Re.Matches fl buf r P Q → Q = P + fl.cs

theorem consLeaf_facts {r : Re} (h : consLeaf r = true) : LeafFacts r := by
  cases r <;> first
    | exact Bool.noConfusion (h : false = true)
    | exact ⟨rfl, rfl, by constructor, fun _ => rfl, fun hm => (mem_step.1 ((ends_iff_Matches _ _ _ _ _).2 hm)).2⟩

theorem SF.wf {r : Re} (h : SF r) : WF r := by
  induction h with
  | leaf h => exact (consLeaf_facts h).wf
  | empty => exact .empty
  | jump lo hi g h1 h2 => exact .rangeAny lo hi g h1 h2
  | seq _ _ ih1 ih2 => exact .cat ih1 ih2
  | alt _ _ _ ih1 ih2 => exact .alt ih1 ih2

/-! ### the code: split ids, one-character steps, REPEAT_ANY -/

/-- number of split instructions in the code of a star-free pattern (`emit_ids`); not what `*`, `+`, `{n,m}` emit -/
def nsp : Re → Nat
  | .cat a b => nsp a + nsp b
  | .alt a b => 1 + nsp a + nsp b
  | _ => 0

/-- the splits of the code of `r` at `a` carry the ids `s, s+1, ..` in address order -/
def IdOK (code : Code) : Re → Nat → Nat → Prop
  | .cat x y, a, s => IdOK code x a s ∧ IdOK code y (a + clen (lower x)) (s + nsp x)
  | .alt x y, a, s => u8 code (a + 1) = s ∧ IdOK code x (a + 4) (s + 1) ∧ IdOK code y (a + 4 + clen (lower x) + 3) (s + 1 + nsp x)
  | _, _, _ => True

theorem consLeaf_nsp {r : Re} (h : consLeaf r = true) : nsp r = 0 := by cases r <;> simp [consLeaf] at h <;> rfl

theorem emit_ids {r : Re} (h : SF r) : ∀ s, (emit false r s).2 = s + nsp r := by
  induction h with
  | @leaf r h => intro s; rw [consLeaf_nsp h]; exact (consLeaf_facts h).ids s
  | empty => intro s; rfl
  | jump _ _ _ _ _ => intro s; rfl
  | seq _ _ ih1 ih2 => intro s; simp only [emit, Bool.false_eq_true, if_false, ih1, ih2, nsp]; omega
  | alt _ _ _ ih1 ih2 => intro s; simp only [emit, ih1, ih2, nsp]; omega

/-- an alternative with counter `s` whose branches hold `a` and `b` splits: the ids of the first branch (from `s + 1`) and of the
    second (from `s + 1 + a`) end at or below the counter behind it.  Named: `omega` in place costs 300 k under a large hypothesis. -/
theorem ids_fst_le (s a b : Nat) : s + 1 + a ≤ s + (1 + a + b) := by omega
theorem ids_snd_le (s a b : Nat) : s + 1 + a + b ≤ s + (1 + a + b) := by omega

theorem idOK_of_emit {r : Re} (h : SF r) : ∀ (s : Nat) (code : Code) (a : Nat), s + nsp r ≤ 256 →
    Sub code a (emit false r s).1 → IdOK code r a s := by
  induction h with
  | @leaf r h => intro s code a _ _; cases r <;> simp [consLeaf] at h <;> trivial
  | empty => intro s code a _ _; trivial
  | jump _ _ _ _ _ => intro s code a _ _; trivial
  | @seq x y hx hy ih1 ih2 =>
    intro s code a hs h
    simp only [nsp] at hs
    simp only [emit, Bool.false_eq_true, if_false] at h
    obtain ⟨h1, h2⟩ := sub_append h
    rw [emit_len hx.wf, emit_ids hx] at h2
    exact ⟨ih1 s code a (Nat.le_trans (Nat.add_le_add_left (Nat.le_add_right _ _) s) hs) h1, ih2 _ code _ (Nat.add_assoc .. ▸ hs) h2⟩
  | @alt x y hx hy _ ih1 ih2 =>
    intro s code a hs h
    simp only [nsp] at hs
    -- split (opcode, id, int16), code of x, jump (opcode, int16), code of y
    simp only [emit, List.append_assoc, List.cons_append, List.nil_append] at h
    obtain ⟨hid, h⟩ := sub_cons.1 (sub_cons.1 h).2
    obtain ⟨hca, h⟩ := sub_append (sub_append h).2
    have hcb := (sub_append (sub_cons.1 h).2).2
    rw [leI16_length] at hca hcb
    rw [leI16_length, emit_len hx.wf, emit_ids hx] at hcb
    exact ⟨by rw [hid, UInt8.toNat_ofNat']; exact Nat.mod_eq_of_lt (by omega), ih1 (s + 1) code (a + 4) (Nat.le_trans (ids_fst_le ..) hs) hca,
      ih2 _ code (a + 4 + clen (lower x) + 3) (Nat.le_trans (ids_snd_le ..) hs) hcb⟩

theorem consume_of_charOk {e : Env} (hcs : e.cs = 1) {bm P : Nat} (hinp : e.inp bm = (P : Int)) {f : Fiber} {t : UInt8 → Bool}
    (hlt : bm < e.maxBytes) (hc : charOk (specFlags e.fl) e.buf t P = true)
    (htest : consumeTest e.code e.fl f.ip e.buf 1 (P : Int) = t (byteAt e.buf (P : Int))) :
    consumeOk e bm f = true := by
  unfold consumeOk
  rw [hcs, hinp, htest]
  rw [charOk_eq, Bool.and_eq_true, Bool.and_eq_true] at hc
  have : decide (bm ≥ e.maxBytes) = false := by simp; omega
  simp [this, hc.2.1]

theorem wordAt_one (buf : Bytes) (p : Int) : isWordCharAt buf 1 p = isWordByte (byteAt buf p) := by
  unfold isWordCharAt; simp

theorem consLeaf_consuming {code : Code} {r : Re} {a : Nat} (hl : consLeaf r = true) (hc : LeafCode code r a) :
    isConsuming (u8 code a) = true ∧ sizeOfInstr (u8 code a) = leafLen r := by
  cases hc with
  | lit h1 _ | notLit h1 _ | masked h1 _ _ | maskedNot h1 _ _ | any h1 | cls h1 _ _ | wordCh h1 | nonWordCh h1 | space h1 | nonSpace h1
  | digit h1 | nonDigit h1 => rw [h1]; exact ⟨by decide, rfl⟩
  | bol _ | eol _ | wordB _ | nonWordB _ => exact Bool.noConfusion (hl : false = true)

theorem leaf_consume {e : Env} (hcs : e.cs = 1) {r : Re} (hl : consLeaf r = true) {f : Fiber} (hc : LeafCode e.code r f.ip)
    {bm P Q : Nat} (hm : Re.Matches (specFlags e.fl) e.buf r P Q) (hinp : e.inp bm = (P : Int)) (hlt : bm < e.maxBytes) :
    consumeOk e bm f = true := by
  obtain ⟨t, ht, htest⟩ := leaf_test hc (consLeaf_consuming hl hc).1 (sf := specFlags e.fl) rfl rfl
  exact consume_of_charOk hcs hinp hlt ((ht _ _ _).1 hm).1 (htest _ 1 _ (wordAt_one _ _))

theorem any_consume {e : Env} (hcs : e.cs = 1) {f : Fiber}
    (hop : u8 e.code f.ip = OP_REPEAT_ANY_GREEDY ∨ u8 e.code f.ip = OP_REPEAT_ANY_UNGREEDY)
    {bm P Q : Nat} (hm : Re.Matches (specFlags e.fl) e.buf .any P Q) (hinp : e.inp bm = (P : Int)) (hlt : bm < e.maxBytes) :
    consumeOk e bm f = true := by
  cases hm with | any hch =>
  exact consume_of_charOk hcs hinp hlt hch (opTest_any (.inr hop))

/-- the states of the fiber standing on a REPEAT_ANY instruction at `a`: `k` bytes consumed so far -/
def spinF (a k : Nat) : Fiber := { ip := a, rc := if k = 0 then -1 else (k : Int) }

/-- `_yr_re_fiber_sync` on a REPEAT_ANY fiber that has consumed `k` bytes: from the minimum on the branch behind the
    instruction is synced too — while `k < hi` by a RECURSIVE call of the C function, which starts from an empty set
    (`ex0 = []`), at `k = hi` by falling through with the same set (`ex0 = ex`). -/
theorem sync_spin_inv {code : Code} {a lo hi : Nat} (hop : u8 code a = OP_REPEAT_ANY_GREEDY ∨ u8 code a = OP_REPEAT_ANY_UNGREEDY)
    (hlo : u16 code (a + 1) = lo) (hhi : u16 code (a + 3) = hi) (k : Nat) {F : Nat} {ex : List Nat} {l : List Fiber}
    {b : Bool} {ex' : List Nat} (h : sync code F ex (spinF a k) = some (l, b, ex')) :
    (k < hi → spinF a (k + 1) ∈ l ∧ ex' = ex) ∧
    (lo ≤ k → ∃ F' ex0 l' b' ex1, (∀ i ∈ ex0, i ∈ ex) ∧ sync code F' ex0 { ip := a + 5 } = some (l', b', ex1) ∧ ∀ g ∈ l', g ∈ l) := by
  have hrc0 : (if (spinF a k).rc = -1 then (0 : Int) else (spinF a k).rc) = (k : Int) := by
    unfold spinF
    by_cases hk : k = 0
    · simp [hk]
    · simp only [if_neg hk, if_neg (show ¬ (k : Int) = -1 by omega)]
  have hspin : ({ ip := a, stack := (spinF a k).stack, rc := (k : Int) + 1 } : Fiber) = spinF a (k + 1) := by unfold spinF; simp
  cases F with
  | zero => cases h
  | succ F =>
    rw [sync_any code F ex (spinF a k) hop, hrc0] at h
    simp only [show (spinF a k).ip = a from rfl, hlo, hhi, hspin] at h
    by_cases c1 : ((k : Int) < (lo : Int))
    · rw [if_pos c1] at h
      cases h
      exact ⟨fun _ => ⟨List.mem_singleton.2 rfl, rfl⟩, fun hh => absurd (Int.ofNat_le.2 hh) (Int.not_le.2 c1)⟩
    · rw [if_neg c1] at h
      by_cases c2 : ((k : Int) < (hi : Int))
      · rw [if_pos c2] at h
        split at h
        · cases h
        · rename_i l' b' ex1 hs
          refine ⟨fun _ => ?_, fun _ => ⟨F, [], l', b', ex1, (fun _ hi => nomatch hi), hs, fun g hg => ?_⟩⟩
          · split at h <;> cases h <;> simp
          · split at h <;> cases h <;> simp [hg]
      · rw [if_neg c2] at h
        exact ⟨fun hh => absurd (Int.ofNat_lt.2 hh) c2, fun _ => ⟨F, ex, l, b, ex', (fun _ hi => hi), h, fun g hg => hg⟩⟩

/-! ### alternatives: `Fresh`, `AccE` -/

/-- syncing from `a` executes no split with an id ≥ `s'`, so it kills no fiber that comes to such a split later -/
def Fresh (code : Code) (a s' : Nat) : Prop :=
  ∀ (F : Nat) (ex : List Nat) (l : List Fiber) (b : Bool) (ex' : List Nat),
    sync code F ex { ip := a } = some (l, b, ex') → ∀ i ∈ ex', i ∈ ex ∨ i < s'

theorem Fresh.mono {code : Code} {a s t : Nat} (h : Fresh code a s) (hst : s ≤ t) : Fresh code a t :=
  fun F ex l b ex' hs i hi => (h F ex l b ex' hs i hi).imp_right (Nat.lt_of_lt_of_le · hst)

theorem fresh_leaf {code : Code} {r : Re} {a b : Nat} (h : consLeaf r = true) (hseg : Seg code (lower r) a b) (s : Nat) :
    Fresh code a s := by
  rw [(consLeaf_facts h).lower] at hseg
  cases hseg with | leaf hc =>
  obtain ⟨f1, f2, _, _⟩ := leaf_facts hc
  exact fun _ _ _ _ _ hs i hi => .inl ((sync_plain_inv (f := { ip := a }) f1 f2 hs).2 ▸ hi)

theorem fresh_spin {code : Code} {a lo hi : Nat} (hop : u8 code a = OP_REPEAT_ANY_GREEDY ∨ u8 code a = OP_REPEAT_ANY_UNGREEDY)
    (hlo : u16 code (a + 1) = lo) (hhi : u16 code (a + 3) = hi) (h1 : 1 ≤ hi) (s : Nat) : Fresh code a s :=
  fun _ _ _ _ _ hs _ hi => .inl (((sync_spin_inv hop hlo hhi 0 hs).1 h1).2 ▸ hi)

theorem fresh_split {code : Code} {a m s : Nat} (hop : u8 code a = OP_SPLIT_A) (hid : u8 code (a + 1) < s)
    (hoff : addOff a (i16 code (a + 2)) = m) (h1 : Fresh code (a + 4) s) (h2 : Fresh code m s) : Fresh code a s := by
  intro F ex l b ex' hs i hi
  obtain ⟨c1, c2⟩ := sync_split_inv (f := { ip := a }) hop hs
  by_cases hc : u8 code (a + 1) ∈ ex
  · rw [c1 hc] at hi; exact .inl hi
  · obtain ⟨F', l1, b1, ex2, l2, b2, k1, k2, _⟩ := c2 hc
    rw [hoff] at k2
    rcases h2 _ _ _ _ _ k2 i hi with k | k
    · rcases h1 _ _ _ _ _ k1 i k with k' | k'
      · rcases List.mem_cons.1 k' with rfl | k''
        · exact .inr hid
        · exact .inl k''
      · exact .inr k'
    · exact .inr k

theorem sync_fresh {code : Code} : ∀ {r : Re}, sfHd r = true → ∀ {a b s : Nat}, Seg code (lower r) a b → IdOK code r a s →
    Fresh code a (s + nsp r) := by
  intro r
  induction r with
  | rangeAny lo hi g =>
    intro h a b s hseg _
    cases hseg with | jump hop hlo hhi _ =>
    exact fresh_spin hop hlo hhi (of_decide_eq_true h) _
  | cat x y ih _ =>
    intro h a b s hseg hid
    exact (ih h hseg.cat_inv.1 hid.1).mono (Nat.add_le_add_left (Nat.le_add_right _ _) s)
  | alt x y ih1 ih2 =>
    intro h a b s hseg hid
    obtain ⟨hx, hy⟩ := Bool.and_eq_true_iff.1 h
    obtain ⟨hop, hoff, sx, _, _, sy⟩ := hseg.alt_inv
    obtain ⟨hid0, hidx, hidy⟩ := hid
    exact fresh_split hop (by rw [hid0]; show s < s + (1 + nsp x + nsp y); omega) hoff ((ih1 hx sx hidx).mono (ids_fst_le ..))
      ((ih2 hy sy hidy).mono (ids_snd_le ..))
  | _ =>
    intro h a b s hseg _
    exact fresh_leaf h hseg _

section
variable {e : Env}

/-- `AccU` for a sync call in progress, whatever splits below `s` it has executed (arguments: bound, steps, fiber, bytes matched) -/
def AccE (e : Env) (s n : Nat) (f : Fiber) (bm : Nat) : Prop :=
  ∀ F ex l a ex', (∀ i ∈ ex, i < s) → sync e.code F ex f = some (l, a, ex') → ∃ g, g ∈ l ∧ AccN e n g bm

theorem AccE.mono {s s' n : Nat} {f : Fiber} {bm : Nat} (h : AccE e s' n f bm) (hs : s ≤ s') : AccE e s n f bm :=
  fun F ex l a ex' hex => h F ex l a ex' (fun i hi => Nat.lt_of_lt_of_le (hex i hi) hs)

theorem AccE.top {s n : Nat} {f : Fiber} {bm : Nat} (h : AccE e s n f bm) : AccU e n f bm :=
  fun F l a ex' => h F [] l a ex' (fun i hi => by cases hi)

theorem AccE.ofMatch {a : Nat} (hm : u8 e.code a = OP_MATCH) (s bm : Nat) : AccE e s 0 { ip := a } bm := by
  intro F ex l b ex' _ hs
  have := (sync_plain_inv (f := { ip := a }) (by rw [show u8 e.code ({ ip := a } : Fiber).ip = OP_MATCH from hm]; unfold isCtl; decide)
    (by rw [show u8 e.code ({ ip := a } : Fiber).ip = OP_MATCH from hm]; unfold isAnyOp; decide) hs).1
  subst this
  exact ⟨_, List.mem_singleton.2 rfl, hm⟩

theorem AccE.jmp {a b s n t : Nat} (hop : u8 e.code a = OP_JUMP) (hoff : addOff a (i16 e.code (a + 1)) = b)
    (hK : AccE e s n { ip := b } t) : AccE e s n { ip := a } t := by
  intro F ex l a' ex' hex hs
  obtain ⟨F', hs'⟩ := sync_jump_inv (f := { ip := a }) hop hs
  exact hK F' ex l a' ex' hex (hoff ▸ hs')

/-- a split whose id `s` is above every id executed so far: the path may go on in the first branch .. -/
theorem AccE.splitL {a s n q : Nat} (hop : u8 e.code a = OP_SPLIT_A) (hid : u8 e.code (a + 1) = s)
    (hK : AccE e (s + 1) n { ip := a + 4 } q) : AccE e s n { ip := a } q := by
  intro F ex l b ex' hex hs
  obtain ⟨F', l1, b1, ex2, l2, b2, h1, _, rfl⟩ := (sync_split_inv (f := { ip := a }) hop hs).2
    fun hm => Nat.ne_of_lt (hex _ hm) hid
  obtain ⟨g, hg, hacc⟩ := hK F' _ l1 b1 ex2 (fun i hi => by
    rcases List.mem_cons.1 hi with rfl | hi'
    · show u8 e.code (a + 1) < s + 1; omega
    · exact Nat.lt_succ_of_lt (hex i hi')) h1
  exact ⟨g, List.mem_append_left _ hg, hacc⟩

/-- .. or in the second one, when the first branch only executes splits below `s1` -/
theorem AccE.splitR {a m s s1 n q : Nat} (hop : u8 e.code a = OP_SPLIT_A) (hid : u8 e.code (a + 1) = s)
    (hoff : addOff a (i16 e.code (a + 2)) = m) (hfr : Fresh e.code (a + 4) s1) (hs1 : s < s1)
    (hK : AccE e s1 n { ip := m } q) : AccE e s n { ip := a } q := by
  intro F ex l b ex' hex hs
  obtain ⟨F', l1, b1, ex2, l2, b2, h1, h2, rfl⟩ := (sync_split_inv (f := { ip := a }) hop hs).2
    fun hm => Nat.ne_of_lt (hex _ hm) hid
  obtain ⟨g, hg, hacc⟩ := hK F' ex2 l2 b2 ex' (fun i hi => by
    rcases hfr _ _ _ _ _ h1 i hi with k | k
    · rcases List.mem_cons.1 k with rfl | k'
      · show u8 e.code (a + 1) < s1; omega
      · exact Nat.lt_trans (hex i k') hs1
    · exact k) (hoff ▸ h2)
  exact ⟨g, List.mem_append_right _ hg, hacc⟩

theorem acc_leaf (hcs : e.cs = 1) {a len q n s : Nat} (h1 : ¬ isCtl (u8 e.code a))
    (h2 : ¬ (u8 e.code a = OP_REPEAT_ANY_GREEDY ∨ u8 e.code a = OP_REPEAT_ANY_UNGREEDY)) (hc : isConsuming (u8 e.code a) = true)
    (hlen : sizeOfInstr (u8 e.code a) = len) (hok : consumeOk e q { ip := a } = true) (hK : AccE e s n { ip := a + len } (q + 1)) :
    AccE e s (n + 1) { ip := a } q := by
  intro F ex l b ex' _ hs
  have := (sync_plain_inv (f := { ip := a }) h1 h2 hs).1
  subst this
  refine ⟨_, List.mem_singleton.2 rfl, hc, hok, ?_⟩
  have hadv : advance e.code { ip := a } = { ip := a + len } := by
    unfold advance
    rw [if_neg h2, hlen]
  rw [hadv, hcs]
  exact hK.top

/-! ### the path lemma (`CDir`, `acc_sf`), the two directions, the theorems -/

/-- what a way of reading the input (forwards from the start position / backwards from it) has to provide: `M r q t`,
    "r matches between q and t matched bytes", decomposes along the pattern, and a one-character match is a match of the
    specification at the byte the fiber reads.  Not the `Dir` of soundness (Lemmas/ReIr.lean): that record gives
    `consumeOk ⇒ L` for one instruction, any character size; this is the converse direction, it needs a match taken apart
    along the pattern, and it is byte mode only (`cs1`). -/
structure CDir (e : Env) where
  M : Re → Nat → Nat → Prop
  cs1 : e.cs = 1
  char : ∀ {r : Re} {q t : Nat}, consLeaf r = true → M r q t → t = q + 1 ∧ ∃ P Q, Re.Matches (specFlags e.fl) e.buf r P Q ∧ e.inp q = (P : Int)
  jump : ∀ {lo hi : Nat} {g : Bool} {q t : Nat}, M (.rangeAny lo hi g) q t →
    ∃ k, lo ≤ k ∧ k ≤ hi ∧ t = q + k ∧ ∀ i, i < k → M .any (q + i) (q + i + 1)
  cat : ∀ {x y : Re} {q t : Nat}, M (.cat x y) q t → ∃ u, q ≤ u ∧ u ≤ t ∧ M x q u ∧ M y u t
  alt : ∀ {x y : Re} {q t : Nat}, M (.alt x y) q t → M x q t ∨ M y q t
  eps : ∀ {q t : Nat}, M .empty q t → q = t

theorem CDir.leaf (D : CDir e) {r : Re} {q t : Nat} {f : Fiber} (hl : consLeaf r = true) (hc : LeafCode e.code r f.ip)
    (hm : D.M r q t) (ht : t ≤ e.maxBytes) : t = q + 1 ∧ consumeOk e q f = true := by
  obtain ⟨e1, P, Q, hmm, e2⟩ := D.char hl hm
  exact ⟨e1, leaf_consume D.cs1 hl hc hmm e2 (show q + 1 ≤ e.maxBytes from e1 ▸ ht)⟩

theorem CDir.any (D : CDir e) {q t : Nat} {f : Fiber} (hop : u8 e.code f.ip = OP_REPEAT_ANY_GREEDY ∨ u8 e.code f.ip = OP_REPEAT_ANY_UNGREEDY)
    (hm : D.M .any q t) (ht : t ≤ e.maxBytes) : t = q + 1 ∧ consumeOk e q f = true := by
  obtain ⟨e1, P, Q, hmm, e2⟩ := D.char rfl hm
  exact ⟨e1, any_consume D.cs1 hop hmm e2 (show q + 1 ≤ e.maxBytes from e1 ▸ ht)⟩

/-- a jump: `j` more bytes are taken by the spinning fiber, then the continuing branch is an accepting path -/
theorem acc_jump (D : CDir e) {a lo hi s : Nat} (hop : u8 e.code a = OP_REPEAT_ANY_GREEDY ∨ u8 e.code a = OP_REPEAT_ANY_UNGREEDY)
    (hlo : u16 e.code (a + 1) = lo) (hhi : u16 e.code (a + 3) = hi) {n t : Nat} (ht : t ≤ e.maxBytes)
    (hK : AccE e s n { ip := a + 5 } t) : ∀ (j k q : Nat), k + j ≤ hi → lo ≤ k + j → t = q + j →
      (∀ i, i < j → D.M .any (q + i) (q + i + 1)) → AccE e s (n + j) (spinF a k) q
  | 0, k, q, h1, h2, hq, _ => by
    cases (hq : t = q)
    intro F ex l b ex' hex hs
    obtain ⟨F', ex0, l', b', ex1, hex0, hs', hsub⟩ := (sync_spin_inv hop hlo hhi k hs).2 h2
    obtain ⟨g, hg, hacc⟩ := hK F' ex0 l' b' ex1 (fun i hi => hex i (hex0 i hi)) hs'
    exact ⟨g, hsub g hg, hacc⟩
  | j + 1, k, q, h1, h2, hq, hany => by
    intro F ex l b ex' _ hs
    have ek : k + 1 + j = k + (j + 1) := Nat.add_right_comm k 1 j
    have eq : q + 1 + j = q + (j + 1) := Nat.add_right_comm q 1 j
    have hk : k < hi := Nat.lt_of_lt_of_le (Nat.lt_add_of_pos_right (Nat.succ_pos j)) h1
    have hq1 : q + 0 + 1 ≤ e.maxBytes := Nat.le_trans (Nat.add_le_add_left (Nat.succ_pos j) q) (hq ▸ ht)
    have hmem := ((sync_spin_inv hop hlo hhi k hs).1 hk).1
    obtain ⟨_, hok⟩ := D.any (f := spinF a (k + 1)) hop (hany 0 (Nat.succ_pos j)) hq1
    have ih := acc_jump D hop hlo hhi ht hK j (k + 1) (q + 1) (ek ▸ h1) (ek ▸ h2) (eq ▸ hq)
      (fun i hi => by have := hany (i + 1) (Nat.succ_lt_succ hi); rwa [Nat.add_comm i 1, ← Nat.add_assoc] at this)
    refine ⟨_, hmem, ?_, hok, ?_⟩
    · show isConsuming (u8 e.code a) = true
      rcases hop with hh | hh <;> rw [hh] <;> decide
    · have hadv : advance e.code (spinF a (k + 1)) = spinF a (k + 1) := by
        unfold advance
        rw [if_pos (show u8 e.code (spinF a (k + 1)).ip = _ ∨ u8 e.code (spinF a (k + 1)).ip = _ from hop)]
      rw [hadv, D.cs1]
      exact ih.top

/-- the path lemma: a match of a star-free expression between q and t matched bytes, followed by an accepting path from
    the end of its code at t, is an accepting path from the beginning of its code at q -/
theorem acc_sf (D : CDir e) {r : Re} (hr : SF r) : ∀ {a b q t n s : Nat}, Seg e.code (lower r) a b → IdOK e.code r a s →
    D.M r q t → t ≤ e.maxBytes → AccE e (s + nsp r) n { ip := b } t → AccE e s (n + (t - q)) { ip := a } q := by
  induction hr with
  | @leaf r hl =>
    intro a b q t n s hseg _ hm ht hK
    rw [(consLeaf_facts hl).lower] at hseg
    rw [consLeaf_nsp hl] at hK
    cases hseg with | leaf hc =>
    obtain ⟨f1, f2, _, _⟩ := leaf_facts hc
    obtain ⟨g1, g2⟩ := consLeaf_consuming hl hc
    obtain ⟨rfl, hok⟩ := D.leaf (f := { ip := a }) hl hc hm ht
    rw [Nat.add_sub_cancel_left]
    exact acc_leaf D.cs1 f1 f2 g1 g2 hok hK
  | empty =>
    intro a b q t n s hseg _ hm ht hK
    cases D.eps hm
    cases hseg with | eps =>
    simpa [nsp] using hK
  | jump lo hi g _ _ =>
    intro a b q t n s hseg _ hm ht hK
    cases hseg with | jump hop hlo hhi _ =>
    obtain ⟨k, k1, k2, rfl, hany⟩ := D.jump hm
    rw [Nat.add_sub_cancel_left]
    exact acc_jump D hop hlo hhi ht hK k 0 q ((Nat.zero_add k).symm ▸ k2) ((Nat.zero_add k).symm ▸ k1) rfl hany
  | @seq x y _ _ ih1 ih2 =>
    intro a b q t n s hseg hid hm ht hK
    obtain ⟨s1, s2⟩ := hseg.cat_inv
    obtain ⟨u, b1, b2, m1, m2⟩ := D.cat hm
    have := ih1 s1 hid.1 m1 (Nat.le_trans b2 ht) (ih2 s2 hid.2 m2 ht (by simpa only [nsp, Nat.add_assoc] using hK))
    rwa [Nat.add_assoc, Nat.sub_add_sub_cancel b2 b1] at this
  | @alt x y _ _ hdx ih1 ih2 =>
    intro a b q t n s hseg hid hm ht hK
    obtain ⟨hop, hoff, sx, hj, hoff2, sy⟩ := hseg.alt_inv
    obtain ⟨hid0, hidx, hidy⟩ := hid
    rcases D.alt hm with hmx | hmy
    · exact .splitL hop hid0 (ih1 sx hidx hmx ht (.jmp hj hoff2 (hK.mono (ids_fst_le ..))))
    · exact .splitR hop hid0 hoff (sync_fresh hdx sx hidx) (Nat.lt_add_right _ (Nat.lt_succ_self s)) (ih2 sy hidy hmy ht (hK.mono (ids_snd_le ..)))

/-- `hsz`: branch offsets fit an int16 (`emitted_seg`); `hid`: split ids fit a byte (`idOK_of_emit`) -/
theorem code_setup {r' : Re} (hr : SF r') (hsz : (emit false r' 0).1.length < 32000) (hid : (emit false r' 0).2 ≤ 256)
    (hcode : e.code = ((emit false r' 0).1 ++ [0xAD]).toArray) :
    Seg e.code (lower r') 0 (clen (lower r')) ∧ IdOK e.code r' 0 0 ∧ ∀ L, AccE e (0 + nsp r') 0 { ip := clen (lower r') } L := by
  obtain ⟨h1, hseg, hmatch⟩ := emitted_seg hr.wf hsz hcode
  rw [emit_ids hr] at hid
  exact ⟨hseg, idOK_of_emit hr 0 e.code 0 hid h1, fun L => .ofMatch hmatch _ L⟩

theorem reports_of_acc (hcs : e.cs = 1) (hsc : e.fl.scan = false) (m : Int) (cl : List Nat) (h : exec e = .done m cl) {s n : Nat}
    (hacc : AccE e s n { ip := e.entry } 0) : 0 ≤ m ∧ (e.fl.exhaustive = true → n ∈ cl) := by
  have := exec_reports e hsc m cl h n hacc.top
  rwa [hcs, Nat.mul_one] at this

end

theorem rangeAny_pointwise {fl : Flags} (hw : fl.wide = false) {buf : Bytes} {lo hi : Nat} {g : Bool} {P Q : Nat}
    (hm : Re.Matches fl buf (.rangeAny lo hi g) P Q) :
    ∃ k, lo ≤ k ∧ k ≤ hi ∧ Q = P + k ∧ ∀ i, i < k → Re.Matches fl buf .any (P + i) (P + i + 1) := by
  obtain ⟨k, k1, k2, hp⟩ := rangeAny_iff_iter.1 hm
  exact ⟨k, k1, k2, (Iter.unit_iff fun x y h => by cases h; rw [Flags.cs_narrow hw]).1 hp⟩

structure FwdByte (e : Env) : Prop where
  notWide : e.fl.wide = false
  notBack : e.fl.backwards = false

theorem inp_fwd {e : Env} (h : FwdByte e) (bm : Nat) : e.inp bm = ((e.start + bm : Nat) : Int) := by
  simp [Env.inp, h.notBack]

structure BwdByte (e : Env) : Prop where
  notWide : e.fl.wide = false
  back : e.fl.backwards = true

theorem inp_bwd {e : Env} (h : BwdByte e) {bm P : Nat} (hP : P + bm + 1 = e.start) : e.inp bm = (P : Int) := by
  unfold Env.inp
  simp only [h.back, if_true, cs_byte h.notWide]
  omega

def fwdC (e : Env) (h : FwdByte e) : CDir e where
  M r q t := Re.Matches (specFlags e.fl) e.buf r (e.start + q) (e.start + t)
  cs1 := cs_byte h.notWide
  char := fun hl hm => ⟨by have := (consLeaf_facts hl).len hm; rw [show (specFlags e.fl).cs = 1 from rfl] at this; omega, _, _, hm, inp_fwd h _⟩
  jump := by
    intro lo hi g q t hm
    obtain ⟨k, k1, k2, hq, hany⟩ := rangeAny_pointwise (fl := specFlags e.fl) rfl hm
    exact ⟨k, k1, k2, by omega, fun i hi => by simpa only [Nat.add_assoc] using hany i hi⟩
  cat := by
    intro x y q t hm
    obtain ⟨u, m1, m2⟩ := (cat_iff _ _ _ _).1 hm
    have b1 := (Matches.bounds m1).1
    have b2 := (Matches.bounds m2).1
    obtain ⟨u', rfl⟩ := Nat.le.dest (Nat.le_trans (Nat.le_add_right _ q) b1)
    exact ⟨u', Nat.le_of_add_le_add_left b1, Nat.le_of_add_le_add_left b2, m1, m2⟩
  alt := by
    intro x y q t hm
    cases hm with
    | altL h1 => exact .inl h1
    | altR h1 => exact .inr h1
  eps := by
    intro q t hm
    generalize hp : e.start + q = p at hm
    cases hm
    omega

/-- reading backwards from the start position; the code is the forward emission of the mirrored pattern: `r` matches between
    q and t matched bytes when `rev r` matches the t − q bytes that END q bytes before the start position -/
def bwdC (e : Env) (h : BwdByte e) : CDir e where
  M r q t := ∃ P Q, P + t = e.start ∧ Q + q = e.start ∧ Re.Matches (specFlags e.fl) e.buf (rev r) P Q
  cs1 := cs_byte h.notWide
  char := by
    intro r q t hl hm
    obtain ⟨P, Q, hP, hQ, hm⟩ := hm
    rw [(consLeaf_facts hl).rev] at hm
    have hq := (consLeaf_facts hl).len hm
    rw [show (specFlags e.fl).cs = 1 from rfl] at hq
    have : t = q + 1 ∧ P + q + 1 = e.start := by omega
    exact ⟨this.1, P, Q, hm, inp_bwd h this.2⟩
  jump := by
    intro lo hi g q t hm
    obtain ⟨P, Q, hP, hQ, hm⟩ := hm
    obtain ⟨k, k1, k2, hq, hany⟩ := rangeAny_pointwise (fl := specFlags e.fl) rfl hm
    refine ⟨k, k1, k2, by omega, fun i hi => ?_⟩
    obtain ⟨j, hj⟩ := Nat.le.dest hi
    have : P + j + (q + i + 1) = e.start ∧ P + j + 1 + (q + i) = e.start ∧ j < k := by omega
    exact ⟨_, _, this.1, this.2.1, hany _ this.2.2⟩
  cat := by
    intro x y q t hm
    obtain ⟨P, Q, hP, hQ, hm⟩ := hm
    obtain ⟨u, m1, m2⟩ := (cat_iff _ _ _ _).1 hm
    have b1 := (Matches.bounds m1).1
    have b2 := (Matches.bounds m2).1
    obtain ⟨u', hu⟩ := Nat.le.dest (Nat.le_trans b2 (Nat.le.intro hQ))
    have hq : q ≤ u' ∧ u' ≤ t := by omega
    exact ⟨u', hq.1, hq.2, ⟨u, Q, hu, hQ, m2⟩, ⟨P, u, hP, hu, m1⟩⟩
  alt := by
    intro x y q t hm
    obtain ⟨P, Q, hP, hQ, hm⟩ := hm
    cases hm with
    | altL h1 => exact .inl ⟨P, Q, hP, hQ, h1⟩
    | altR h1 => exact .inr ⟨P, Q, hP, hQ, h1⟩
  eps := by
    intro q t hm
    obtain ⟨P, Q, hP, hQ, hm⟩ := hm
    cases hm
    omega

/-- the scan window (YR_RE_SCAN_LIMIT) in byte mode: 1024 bytes, or what is left of the buffer -/
theorem le_maxBytes_fwd {e : Env} (h : FwdByte e) {L : Nat} (h1 : L ≤ 1024) (h2 : e.start + L ≤ e.buf.size) : L ≤ e.maxBytes := by
  unfold Env.maxBytes Env.fwdSize
  simp only [h.notBack, Bool.false_eq_true, if_false, cs_byte h.notWide, Nat.mod_one, Nat.sub_zero]
  omega

theorem le_maxBytes_bwd {e : Env} (h : BwdByte e) {L : Nat} (h1 : L ≤ 1024) (h2 : L ≤ e.start) : L ≤ e.maxBytes := by
  unfold Env.maxBytes Env.bwdSize
  simp only [h.back, if_true, cs_byte h.notWide, Nat.mod_one, Nat.sub_zero]
  omega

/-- completeness of the VM on the forward code of a star-free expression (byte mode, exhaustive, not scan mode): if the run
    returns without error, it reports the length of EVERY match of the expression at the start position within the scan
    window of 1024 bytes -/
theorem vm_complete_sf (r : Re) (hr : SF r) (hsz : (emit false r 0).1.length < 32000) (hid : (emit false r 0).2 ≤ 256)
    (buf : Bytes) (start : Nat) (hst : start ≤ buf.size)
    (fl : VmFlags) (hw : fl.wide = false) (hb : fl.backwards = false) (hsc : fl.scan = false) (hx : fl.exhaustive = true)
    (fuel : Nat) (m : Int) (c : List Nat)
    (h : exec { code := (emitCode false r).toArray, entry := 0, buf := buf, start := start, fl := fl, syncFuel := fuel } = .done m c)
    (L : Nat) (hL : L ≤ 1024) (hm : Re.Matches (specFlags fl) buf r start (start + L)) : L ∈ c := by
  have hfb : FwdByte { code := (emitCode false r).toArray, entry := 0, buf := buf, start := start, fl := fl, syncFuel := fuel } := ⟨hw, hb⟩
  obtain ⟨hseg, hids, hend⟩ := code_setup (e := { code := (emitCode false r).toArray, entry := 0, buf := buf, start := start, fl := fl, syncFuel := fuel })
    hr hsz hid rfl
  have := (reports_of_acc (cs_byte hw) hsc m c h (acc_sf (fwdC _ hfb) hr hseg hids (q := 0) (t := L) hm
    (le_maxBytes_fwd hfb hL (Nat.max_eq_right hst ▸ (Matches.bounds hm).2 : start + L ≤ buf.size)) (hend L))).2 hx
  rwa [Nat.zero_add, Nat.sub_zero] at this

/-- the same for the BACKWARD code (EMIT_BACKWARDS = the forward code of the mirrored expression, run with
    RE_FLAGS_BACKWARDS): every match of the expression that ENDS at the start position and is at most 1024 bytes long has
    its length reported.  The mirrored expression has to be in the fragment (every first branch of an alternative of
    `rev r` begins with a consuming node: the branch of `r` ends with one). -/
theorem vm_complete_sf_bwd (r : Re) (hr : SF (rev r)) (hsz : (emit true r 0).1.length < 32000) (hid : (emit true r 0).2 ≤ 256)
    (buf : Bytes) (start : Nat)
    (fl : VmFlags) (hw : fl.wide = false) (hb : fl.backwards = true) (hsc : fl.scan = false) (hx : fl.exhaustive = true)
    (fuel : Nat) (m : Int) (c : List Nat)
    (h : exec { code := (emitCode true r).toArray, entry := 0, buf := buf, start := start, fl := fl, syncFuel := fuel } = .done m c)
    (L : Nat) (hL : L ≤ 1024) (hLs : L ≤ start) (hm : Re.Matches (specFlags fl) buf r (start - L) start) : L ∈ c := by
  have hbb : BwdByte { code := (emitCode true r).toArray, entry := 0, buf := buf, start := start, fl := fl, syncFuel := fuel } := ⟨hw, hb⟩
  rw [emit_rev] at hsz hid
  obtain ⟨hseg, hids, hend⟩ := code_setup (e := { code := (emitCode true r).toArray, entry := 0, buf := buf, start := start, fl := fl, syncFuel := fuel })
    hr hsz hid (by simp only [emitCode, emit_rev])
  have := (reports_of_acc (cs_byte hw) hsc m c h (acc_sf (bwdC _ hbb) hr hseg hids
    ⟨start - L, start, Nat.sub_add_cancel hLs, rfl, by rw [rev_rev]; exact hm⟩ (le_maxBytes_bwd hbb hL hLs) (hend L))).2 hx
  rwa [Nat.zero_add, Nat.sub_zero] at this

end YaraModel.ReEmit
