/-
  Completeness of the scan of one hex string in one block over the model chain candidates → verification → match callback
  → match list (Model/ReScan.lean): a match that runs through a candidate's atom node at the candidate's offset ends up
  in the match list (its offset; the length is the one the non-exhaustive forward run prefers).
-/
import YaraModel.Lemmas.ReScan
import YaraModel.Lemmas.ReCompleteAtom
import YaraModel.Lemmas.ReAtomPos
namespace YaraModel.ReScan
open YaraModel.Re YaraModel.ReVm YaraModel.ReEmit YaraModel.ReChain YaraModel.ReAtoms

theorem scanHex_has (r : Re) (buf : Bytes) (fl : VmFlags) (fuel : Nat) (cands : List Cand) (c : Cand) (hc : c ∈ cands)
    (x : Nat × Nat) (hx : x ∈ verifyOne r buf fl fuel c) : ∃ l', (x.1, l') ∈ scanHex r buf fl fuel cands := by
  rw [scanHex_eq]
  exact foldl_addConfirmed_has Prod.fst Prod.snd _ [] x (List.mem_flatMap.2 ⟨c, hc, hx⟩)

theorem verifyOne_complete (ctx : Ctx) (y : Re) (hy : AtomLeaf y) (hg : HexG (ctx.fill y)) (hgr : HexG (rev (ctx.fill y)))
    (hszf : (emit false (ctx.fill y) 0).1.length < 32000) (hidf : (emit false (ctx.fill y) 0).2 ≤ 256)
    (hszb : (emit true (ctx.fill y) 0).1.length < 32000) (hidb : (emit true (ctx.fill y) 0).2 ≤ 256)
    (buf : Bytes) (fl : VmFlags) (hw : fl.wide = false) (fuel : Nat) (o : Nat) (ho : o ≤ buf.size)
    (m1 : Int) (c1 : List Nat)
    (hfw : exec { code := (emitCode false (ctx.fill y)).toArray, entry := holePos ctx 0, buf := buf, start := o, fl := fwdFlags fl, syncFuel := fuel } = .done m1 c1)
    (m2 : Int) (c2 : List Nat)
    (hbw : exec { code := (emitCode true (ctx.fill y)).toArray, entry := bwdPos y ctx 0, buf := buf, start := o, fl := bwdFlags fl, syncFuel := fuel } = .done m2 c2)
    (p e1 q' : Nat) (hb : ctx.Before (specFlags fl) buf y p o) (hm : Re.Matches (specFlags fl) buf y o e1)
    (ha : ctx.After (specFlags fl) buf y e1 q') (hwb : o - p ≤ 1024) (hwf : q' - o ≤ 1024) :
    0 ≤ m1 ∧ (p, (o - p) + m1.toNat) ∈ verifyOne (ctx.fill y) buf fl fuel ⟨holePos ctx 0, some (bwdPos y ctx 0), o⟩ := by
  have b1 := (Matches.bounds ((Ctx.before_iff y ctx _ _).1 hb)).1
  have b2 := (Matches.bounds hm).1
  have b3 := Nat.le_trans b2 (Matches.bounds ((Ctx.after_iff y ctx _ _).1 ha)).1
  have k1 := (vm_complete_from_atom_fwd ctx y hg.sf hszf hidf buf o ho (fwdFlags fl) hw rfl rfl fuel m1 c1 hfw (e1 - o) (q' - o) hwf
    (by rwa [Nat.add_sub_of_le b2]) (by rwa [Nat.add_sub_of_le b2, Nat.add_sub_of_le b3])).1
  have k2 := (vm_complete_from_atom_bwd ctx y (atomLeaf_consLeaf hy) hgr.sf hszb hidb buf o (bwdFlags fl) hw rfl rfl fuel m2 c2 hbw
    (o - p) hwb (Nat.sub_le _ _) (by rwa [Nat.sub_sub_self b1])).2 rfl
  exact ⟨k1, mem_verifyOne.2 ⟨m1, c1, hfw, k1, .inr ⟨_, m2, c2, o - p, rfl, hbw, k2, by rw [Nat.sub_sub_self b1]⟩⟩⟩

/-- completeness of the scan, the automaton contract `hcands` stated over the node contexts (`ctxAt`): wherever the bytes of an
    atom occur literally, the candidate list holds the entry with the code positions of the atom's node at that offset;
    `hrun`: every verification run ends without error -/
theorem scan_complete_ctx (q : Atom → Int) (m : Mods) (r : Re) (hg : HexG r) (hgr : HexG (rev r)) (hmk : MaskOK r)
    (hszf : (emit false r 0).1.length < 32000) (hidf : (emit false r 0).2 ≤ 256)
    (hszb : (emit true r 0).1.length < 32000) (hidb : (emit true r 0).2 ≤ 256)
    (buf : Bytes) (fl : VmFlags) (hw : fl.wide = false) (hw0 : m.wide = false ∨ m.ascii = true) (hn : m.nocase = fl.nocase)
    (fuel : Nat) (cands : List Cand)
    (hcands : ∀ x ∈ atomsOf q m r, ∀ s, s ≤ buf.size → BytesAt buf x.1 s →
      (x.1 = [] → (⟨0, none, s⟩ : Cand) ∈ cands) ∧
      (x.1 ≠ [] → ∀ c y, ctxAt r x.2 = some (c, y) → AtomLeaf y → (⟨holePos c 0, some (bwdPos y c 0), s⟩ : Cand) ∈ cands))
    (hrun : ∀ c ∈ cands,
      (∃ m1 c1, exec { code := (emitCode false r).toArray, entry := c.fwd, buf := buf, start := c.off, fl := fwdFlags fl, syncFuel := fuel } = .done m1 c1) ∧
      (∀ b, c.bwd = some b → ∃ m2 c2, exec { code := (emitCode true r).toArray, entry := b, buf := buf, start := c.off, fl := bwdFlags fl, syncFuel := fuel } = .done m2 c2))
    (p q' : Nat) (hp : p ≤ buf.size) (hm : Re.Matches (specFlags fl) buf r p q') (hwin : q' - p ≤ 1024) :
    ∃ len, (p, len) ∈ scanHex r buf fl fuel cands := by
  obtain ⟨x, hx, s, h1, h2, h3, h4⟩ :=
    flat_cover q m (specFlags fl) buf (fun h => by cases h) (fun _ => hw0) hn r (HexAst.flat hg.hexAst) hmk hm
  by_cases h0 : x.1 = []
  · have hc := (hcands x hx p hp (by rw [h0]; trivial)).1 h0
    obtain ⟨⟨m1, c1, hfw⟩, _⟩ := hrun _ hc
    -- the zero-length atom (a string without atoms): the candidate at the match's own offset, forward code from its beginning
    have k1 := (vm_complete_from_atom_fwd .hole r hg.sf hszf hidf buf p hp (fwdFlags fl) hw rfl rfl fuel m1 c1 hfw
      (q' - p) (q' - p) hwin (by rwa [Nat.add_sub_of_le (Matches.bounds hm).1]) rfl).1
    exact scanHex_has r buf fl fuel cands _ hc (p, m1.toNat) (mem_verifyOne.2 ⟨m1, c1, hfw, k1, .inl ⟨rfl, rfl⟩⟩)
  · rcases h4 with h4 | ⟨c, y, hc', hy, rfl, hbef, e, hmy, haf⟩
    · exact absurd h4 h0
    · have hsq : s ≤ q' := Nat.le_trans (Nat.le_add_right _ _) h2
      have hs : s ≤ buf.size := Nat.le_trans hsq (Nat.max_eq_right hp ▸ (Matches.bounds hm).2)
      have hc := (hcands x hx s hs h3).2 h0 c y hc' hy
      obtain ⟨⟨m1, c1, hfw⟩, hbw⟩ := hrun _ hc
      obtain ⟨m2, c2, hbw⟩ := hbw _ rfl
      exact scanHex_has (c.fill y) buf fl fuel cands _ hc _
        (verifyOne_complete c y hy hg hgr hszf hidf hszb hidb buf fl hw fuel s hs m1 c1 hfw m2 c2 hbw p e q' hbef hmy haf
          (Nat.le_trans (Nat.sub_le_sub_right hsq p) hwin) (Nat.le_trans (Nat.sub_le_sub_left h1 q') hwin)).2

end YaraModel.ReScan
