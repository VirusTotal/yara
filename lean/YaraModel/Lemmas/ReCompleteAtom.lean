/-
  VM completeness for the verification runs around an atom (`_yr_scan_verify_re_match`): the forward run entered at the
  atom node's instruction and the backward run entered behind it in the backward code find every match that runs through
  the atom — the converse of Lemmas/ReAtomEntry.lean `verify_from_atom_sound`, for star-free patterns (hex strings are the
  instance `HexG.sf`).  Built on the path lemma `acc_sf` (Lemmas/ReCompleteSF.lean): the part of the pattern that follows
  the hole of the context is walked outwards (`acc_ctx`); no split of the enclosing alternatives is executed on the way.
-/
import YaraModel.Lemmas.ReCompleteSF
import YaraModel.Lemmas.ReAtomEntry
namespace YaraModel.ReEmit
open YaraModel.Re YaraModel.ReVm

/-- the contexts of star-free patterns: what follows the hole is walked through (and has to be in the fragment), the rest is
    only passed by -/
def CtxS : Ctx → Prop
  | .hole => True
  | .catL c r => CtxS c ∧ SF r
  | .catR _ c => CtxS c
  | .altL c _ => CtxS c
  | .altR _ c => CtxS c
  | .plusIn _ _ => False

theorem SF.cat_inv {a b : Re} (h : SF (.cat a b)) : SF a ∧ SF b := by
  cases h with
  | leaf h => exact Bool.noConfusion (h : false = true)
  | seq h1 h2 => exact ⟨h1, h2⟩

theorem SF.alt_inv {a b : Re} (h : SF (.alt a b)) : SF a ∧ SF b := by
  cases h with
  | leaf h => exact Bool.noConfusion (h : false = true)
  | alt h1 h2 _ => exact ⟨h1, h2⟩

theorem ctxS_of_sf {x : Re} : ∀ {c : Ctx}, SF (c.fill x) → CtxS c ∧ SF x
  | .hole, h => ⟨trivial, h⟩
  | .catL _ _, h => have ih := ctxS_of_sf (SF.cat_inv h).1; ⟨⟨ih.1, (SF.cat_inv h).2⟩, ih.2⟩
  | .catR _ c, h => ctxS_of_sf (c := c) (SF.cat_inv h).2
  | .altL c _, h => ctxS_of_sf (c := c) (SF.alt_inv h).1
  | .altR _ c, h => ctxS_of_sf (c := c) (SF.alt_inv h).2
  | .plusIn _ _, h => by
    cases h with
    | leaf h => exact Bool.noConfusion (h : false = true)

/-- split-id counter at the hole when the code of `c.fill x` starts with counter `s` -/
def idAt : Ctx → Nat → Nat
  | .hole, s => s
  | .catL c _, s => idAt c s
  | .catR l c, s => idAt c (s + nsp l)
  | .altL c _, s => idAt c (s + 1)
  | .altR l c, s => idAt c (s + 1 + nsp l)
  | .plusIn c _, s => idAt c s

section
variable {e : Env}

/-- walking outwards from the hole: what follows the hole, then the continuation of the whole pattern, is an accepting
    path from the end of the hole's code -/
theorem acc_ctx (D : CDir e) (x : Re) : ∀ {c : Ctx}, CtxS c → ∀ {a b q t n s : Nat}, Seg e.code (lower (c.fill x)) a b →
    IdOK e.code (c.fill x) a s → D.M (c.after x) q t → t ≤ e.maxBytes → AccE e (s + nsp (c.fill x)) n { ip := b } t →
    ∃ bx, Seg e.code (lower x) (holePos c a) bx ∧ IdOK e.code x (holePos c a) (idAt c s) ∧
      AccE e (idAt c s + nsp x) (n + (t - q)) { ip := bx } q
  | .hole, _, a, b, q, t, n, s, hseg, hid, haf, _, hK => by
    cases D.eps haf
    exact ⟨b, hseg, hid, by simpa [idAt, Ctx.fill] using hK⟩
  | .catL c r, hc, a, b, q, t, n, s, hseg, hid, haf, ht, hK => by
    obtain ⟨s1, s2⟩ := Seg.cat_inv hseg
    obtain ⟨u, b1, b2, hafc, hmr⟩ := D.cat haf
    have k1 := acc_sf D hc.2 s2 hid.2 hmr ht (by simpa only [Ctx.fill, nsp, Nat.add_assoc] using hK)
    obtain ⟨bx, g1, g2, g3⟩ := acc_ctx D x hc.1 s1 hid.1 hafc (Nat.le_trans b2 ht) k1
    exact ⟨bx, g1, g2, by rwa [Nat.add_assoc, Nat.sub_add_sub_cancel b2 b1] at g3⟩
  | .catR l c, hc, a, b, q, t, n, s, hseg, hid, haf, ht, hK =>
    acc_ctx D x (c := c) hc (Seg.cat_inv hseg).2 hid.2 haf ht (by simpa only [Ctx.fill, nsp, Nat.add_assoc] using hK)
  | .altL c r, hc, a, b, q, t, n, s, hseg, hid, haf, ht, hK => by
    obtain ⟨_, _, sx, hj, hoff2, _⟩ := Seg.alt_inv hseg
    exact acc_ctx D x (c := c) hc sx hid.2.1 haf ht (.jmp hj hoff2 (hK.mono (ids_fst_le ..)))
  | .altR l c, hc, a, b, q, t, n, s, hseg, hid, haf, ht, hK => by
    have sy := hseg.alt_snd
    exact acc_ctx D x (c := c) hc sy hid.2.2 haf ht (hK.mono (ids_snd_le ..))
  | .plusIn _ _, hc, _, _, _, _, _, _, _, _, _, _, _ => hc.elim


theorem acc_hole (D : CDir e) (c : Ctx) (x : Re) (hg : SF (c.fill x))
    (hsz : (emit false (c.fill x) 0).1.length < 32000) (hid : (emit false (c.fill x) 0).2 ≤ 256)
    (hcode : e.code = ((emit false (c.fill x) 0).1 ++ [0xAD]).toArray) {q L : Nat} (hL : L ≤ e.maxBytes) (haf : D.M (c.after x) q L) :
    ∃ bx, Seg e.code (lower x) (holePos c 0) bx ∧ IdOK e.code x (holePos c 0) (idAt c 0) ∧
      AccE e (idAt c 0 + nsp x) (L - q) { ip := bx } q := by
  obtain ⟨hseg, hids, hend⟩ := code_setup (e := e) hg hsz hid hcode
  simpa only [Nat.zero_add] using acc_ctx D x (ctxS_of_sf hg).1 hseg hids haf hL (hend L)

end

theorem atomLeaf_consLeaf {x : Re} (hx : AtomLeaf x) : consLeaf x = true := by
  rcases hx with ⟨b, rfl⟩ | ⟨v, m, rfl⟩ | rfl <;> rfl

/-- FORWARD verification run from the first instruction of the sub-pattern `x` (an atom's node; the whole pattern when `c`
    is the hole): if `x` matches at the candidate offset and the rest of the pattern matches behind it up to `start + lf`
    (within the scan window), the run — exhaustive or not — ends with a result >= 0, and the exhaustive run reports `lf` -/
theorem vm_complete_from_atom_fwd (c : Ctx) (x : Re) (hg : SF (c.fill x))
    (hsz : (emit false (c.fill x) 0).1.length < 32000) (hid : (emit false (c.fill x) 0).2 ≤ 256)
    (buf : Bytes) (start : Nat) (hst : start ≤ buf.size) (fl : VmFlags) (hw : fl.wide = false) (hb : fl.backwards = false)
    (hsc : fl.scan = false) (fuel : Nat) (m : Int) (cl : List Nat)
    (h : exec { code := (emitCode false (c.fill x)).toArray, entry := holePos c 0, buf := buf, start := start, fl := fl, syncFuel := fuel } = .done m cl)
    (e1 lf : Nat) (hlf : lf ≤ 1024) (hm : Re.Matches (specFlags fl) buf x start (start + e1))
    (ha : c.After (specFlags fl) buf x (start + e1) (start + lf)) :
    0 ≤ m ∧ (fl.exhaustive = true → lf ∈ cl) := by
  have hfb : FwdByte { code := (emitCode false (c.fill x)).toArray, entry := holePos c 0, buf := buf, start := start, fl := fl, syncFuel := fuel } :=
    ⟨hw, hb⟩
  have hx := (ctxS_of_sf hg).2
  have ha := (Ctx.after_iff x c _ _).1 ha
  have b1 := Matches.bounds ha
  have b3 : start + e1 ≤ buf.size := Nat.max_eq_right hst ▸ (Matches.bounds hm).2
  have h1 : e1 ≤ lf := Nat.le_of_add_le_add_left b1.1
  have hL := le_maxBytes_fwd hfb hlf (Nat.max_eq_right b3 ▸ b1.2 : start + lf ≤ buf.size)
  obtain ⟨bx, g1, g2, g3⟩ := acc_hole (fwdC _ hfb) c x hg hsz hid rfl hL ha
  have := reports_of_acc (cs_byte hw) hsc m cl h (acc_sf (fwdC _ hfb) hx g1 g2 hm (Nat.le_trans h1 hL) g3)
  rwa [Nat.sub_zero, Nat.sub_add_cancel h1] at this

/-- BACKWARD verification run from behind the instruction of the node `x` in the backward code: if the part of the pattern
    before the node matches [start - lb, start) (within the scan window), the exhaustive run reports `lb`.  `consLeaf x`: one
    instruction, its own mirror image, so `bwdPos` is `leafLen x` behind it -/
theorem vm_complete_from_atom_bwd (c : Ctx) (x : Re) (hx : consLeaf x = true) (hg : SF (rev (c.fill x)))
    (hsz : (emit true (c.fill x) 0).1.length < 32000) (hid : (emit true (c.fill x) 0).2 ≤ 256)
    (buf : Bytes) (start : Nat) (fl : VmFlags) (hw : fl.wide = false) (hb : fl.backwards = true)
    (hsc : fl.scan = false) (fuel : Nat) (m : Int) (cl : List Nat)
    (h : exec { code := (emitCode true (c.fill x)).toArray, entry := bwdPos x c 0, buf := buf, start := start, fl := fl, syncFuel := fuel } = .done m cl)
    (lb : Nat) (hlb : lb ≤ 1024) (hls : lb ≤ start) (hbf : c.Before (specFlags fl) buf x (start - lb) start) :
    0 ≤ m ∧ (fl.exhaustive = true → lb ∈ cl) := by
  have hbb : BwdByte { code := (emitCode true (c.fill x)).toArray, entry := bwdPos x c 0, buf := buf, start := start, fl := fl, syncFuel := fuel } :=
    ⟨hw, hb⟩
  have hrev := rev_fill (consLeaf_facts hx).rev c
  rw [hrev] at hg
  rw [emit_rev, hrev] at hsz hid
  obtain ⟨bx, g1, _, g3⟩ := acc_hole (bwdC _ hbb) (revCtx c) x hg hsz hid (by simp only [emitCode, emit_rev, hrev])
    (le_maxBytes_bwd hbb hlb hls) (q := 0)
    ⟨start - lb, start, Nat.sub_add_cancel hls, rfl, by rw [rev_after (consLeaf_facts hx).rev]; exact (Ctx.before_iff x c _ _).1 hbf⟩
  have hbx : bx = bwdPos x c 0 := by rw [← holePos_rev, g1.len, (consLeaf_facts hx).lower]; rfl
  exact reports_of_acc (cs_byte hw) hsc m cl h (hbx ▸ g3)

end YaraModel.ReEmit
