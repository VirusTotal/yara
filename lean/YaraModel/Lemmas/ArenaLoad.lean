/- The loader's header, table and bodies phases on (prefixes of) images written by `save`; the buffers the bodies phase
   builds (`loadedBufs`); `load` as nested matches (`load_eq`); the shape of a saved image (`save_split`). -/
import YaraModel.Lemmas.ArenaKeys
namespace YaraModel.Arena
open YaraModel.Gen.ArenaLayout

theorem length_header (n : Nat) : (header n).length = headerSize := by
  simp [header, magic, headerSize]

theorem length_tableEntry (o u : Nat) : (tableEntry o u).length = tableEntrySize := by
  simp [tableEntry, length_leBytes, tblOffsetSize, tblSizeSize, tableEntrySize]

theorem length_table (o : Nat) (us : List Nat) : (table o us).length = tableEntrySize * us.length := by
  induction us generalizing o with
  | nil => simp [table]
  | cons u t ih =>
    simp only [table, List.length_append, length_tableEntry, ih, List.length_cons]
    simp only [tableEntrySize]; omega

theorem parseHeader_short {s : Bytes} (h : s.length < headerSize) : parseHeader s = .error .invalidFile := by
  unfold parseHeader; rw [if_pos h]

theorem parseHeader_cons6 (m0 m1 m2 m3 ver nb : UInt8) (rest : Bytes) :
    parseHeader (m0 :: m1 :: m2 :: m3 :: ver :: nb :: rest) =
      if [m0, m1, m2, m3] ≠ magic then .error .invalidFile
      else if ver.toNat ≠ fileVersion then .error .unsupportedFileVersion
      else if nb.toNat > maxBuffers then .error .invalidFile
      else .ok (nb.toNat, rest) := by
  unfold parseHeader
  rw [if_neg (by simp only [List.length_cons, headerSize]; omega)]
  simp [hdrVersionOff, hdrNumBuffersOff, headerSize]

theorem short_or_cons6 (s : Bytes) :
    s.length < headerSize ∨ ∃ m0 m1 m2 m3 ver nb rest, s = m0 :: m1 :: m2 :: m3 :: ver :: nb :: rest := by
  match s with
  | m0 :: m1 :: m2 :: m3 :: ver :: nb :: rest => exact Or.inr ⟨m0, m1, m2, m3, ver, nb, rest, rfl⟩
  | [] | [_] | [_, _] | [_, _, _] | [_, _, _, _] | [_, _, _, _, _] =>
    exact Or.inl (by simp only [List.length_cons, List.length_nil, headerSize]; omega)

theorem parseHeader_header_any (m : Nat) (hm : m < 256) (rest : Bytes) :
    parseHeader (header m ++ rest) = if m > maxBuffers then .error .invalidFile else .ok (m, rest) := by
  -- the magic is four bytes; which ones does not matter here
  obtain ⟨m0, m1, m2, m3, hmag⟩ : ∃ m0 m1 m2 m3, magic = [m0, m1, m2, m3] := ⟨_, _, _, _, rfl⟩
  have hc : header m ++ rest = m0 :: m1 :: m2 :: m3 :: UInt8.ofNat fileVersion :: UInt8.ofNat m :: rest := by
    simp [header, hmag]
  have : (UInt8.ofNat m).toNat = m := by rw [UInt8.toNat_ofNat']; exact Nat.mod_eq_of_lt hm
  rw [hc, parseHeader_cons6, ← hmag, if_neg (fun h => h rfl), if_neg (by simp [fileVersion]), this]

theorem parseHeader_header (n : Nat) (hn : n ≤ maxBuffers) (rest : Bytes) :
    parseHeader (header n ++ rest) = .ok (n, rest) := by
  have hn' : n ≤ 16 := hn
  rw [parseHeader_header_any n (by omega), if_neg (by simp only [maxBuffers]; omega)]

theorem parseTable_short {n : Nat} {s : Bytes} (h : s.length < tableEntrySize * n) : parseTable n s = .error .corruptFile := by
  unfold parseTable
  have : min (tableEntrySize * n) s.length / tableEntrySize ≠ n := by
    simp only [tableEntrySize] at *
    have : min (12 * n) s.length = s.length := by omega
    rw [this]; omega
  rw [if_pos this]

theorem newCap_load_ok {size : Nat} (h : size ≤ 2 ^ 31) : ¬ newCap loadInitialSize 0 0 size > 2 ^ maxBufferSizeLog2 := by
  have e : newCap loadInitialSize 0 0 size = dblUntil (0 + size) 10485 (0 + size) := by
    simp [newCap, loadInitialSize]
  have := dblUntil_le (0 + size) 10485 (0 + size)
  simp only [maxBufferSizeLog2]
  omega

/-- the first body that is cut makes its fread come back short -/
theorem readBodies_short (alloc : Nat → Nat) (i : Nat) (sizes : List Nat) (s : Bytes) (hs : ∀ z ∈ sizes, z ≤ 2 ^ 31)
    (h : s.length < sizes.sum) : readBodies alloc i sizes s = .error .corruptFile := by
  -- cases (also of `loadVia.bodiesVia`): 1 no size left, 2 size 0, 3 capacity above 4 GB, 4 stream too short, 5 body read
  fun_induction readBodies alloc i sizes s with
  | case1 => simp at h
  | case2 i rest s ih => rw [ih (fun z hz => hs z (List.mem_cons_of_mem _ hz)) (by simpa using h)]; rfl
  | case3 i size rest s _ _ hc => exact absurd hc (newCap_load_ok (hs size List.mem_cons_self))
  | case4 => rfl
  | case5 i size rest s _ _ _ hl ih =>
    rw [ih (fun z hz => hs z (List.mem_cons_of_mem _ hz)) (by rw [List.length_drop]; simp only [List.sum_cons] at h; omega)]; rfl

/-- the buffers the loader builds from the bodies `ds` of an image (buffer `i + k` at `alloc (i + k)`) -/
def loadedBufs (alloc : Nat → Nat) : Nat → List Bytes → List Buf
  | _, [] => []
  | i, d :: t =>
    (if d.length = 0 then {} else { data := d, cap := newCap loadInitialSize 0 0 d.length, base := alloc i, dirty := true })
      :: loadedBufs alloc (i + 1) t

theorem loadedBufs_length (alloc : Nat → Nat) (i : Nat) (ds : List Bytes) : (loadedBufs alloc i ds).length = ds.length := by
  induction ds generalizing i with
  | nil => rfl
  | cons d t ih => simp [loadedBufs, ih]

theorem loadedBufs_getD (alloc : Nat → Nat) (i : Nat) (ds : List Bytes) (j : Nat) (hj : j < ds.length) :
    (loadedBufs alloc i ds).getD j {} =
      if (ds.getD j []).length = 0 then {} else
        { data := ds.getD j [], cap := newCap loadInitialSize 0 0 (ds.getD j []).length, base := alloc (i + j), dirty := true } := by
  induction ds generalizing i j with
  | nil => cases hj
  | cons d t ih =>
    cases j with
    | zero => simp [loadedBufs]
    | succ j =>
      have hj' : j < t.length := by simpa using hj
      simp only [loadedBufs, List.getD_cons_succ]
      rw [ih (i + 1) j hj', Nat.add_assoc, Nat.add_comm 1 j]

theorem loadedBufs_data (alloc : Nat → Nat) (i : Nat) (ds : List Bytes) : (loadedBufs alloc i ds).map (·.data) = ds := by
  induction ds generalizing i with
  | nil => rfl
  | cons d t ih =>
    simp only [loadedBufs, List.map_cons, ih]
    by_cases hz : d.length = 0
    · have : d = [] := List.eq_nil_of_length_eq_zero hz
      subst this; simp
    · simp [hz]

theorem loadedBufs_getD_data (alloc : Nat → Nat) (i : Nat) (ds : List Bytes) (j : Nat) :
    ((loadedBufs alloc i ds).getD j {}).data = ds.getD j [] := by
  have := bodies_getD { bufs := loadedBufs alloc i ds } j
  rw [bodies, loadedBufs_data] at this
  exact this.symm

theorem save_split (a : Arena) :
    save a = header a.bufs.length ++ (table (headerSize + tableEntrySize * a.bufs.length) ((bodies a).map (·.length))
      ++ ((bodies (toRefs a)).flatten ++ relocBytes a.relocs)) := by
  simp [save]

theorem take_header_append (n : Nat) (x : Bytes) {k : Nat} (h : headerSize ≤ k) :
    (header n ++ x).take k = header n ++ x.take (k - headerSize) := by
  rw [List.take_append, length_header, List.take_of_length_le (by rw [length_header]; exact h)]

theorem load_eq (cfg : LoaderCfg) (alloc : Nat → Nat) (s : Bytes) :
    load cfg alloc s =
      match parseHeader s with
      | .error e => .error e
      | .ok (n, s1) =>
        match parseTable n s1 with
        | .error e => .error e
        | .ok (sizes, s2) =>
          if cfg.checksOffsets && !offsetsOk s1 0 (headerSize + tableEntrySize * n) sizes then .error .corruptFile
          else
            match readBodies alloc 0 sizes s2 with
            | .error e => .error e
            | .ok (bufs, s3) => applyRelocs cfg { bufs := bufs, relocs := [], init := loadInitialSize } s3 := by
  unfold load
  cases h1 : parseHeader s with
  | error e => rfl
  | ok x =>
    obtain ⟨n, s1⟩ := x
    simp only [bind, Except.bind]
    cases h2 : parseTable n s1 with
    | error e => rfl
    | ok y =>
      obtain ⟨sizes, s2⟩ := y
      simp only
      split
      · rfl
      · cases h3 : readBodies alloc 0 sizes s2 with
        | error e => rfl
        | ok z => rfl

end YaraModel.Arena
