/- The block walker shared by hash.c and math.c: the equations of the loop, adjacent blocks, and the
   functions computed over the consumed chunks. -/
import YaraModel.Model.HashMath
import YaraModel.Spec.HashMath
namespace YaraModel.HM
open Spec

theorem chunk_eq_slice (b : Block) (off len : Nat) :
    b.chunk off len = slice b.data (off - b.base) len := by
  unfold Block.chunk Block.dlen slice Block.size
  rw [← List.length_drop, ← List.take_eq_take_min]

theorem slice_eq_drop (d : Bytes) (i n : Nat) (h : d.length ≤ i + n) : slice d i n = d.drop i :=
  List.take_of_length_le (by rw [List.length_drop]; exact Nat.sub_le_iff_le_add'.mpr h)

theorem slice_append_left (d1 d2 : Bytes) (i n : Nat) (h : i ≤ d1.length) :
    slice (d1 ++ d2) i n = slice d1 i n ++ d2.take (i + n - d1.length) := by
  unfold slice
  rw [List.drop_append_of_le_length h, List.take_append, List.length_drop, Nat.sub_sub_right n h,
    Nat.add_comm n i]

theorem slice_append_right (d1 d2 : Bytes) (j n : Nat) :
    slice (d1 ++ d2) (d1.length + j) n = slice d2 j n := by
  unfold slice
  rw [List.drop_length_add_append]

def walk (bs : List Block) (off len : Nat) (past : Bool) : Option Bytes :=
  (walkLoop bs off len past).map List.flatten

/-- The offset is given by its distance `i` from the base: with `off - b.base` every later goal carries a truncated subtraction. -/
theorem walkLoop_in (b : Block) (bs : List Block) (i len : Nat) (past : Bool) (hi : i < b.size) :
    walkLoop (b :: bs) (b.base + i) len past =
      if i + len ≤ b.size then some [slice b.data i len]
      else (walkLoop bs (b.base + b.size) (i + len - b.size) true).map (b.data.drop i :: ·) := by
  have hd : b.dlen (b.base + i) len ≤ len := Nat.min_le_left _ _
  have hc : b.base + b.size ≥ b.base + i + len ↔ i + len ≤ b.size := by
    rw [ge_iff_le, Nat.add_assoc, Nat.add_le_add_iff_left]
  rw [walkLoop, if_pos ⟨Nat.le_add_right _ _, Nat.add_lt_add_left hi _⟩, chunk_eq_slice,
    Nat.add_assoc (b.base + i), Nat.add_sub_of_le hd, Nat.add_sub_cancel_left]
  simp only [hc]
  split
  · rfl
  · next h =>
    have hle : b.size ≤ i + len := Nat.le_of_not_le h
    have hdl : b.dlen (b.base + i) len = b.size - i := by
      unfold Block.dlen
      rw [Nat.add_sub_cancel_left]
      exact Nat.min_eq_right (Nat.sub_le_iff_le_add'.mpr hle)
    rw [hdl, slice_eq_drop _ _ _ hle, Nat.add_assoc, Nat.add_sub_of_le (Nat.le_of_lt hi),
      Nat.sub_sub_right len (Nat.le_of_lt hi), Nat.add_comm len i]

theorem walkLoop_out (b : Block) (bs : List Block) (off len : Nat) (past : Bool)
    (hout : ¬ (b.base ≤ off ∧ off < b.base + b.size)) :
    walkLoop (b :: bs) off len past = if past then none else walkLoop bs off len false := by
  rw [walkLoop, if_neg hout]

theorem walk_in (b : Block) (bs : List Block) (i len : Nat) (past : Bool) (hi : i < b.size) :
    walk (b :: bs) (b.base + i) len past =
      if i + len ≤ b.size then some (slice b.data i len)
      else (walk bs (b.base + b.size) (i + len - b.size) true).map (b.data.drop i ++ ·) := by
  unfold walk
  rw [walkLoop_in b bs i len past hi]
  split
  · exact congrArg some (List.append_nil _)
  · cases walkLoop bs (b.base + b.size) (i + len - b.size) true <;> rfl

theorem walk_in_abs (b : Block) (bs : List Block) (off len : Nat) (past : Bool)
    (hin : b.base ≤ off ∧ off < b.base + b.size) :
    walk (b :: bs) off len past =
      if off + len ≤ b.base + b.size then some (slice b.data (off - b.base) len)
      else (walk bs (b.base + b.size) (off + len - (b.base + b.size)) true).map
        (b.data.drop (off - b.base) ++ ·) := by
  obtain ⟨i, rfl⟩ := Nat.exists_eq_add_of_le hin.1
  rw [walk_in b bs i len past (Nat.lt_of_add_lt_add_left hin.2), Nat.add_sub_cancel_left, Nat.add_assoc,
    Nat.add_sub_add_left]
  simp only [Nat.add_le_add_iff_left]

theorem walk_out (b : Block) (bs : List Block) (off len : Nat) (past : Bool)
    (hout : ¬ (b.base ≤ off ∧ off < b.base + b.size)) :
    walk (b :: bs) off len past = if past then none else walk bs off len false := by
  unfold walk
  rw [walkLoop_out b bs off len past hout]
  cases past <;> rfl

theorem rangeWalk_cons (b : Block) (bs : List Block) (off len : Int) :
    rangeWalk (b :: bs) off len =
      if 0 ≤ off ∧ 0 ≤ len ∧ (b.base : Int) ≤ off then walk (b :: bs) off.toNat len.toNat false else none := by
  have h : argsOk (b :: bs) off len = true ↔ 0 ≤ off ∧ 0 ≤ len ∧ (b.base : Int) ≤ off := by
    simp only [argsOk, Bool.not_eq_eq_eq_not, Bool.not_true, Bool.or_eq_false_iff, decide_eq_false_iff_not]
    omega
  unfold rangeWalk chunksWalk
  simp only [h]
  split <;> rfl

theorem addressed_eq (base : Nat) (d : Bytes) (off len : Int) :
    addressed base d off len =
      if off < 0 ∨ len < 0 then none
      else if base ≤ off.toNat ∧ off.toNat < base + d.length then some (slice d (off.toNat - base) len.toNat)
      else none := by
  unfold addressed
  by_cases hneg : off < 0 ∨ len < 0
  · rw [if_pos hneg, if_neg (by omega)]
  · rw [if_neg hneg]
    by_cases hin : base ≤ off.toNat ∧ off.toNat < base + d.length
    · rw [if_pos hin, if_pos (by omega)]
    · rw [if_neg hin, if_neg (by omega)]

def merge (b1 b2 : Block) : Block := ⟨b1.base, b1.data ++ b2.data⟩

/-- `hpast`: after a block was consumed `off` is not inside `b2` (there only the merged walk goes on) -/
theorem walk_contig_step (b1 b2 : Block) (rest : List Block) (hc : b2.base = b1.base + b1.size)
    (hs1 : 0 < b1.size) (hs2 : 0 < b2.size) (off len : Nat) (past : Bool)
    (hpast : past = true → off ≤ b1.base) :
    walk (b1 :: b2 :: rest) off len past = walk (merge b1 b2 :: rest) off len past := by
  have hms : (merge b1 b2).size = b1.size + b2.size := List.length_append
  have hmb : (merge b1 b2).base = b1.base := rfl
  have hmd : (merge b1 b2).data = b1.data ++ b2.data := rfl
  have hl1 : b1.data.length = b1.size := rfl
  by_cases hin1 : b1.base ≤ off ∧ off < b1.base + b1.size
  · -- the range starts in `b1`, at distance `i`: the merged chunk is the `b1` part followed by the `b2` part
    obtain ⟨i, rfl⟩ := Nat.exists_eq_add_of_le hin1.1
    have hi : i < b1.size := Nat.lt_of_add_lt_add_left hin1.2
    rw [walk_in b1 _ i len past hi,
      show walk (merge b1 b2 :: rest) (b1.base + i) len past = _ from
        walk_in (merge b1 b2) rest i len past (hms ▸ Nat.lt_add_right _ hi),
      hms, hmd, hmb, slice_append_left _ _ _ _ (Nat.le_of_lt hi),
      List.drop_append_of_le_length (Nat.le_of_lt hi), hl1]
    by_cases hb1 : i + len ≤ b1.size
    · rw [if_pos hb1, if_pos (Nat.le_trans hb1 (Nat.le_add_right _ _)), Nat.sub_eq_zero_of_le hb1]
      exact congrArg some (List.append_nil _).symm
    · rw [if_neg hb1, slice_eq_drop _ _ _ (Nat.le_of_not_le hb1),
        show walk (b2 :: rest) (b1.base + b1.size) (i + len - b1.size) true = _ from
          hc ▸ walk_in b2 rest 0 (i + len - b1.size) true hs2,
        Nat.zero_add, Nat.sub_sub, Nat.add_assoc]
      simp only [Nat.sub_le_iff_le_add']
      split
      · rfl
      · cases walk rest (b1.base + (b1.size + b2.size)) (i + len - (b1.size + b2.size)) true with
        | none => rfl
        | some r => exact congrArg some (List.append_assoc _ _ _).symm
  · rw [walk_out b1 _ off len past hin1]
    cases past with
    | true =>
      rw [walk_out _ _ off len true (by have := hpast rfl; omega)]
      rfl
    | false =>
      rw [if_neg Bool.false_ne_true]
      by_cases hin2 : b2.base ≤ off ∧ off < b2.base + b2.size
      · obtain ⟨j, rfl⟩ := Nat.exists_eq_add_of_le hin2.1
        have hj : j < b2.size := Nat.lt_of_add_lt_add_left hin2.2
        rw [walk_in b2 rest j len false hj,
          show walk (merge b1 b2 :: rest) (b2.base + j) len false = _ from
            (hc ▸ Nat.add_assoc _ _ _) ▸
              walk_in (merge b1 b2) rest (b1.size + j) len false (hms ▸ Nat.add_lt_add_left hj _),
          hms, hmd, hmb, ← hl1, slice_append_right, List.drop_length_add_append, hl1, ← Nat.add_assoc b1.base, ← hc]
        simp only [Nat.add_assoc, Nat.add_le_add_iff_left, Nat.add_sub_add_left]
      · rw [walk_out b2 rest off len false hin2, walk_out _ _ off len false (by omega)]

theorem walk_contig_prefix (pre : List Block) (b1 b2 : Block) (rest : List Block)
    (hc : b2.base = b1.base + b1.size) (hs1 : 0 < b1.size) (hs2 : 0 < b2.size)
    (hpre : ∀ p ∈ pre, p.base + p.size ≤ b1.base) (off len : Nat) (past : Bool)
    (hpast : past = true → off ≤ b1.base) :
    walk (pre ++ b1 :: b2 :: rest) off len past = walk (pre ++ merge b1 b2 :: rest) off len past := by
  induction pre generalizing off len past with
  | nil => exact walk_contig_step b1 b2 rest hc hs1 hs2 off len past hpast
  | cons p pre ih =>
    have ih := ih (fun q hq => hpre q (List.mem_cons_of_mem _ hq))
    by_cases hin : p.base ≤ off ∧ off < p.base + p.size
    · obtain ⟨i, rfl⟩ := Nat.exists_eq_add_of_le hin.1
      have hi : i < p.size := Nat.lt_of_add_lt_add_left hin.2
      rw [List.cons_append, List.cons_append, walk_in p _ i len past hi, walk_in p _ i len past hi,
        ih _ _ true (fun _ => hpre p List.mem_cons_self)]
    · rw [List.cons_append, List.cons_append, walk_out p _ off len past hin, walk_out p _ off len past hin,
        ih off len false Bool.false_ne_true.elim]

theorem walkLoop_head_empty (bs : List Block) (off len : Nat) (past : Bool) (cs : List Bytes)
    (h : walkLoop bs off len past = some ([] :: cs)) : cs = [] := by
  -- cases: no block left 1 (one entered) 2 (none); `off` in `b` 3 (range ends) 4 (goes on); not in `b` 5 (one entered: a gap) 6 (skipped)
  fun_induction walkLoop bs off len past with
  | case1 | case2 | case5 => cases h
  | case3 => exact (List.cons.inj (Option.some.inj h)).2.symm
  | case4 b bs off len _ hin hgo =>
    -- `off` is inside `b`, so an empty chunk means `len = 0`, and then the walk stops at `b`
    obtain ⟨r, _, he⟩ := Option.map_eq_some_iff.1 h
    have hd : 0 < b.size - (off - b.base) := Nat.sub_pos_of_lt (Nat.sub_lt_left_of_lt_add hin.1 hin.2)
    have := congrArg List.length (List.cons.inj he).1
    rw [Block.chunk, List.length_take, List.length_drop, List.length_nil, ← Block.size] at this
    have h0 : b.dlen off len = 0 := (Nat.min_eq_zero_iff.1 this).resolve_right (Nat.ne_of_gt hd)
    have hl : len = 0 := (Nat.min_eq_zero_iff.1 h0).resolve_right (Nat.ne_of_gt hd)
    rw [h0, hl] at hgo
    exact absurd (Nat.le_of_lt hin.2) hgo
  | case6 _ _ _ _ _ _ _ ih => exact ih h

/-! Every `data_*` function of hash.c and math.c runs its per-byte loop inside the walker, carrying
its state from block to block: it is a function `F` of the chunk list. -/

theorem chunksWalk_map {β : Type} (F : List Bytes → β) (G : Bytes → β) (blocks : List Block) (off len : Int)
    (h : ∀ cs, chunksWalk blocks off len = some cs → F cs = G cs.flatten) :
    (chunksWalk blocks off len).map F = (rangeWalk blocks off len).map G := by
  unfold rangeWalk
  cases hw : chunksWalk blocks off len with
  | none => rfl
  | some cs => exact congrArg some (h cs hw)

theorem chunksWalk_bind {β : Type} (F : List Bytes → Option β) (G : Bytes → Option β) (blocks : List Block)
    (off len : Int) (h : ∀ cs, chunksWalk blocks off len = some cs → F cs = G cs.flatten) :
    (chunksWalk blocks off len).bind F = (rangeWalk blocks off len).bind G := by
  unfold rangeWalk
  cases hw : chunksWalk blocks off len with
  | none => rfl
  | some cs => exact h cs hw

theorem chunksWalk_fold {α β : Type} (f : α → UInt8 → α) (a : α) (g : α → β) (blocks : List Block)
    (off len : Int) :
    (chunksWalk blocks off len).map (fun cs => g (cs.foldl (fun s ch => ch.foldl f s) a)) =
      (rangeWalk blocks off len).map fun bs => g (bs.foldl f a) :=
  chunksWalk_map _ _ blocks off len fun cs _ => by rw [List.foldl_flatten]

end YaraModel.HM
