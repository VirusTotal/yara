/- Value level of `compile_correct_partial` (Thm/C04.lean): a specification value has a VM word (`toVm`), and on the words of
   values that have the shape of their static type (`ValOk`, from `WF` by `wf_typed`) every opcode computes the word of the
   specification's operator.  Names: `vmBin_*` / `vmUn_*` are normal forms of the generated opcodes (undefined-strict + an
   operator on words); `vm_*` a generated opcode on the words of typed values (`vm_and`, `vm_or`: on any words); `w_*` the same for the hand-modelled
   instructions (match lists, `of`, `P% of`); `tw_*` are about truth words (`TruthWord`). -/
import YaraModel.Lemmas.Cond
namespace YaraModel.CondCompile
open YaraModel.C YaraModel.Cond YaraModel.CondVm YaraModel.Gen.VmOps

variable {fo : FloatOps}


theorem isU_toVm {t : Ty} {v : Val} (h : ValOk t v) : isU (toVm v) = v.isUndef := by
  cases t with
  | int =>
    rcases h with rfl | ⟨i, rfl, hi⟩
    · rfl
    · simp [isUndef_of_ne hi, Val.isUndef]
  | str =>
    rcases h with rfl | ⟨s, rfl⟩
    · rfl
    · simp [encSS, isUndef_encPtr, Val.isUndef]
  | bool =>
    rcases h with rfl | ⟨b, rfl⟩
    · rfl
    · simp [isUndef_b2i, Val.isUndef]
  | flt =>
    rcases h with rfl | ⟨w, rfl, hw⟩
    · rfl
    · simp [isUndef_of_ne hw, Val.isUndef]

theorem vFoundAt_ok (ms : List (Int × Int)) (v : Val) : ValOk .bool (vFoundAt ms v) := by
  unfold vFoundAt; split <;> first | exact Or.inr ⟨_, rfl⟩ | exact Or.inl rfl

theorem vFoundIn_ok (ms : List (Int × Int)) (a b : Val) : ValOk .bool (vFoundIn ms a b) := by
  unfold vFoundIn; split <;> first | exact Or.inr ⟨_, rfl⟩ | exact Or.inl rfl

theorem vCmp_ok (op : CmpOp) (a b : Val) : ValOk .bool (vCmp fo op a b) := by
  unfold vCmp; split <;> first | exact Or.inr ⟨_, rfl⟩ | exact Or.inl rfl

theorem vStrOp_ok (op : StrOp) (a b : Val) : ValOk .bool (vStrOp op a b) := by
  unfold vStrOp; split <;> first | exact Or.inr ⟨_, rfl⟩ | exact Or.inl rfl

theorem vMatches_ok (re : Bytes) (nc : Bool) (v : Val) : ValOk .bool (vMatches re nc v) := by
  unfold vMatches; split <;> first | exact Or.inr ⟨_, rfl⟩ | exact Or.inl rfl

theorem vNot_ok (v : Val) : ValOk .bool (vNot v) := by
  unfold vNot; split <;> first | exact Or.inr ⟨_, rfl⟩ | exact Or.inl rfl

theorem quantHolds_ok (q : Quant) (t n : Nat) : ValOk .bool (quantHolds q t n) := by
  cases q <;> simp [quantHolds, ValOk]

theorem pctHolds_ok (t n : Nat) (v : Val) : ValOk .bool (pctHolds t n v) := by
  cases v <;> simp [pctHolds, ValOk]

theorem loopHolds_ok (q : Quant) (t n : Nat) : ValOk .bool (loopHolds q t n) := by
  cases q <;> simp only [loopHolds] <;> (try split) <;> simp [quantHolds, ValOk]

theorem wf_typed (env : Env) (c : Ctx) (l : LEnv) (e : Expr) (h : WF env c l e) :
    ValOk (tyOf c e) (eval env l e) := by
  cases e with
  | int v | flt v => exact Or.inr ⟨v, by simp [eval], by simpa [WF] using h⟩
  | str s => exact Or.inr ⟨s, by simp [eval]⟩
  | filesize => exact Or.inr ⟨env.filesize, by simp [eval], by simpa [WF] using h⟩
  | ext n => simpa [WF, tyOf, eval] using h
  | var k => simp only [WF] at h; simpa [tyOf, eval] using h.2
  | undefOf t => cases t <;> simp [tyOf, eval, ValOk]
  | count s => simp only [tyOf, eval]; exact Or.inr ⟨_, rfl, by simp [UNDEF] <;> omega⟩
  | countIn s lo hi =>
    simp only [tyOf, eval, vCountIn]
    split
    · exact Or.inr ⟨_, rfl, by simp [UNDEF] <;> omega⟩
    · exact Or.inl rfl
  -- for these the clause is part of `WF` (no sentinel collision is assumed, not proved)
  | offset s i | length s i => simp only [WF] at h; simpa [tyOf] using h.2.2.2
  | read k off => simp only [WF] at h; simpa [tyOf] using h.2.2.1
  | neg e | bnot e => simp only [WF] at h; simpa [tyOf] using h.2.2
  | arith op a b =>
    simp only [WF] at h
    exact h.2.2.2.2.1
  | tt | ff | found s => simp only [tyOf, eval]; exact Or.inr ⟨_, rfl⟩
  | foundAt s p => simp only [tyOf, eval]; exact vFoundAt_ok _ _
  | foundIn s lo hi => simp only [tyOf, eval]; exact vFoundIn_ok _ _ _
  | cmp op a b => simp only [tyOf, eval]; exact vCmp_ok _ _ _
  | strop op a b => simp only [tyOf, eval]; exact vStrOp_ok _ _ _
  | «matches» a re nc => simp only [tyOf, eval]; exact vMatches_ok _ _ _
  | not e => simp only [tyOf, eval]; exact vNot_ok _
  | defined e => simp only [tyOf, eval, vDefined]; exact Or.inr ⟨_, rfl⟩
  | and a b => simp only [tyOf, eval, vAnd]; exact Or.inr ⟨_, rfl⟩
  | or a b => simp only [tyOf, eval, vOr]; exact Or.inr ⟨_, rfl⟩
  | ruleRef k => simp only [tyOf, eval]; split; exact Or.inl rfl; exact Or.inr ⟨_, rfl⟩
  | ofStr q qe set | ofRules q qe set => simp only [tyOf, eval]; exact quantHolds_ok _ _ _
  | ofStrIn q qe set lo hi | ofStrAt q qe set pos =>
    simp only [tyOf, eval]
    split
    · exact quantHolds_ok _ _ _
    · exact Or.inl rfl
  | pctStr p set | pctRules p set => simp only [tyOf, eval]; exact pctHolds_ok _ _ _
  | forRange q qe lo hi body | forEnum q qe items body | forOf q qe set body =>
    simp only [tyOf, eval]; exact loopHolds_ok _ _ _

/-! `prim` dispatches on the C text of the operand expression (`readerOf`, `primDbl`, `primPure`, in this order).  Which stage each
text reaches is a finite fact about the generated table, evaluated once (`prim_table`); the value lemmas below never unfold `prim`. -/

theorem neg1 : C.neg 1 = -1 := by decide

theorem toVm_ite (c : Prop) [Decidable c] (x y : Val) : toVm (if c then x else y) = if c then toVm x else toVm y :=
  apply_ite toVm c x y

theorem vmBin_arithInt {prim : String → List Int → Int} (op : ArOp) (a b : Int) :
    vmBin prim (arithOp .int op) a b = if isUndef b then UNDEF else if isUndef a then UNDEF else toVm (arithInt op a b) := by
  cases op <;> simp only [arithOp, arithInt, toVm_ite] <;> simp [vmBin, neg1]

theorem vmBin_cmpInt {prim : String → List Int → Int} (op : CmpOp) (a b : Int) :
    vmBin prim (cmpOp .int op) a b = if isUndef b then UNDEF else if isUndef a then UNDEF else b2i (cmpInt op a b) := by
  cases op <;> simp [cmpOp, vmBin, cmpInt, bne, Bool.beq_eq_decide_eq]

/-- the C texts `primDbl` answers to -/
def dblNames : List String :=
  ["-r1.d", "(r1.d+r2.d)", "(r1.d-r2.d)", "(r1.d*r2.d)", "(r1.d/r2.d)", "(r1.d<r2.d)", "(r1.d>r2.d)", "(r1.d<=r2.d)",
   "(r1.d>=r2.d)", "(fabs((r1.d-r2.d))<DBL_EPSILON)", "(fabs((r1.d-r2.d))>=DBL_EPSILON)"]

/-- the C texts `primPure` answers to -/
def ssNames : List String :=
  ["(r1.ss->length>0)", "(ss_compare(r1.ss,r2.ss)==0)", "(ss_compare(r1.ss,r2.ss)!=0)", "(ss_compare(r1.ss,r2.ss)<0)",
   "(ss_compare(r1.ss,r2.ss)<=0)", "(ss_compare(r1.ss,r2.ss)>0)", "(ss_compare(r1.ss,r2.ss)>=0)", "ss_contains(r1.ss,r2.ss)",
   "ss_icontains(r1.ss,r2.ss)", "ss_startswith(r1.ss,r2.ss)", "ss_istartswith(r1.ss,r2.ss)", "ss_endswith(r1.ss,r2.ss)",
   "ss_iendswith(r1.ss,r2.ss)", "(ss_icompare(r1.ss,r2.ss)==0)"]

def rdKinds : List RdKind := [.i8, .i16, .i32, .u8, .u16, .u32, .i8be, .i16be, .i32be, .u8be, .u16be, .u32be]

theorem vmUn_readOp (k : RdKind) : ∃ name, ∀ (p : String → List Int → Int) (w : Int), vmUn p (readOp k) w = p name [w] := by
  cases k <;> exact ⟨_, fun _ _ => rfl⟩

/-- One `decide`, so that the string comparisons inside `readerOf` share the reader names built from `Gen.ReadFn.readers`.  The reader opcodes are not
    listed by text: the third conjunct runs the generated `vmUn` with a probe in place of `prim` — a closed function that
    answers 1 exactly when the text it is handed is the reader's of `k`'s size, signedness and byte order.  By `vmUn_readOp`
    the probe sees the very text the real `prim` gets, so `vmUn_read` can transfer the answer without ever naming the text. -/
theorem prim_table :
    (∀ n ∈ ssNames, readerOf n = none ∧ n ∉ dblNames) ∧ (∀ n ∈ dblNames, readerOf n = none) ∧
    (∀ k ∈ rdKinds, vmUn (fun n _ => b2i (readerOf n == some (rdSize k, rdSigned k, rdBigEndian k))) (readOp k) 0 = 1) := by
  decide +kernel

theorem primDbl_none {name : String} {args : List Int}
    (h : name ∉ dblNames) :
    primDbl fo name args = none := by
  unfold primDbl
  split <;> first | rfl | simp [dblNames] at h

theorem prim_ss {blocks : List (Nat × Bytes)} {name : String} (args : List Int) (h : name ∈ ssNames) :
    prim fo blocks name args = primPure name args := by
  simp only [prim, (prim_table.1 name h).1, primDbl_none (prim_table.1 name h).2]

theorem prim_dbl {blocks : List (Nat × Bytes)} {name : String} (args : List Int) (h : name ∈ dblNames) :
    prim fo blocks name args = (primDbl fo name args).getD (primPure name args) := by
  simp only [prim, prim_table.2.1 name h]
  cases primDbl fo name args <;> rfl

/- In the proofs below a text is shown to be in `ssNames` / `dblNames` by its position in the list (`List.mem_cons`, `true_or`,
   `or_true`): no string is compared. -/

theorem vmBin_strOpc {blocks : List (Nat × Bytes)} (op : StrOp) (a b : Int) :
    vmBin (prim fo blocks) (strOpc op) a b =
      if isUndef a then UNDEF else if isUndef b then UNDEF else b2i (strOp op (decSS a) (decSS b)) := by
  cases op <;> simp only [strOpc, vmBin] <;>
    rw [prim_ss _ (by simp only [ssNames, List.mem_cons, true_or, or_true]), primPure]

theorem vmBin_cmpStr {blocks : List (Nat × Bytes)} (op : CmpOp) (a b : Int) :
    vmBin (prim fo blocks) (cmpOp .str op) a b =
      if isUndef b then UNDEF else if isUndef a then UNDEF else b2i (cmpStr op (decSS a) (decSS b)) := by
  cases op <;> simp only [cmpOp, vmBin] <;>
    rw [prim_ss _ (by simp only [ssNames, List.mem_cons, true_or, or_true]), primPure]

theorem vmBin_arithFlt {blocks : List (Nat × Bytes)} (op : ArOp) (hop : isFltOp op = true) (a b : Int) :
    vmBin (prim fo blocks) (arithOp .flt op) a b =
      if isUndef b then UNDEF else if isUndef a then UNDEF else toVm (arithFlt fo op a b) := by
  cases op <;> first | (simp [isFltOp] at hop; done) | skip
  all_goals simp only [arithOp, vmBin, beq_iff_eq, reduceCtorEq, if_false, arithFlt, toVm]
  all_goals rw [prim_dbl _ (by simp only [dblNames, List.mem_cons, true_or, or_true]), primDbl, Option.getD_some]

theorem vmBin_cmpFlt {blocks : List (Nat × Bytes)} (op : CmpOp) (a b : Int) :
    vmBin (prim fo blocks) (cmpOp .flt op) a b =
      if isUndef b then UNDEF else if isUndef a then UNDEF else b2i (cmpFlt fo op a b) := by
  cases op <;> simp only [cmpOp, vmBin] <;>
    rw [prim_dbl _ (by simp only [dblNames, List.mem_cons, true_or, or_true]), primDbl, Option.getD_some]

theorem vmUn_strToBool {blocks : List (Nat × Bytes)} (a : Int) :
    vmUn (prim fo blocks) .OP_STR_TO_BOOL a = if isUndef a then UNDEF else b2i (!(decSS a).isEmpty) := by
  simp only [vmUn]
  rw [prim_ss _ (by simp only [ssNames, List.mem_cons, true_or]), primPure]

theorem vmUn_dblMinus {blocks : List (Nat × Bytes)} (a : Int) :
    vmUn (prim fo blocks) .OP_DBL_MINUS a = if isUndef a then UNDEF else fo.neg a := by
  simp only [vmUn]
  rw [prim_dbl _ (by simp only [dblNames, List.mem_cons, true_or]), primDbl, Option.getD_some]

theorem vmUn_read {blocks : List (Nat × Bytes)} (k : RdKind) (w : Int) :
    vmUn (prim fo blocks) (readOp k) w = readPrim blocks (rdSize k) (rdSigned k) (rdBigEndian k) w := by
  obtain ⟨name, hn⟩ := vmUn_readOp k
  have hk := prim_table.2.2 k (by cases k <;> decide)
  rw [hn] at hk ⊢
  cases h : readerOf name == some (rdSize k, rdSigned k, rdBigEndian k)
  · rw [h] at hk; cases hk
  · exact prim_reader blocks name _ _ _ w (eq_of_beq h)

theorem vm_arith {prim : String → List Int → Int} (op : ArOp) (va vb : Val)
    (ha : ValOk .int va) (hb : ValOk .int vb) :
    vmBin prim (arithOp .int op) (toVm va) (toVm vb) = toVm (vArith fo op va vb) := by
  rw [vmBin_arithInt]
  rcases ha with rfl | ⟨a, rfl, ha⟩ <;> rcases hb with rfl | ⟨b, rfl, hb⟩ <;>
    simp [vArith, isUndef_of_ne, *]

theorem vm_cmp_int {prim : String → List Int → Int} (op : CmpOp) (va vb : Val)
    (ha : ValOk .int va) (hb : ValOk .int vb) :
    vmBin prim (cmpOp .int op) (toVm va) (toVm vb) = toVm (vCmp fo op va vb) := by
  rw [vmBin_cmpInt]
  rcases ha with rfl | ⟨a, rfl, ha⟩ <;> rcases hb with rfl | ⟨b, rfl, hb⟩ <;>
    simp [vCmp, isUndef_of_ne, *]

theorem vm_cmp_str {blocks : List (Nat × Bytes)} (op : CmpOp) (va vb : Val)
    (ha : ValOk .str va) (hb : ValOk .str vb) :
    vmBin (prim fo blocks) (cmpOp .str op) (toVm va) (toVm vb) = toVm (vCmp fo op va vb) := by
  rw [vmBin_cmpStr]
  rcases ha with rfl | ⟨a, rfl⟩ <;> rcases hb with rfl | ⟨b, rfl⟩ <;>
    simp [vCmp, isUndef_encSS, decSS_encSS]

theorem vm_strop {blocks : List (Nat × Bytes)} (op : StrOp) (va vb : Val)
    (ha : ValOk .str va) (hb : ValOk .str vb) :
    vmBin (prim fo blocks) (strOpc op) (toVm va) (toVm vb) = toVm (vStrOp op va vb) := by
  rw [vmBin_strOpc]
  rcases ha with rfl | ⟨a, rfl⟩ <;> rcases hb with rfl | ⟨b, rfl⟩ <;>
    simp [vStrOp, isUndef_encSS, decSS_encSS]

theorem vm_neg {prim : String → List Int → Int} (va : Val) (ha : ValOk .int va) :
    vmUn prim .OP_INT_MINUS (toVm va) = toVm (vNeg fo va) := by
  rcases ha with rfl | ⟨a, rfl, ha⟩ <;> simp [vmUn, vNeg, isUndef_of_ne, *]

theorem vm_neg_flt {blocks : List (Nat × Bytes)} (va : Val) (ha : ValOk .flt va) :
    vmUn (prim fo blocks) .OP_DBL_MINUS (toVm va) = toVm (vNeg fo va) := by
  rw [vmUn_dblMinus]
  rcases ha with rfl | ⟨w, rfl, hw⟩ <;> simp [vNeg, isUndef_of_ne, *]

theorem vm_bnot {prim : String → List Int → Int} (va : Val) (ha : ValOk .int va) :
    vmUn prim .OP_BITWISE_NOT (toVm va) = toVm (vBnot va) := by
  rcases ha with rfl | ⟨a, rfl, ha⟩ <;> simp [vmUn, vBnot, isUndef_of_ne, *]

theorem decodeRd_eq (k : RdKind) (bs : Bytes) :
    decodeRd (rdSize k) (rdSigned k) (rdBigEndian k) bs = decodeInt k bs := by
  simp [decodeRd, decodeInt]

theorem vm_read {blocks : List (Nat × Bytes)} (hb : ∀ b ∈ blocks, b.1 + b.2.length ≤ 9223372036854775808)
    (k : RdKind) (v : Val) (h : ValOk .int v) (hr : ∀ a, v = .int a → C.inRange a) :
    vmUn (prim fo blocks) (readOp k) (toVm v) = toVm (vRead blocks k v) := by
  rw [vmUn_read]
  rcases h with rfl | ⟨a, rfl, ha⟩
  · simp only [toVm, readPrim, undef_offset, readBlocks_sentinel blocks _ hb, vRead]
  · have hin := hr a rfl
    unfold C.inRange C.INT64_MIN C.INT64_MAX at hin
    simp only [toVm, readPrim, vRead]
    by_cases hneg : a < 0
    · have : 9223372036854775808 < (a % W64).toNat + rdSize k := by
        have : 0 < rdSize k := by cases k <;> decide
        unfold W64; omega
      simp [hneg, readBlocks_high blocks _ _ hb this]
    · have h1 : (a % W64).toNat = a.toNat := by unfold W64; omega
      rw [h1, readBlocks_eq_readBytes blocks _ _ (fun b hb' => by have := hb b hb'; omega)]
      simp only [hneg, if_false]
      cases readBytes blocks a.toNat (rdSize k) with
      | none => rfl
      | some bs => simp [decodeRd_eq]

/-- truthiness of a VM word that represents a value of a non-float type, strings already through STR_TO_BOOL -/
def vmTruth (w : Int) : Bool := !isU w && w != 0

/-- the word after the STR_TO_BOOL that `strToBool t` inserts -/
def boolWord (fo : FloatOps) (blocks : List (Nat × Bytes)) (t : Ty) (w : Int) : Int :=
  if t == .str then vmUn (prim fo blocks) .OP_STR_TO_BOOL w else w

/-- the `normW` word of a loop body of value `v` -/
def nbWord (v : Val) : Int := if v.isUndef then UNDEF else b2i (asBool v)

theorem nbWord_bool (v : Val) : nbWord v = 0 ∨ nbWord v = 1 ∨ nbWord v = UNDEF := by
  unfold nbWord
  cases v.isUndef <;> cases asBool v <;> simp [b2i]

theorem nbWord_eq_one (v : Val) : (nbWord v == 1) = asBool v := by
  unfold nbWord
  cases hu : v.isUndef
  · cases asBool v <;> simp [b2i]
  · have : v = .undef := by cases v <;> simp_all [Val.isUndef]
    subst this
    decide

theorem nbWord_cases (v : Val) :
    v = .undef ∧ nbWord v = UNDEF ∨ truthy v = some (asBool v) ∧ v.isUndef = false ∧ nbWord v = b2i (asBool v) := by
  cases v <;> simp [nbWord, Val.isUndef, truthy, asBool]

/-- the word represents the value as a truth value: UNDEF / 0 / non-zero -/
def TruthWord (v : Val) (w : Int) : Prop := normW w = nbWord v

theorem truth_normW (w : Int) : (!isU w && w != 0) = (normW w == 1) := by
  unfold normW; cases h : isU w
  · cases h0 : (w != 0) <;> simp [b2i]
  · rw [show w = UNDEF by simpa [isUndef] using h]; decide

theorem not_normW {prim : String → List Int → Int} (w : Int) : vmUn prim .OP_NOT w = vmUn prim .OP_NOT (normW w) := by
  unfold normW; cases h : isU w
  · have h' : isUndef w = false := h
    simp only [vmUn, h', Bool.false_eq_true, if_false, isUndef_b2i]
    by_cases h0 : w = 0 <;> simp [h0, b2i]
  · rfl

theorem defined_normW {prim : String → List Int → Int} (w : Int) :
    vmUn prim .OP_DEFINED w = vmUn prim .OP_DEFINED (normW w) := by
  unfold normW; cases h : isU w
  · simp [vmUn, show isUndef w = false from h, isUndef_b2i]
  · rfl

theorem boolWord_spec {blocks : List (Nat × Bytes)} (t : Ty) (v : Val) (h : ValOk t v) :
    TruthWord v (boolWord fo blocks t (toVm v)) := by
  unfold TruthWord
  cases t with
  | int =>
    rcases h with rfl | ⟨i, rfl, hi⟩
    · rfl
    · simp [normW, nbWord, boolWord, isUndef_of_ne hi, Val.isUndef, asBool, truthy]
  | str =>
    rcases h with rfl | ⟨s, rfl⟩
    · simp [normW, nbWord, boolWord, vmUn, Val.isUndef]
    · simp only [boolWord, toVm, vmUn_strToBool, isUndef_encSS, decSS_encSS]
      cases hs : s.isEmpty <;> simp [normW, nbWord, Val.isUndef, asBool, truthy, hs, b2i] <;> decide
  | bool =>
    rcases h with rfl | ⟨b, rfl⟩
    · rfl
    · cases b <;> rfl
  | flt =>
    rcases h with rfl | ⟨w, rfl, hw⟩
    · rfl
    · simp [normW, nbWord, boolWord, isUndef_of_ne hw, Val.isUndef, asBool, truthy]

theorem tw_truth {v : Val} {w : Int} (h : TruthWord v w) : (!isU w && w != 0) = asBool v := by
  rw [truth_normW, h, nbWord_eq_one]

theorem tw_not {prim : String → List Int → Int} {v : Val} {w : Int} (h : TruthWord v w) :
    vmUn prim .OP_NOT w = toVm (vNot v) := by
  rw [not_normW, h]
  rcases nbWord_cases v with ⟨rfl, _⟩ | ⟨h1, _, h3⟩
  · rfl
  · rw [h3, vNot, h1]; cases asBool v <;> rfl

theorem tw_defined {prim : String → List Int → Int} {v : Val} {w : Int} (h : TruthWord v w) :
    vmUn prim .OP_DEFINED w = toVm (vDefined v) := by
  rw [defined_normW, h]
  rcases nbWord_cases v with ⟨rfl, _⟩ | ⟨_, h2, h3⟩
  · rfl
  · rw [h3, vDefined, h2]; cases asBool v <;> rfl

theorem vm_not (blocks : List (Nat × Bytes)) (t : Ty) (v : Val) (h : ValOk t v) :
    vmUn (prim fo blocks) .OP_NOT (boolWord fo blocks t (toVm v)) = toVm (vNot v) :=
  tw_not (boolWord_spec t v h)

theorem vm_defined (blocks : List (Nat × Bytes)) (t : Ty) (v : Val) (h : ValOk t v) :
    vmUn (prim fo blocks) .OP_DEFINED (boolWord fo blocks t (toVm v)) = toVm (vDefined v) :=
  tw_defined (boolWord_spec t v h)

theorem word_truth (blocks : List (Nat × Bytes)) (t : Ty) (v : Val) (h : ValOk t v) :
    (!isU (boolWord fo blocks t (toVm v)) && boolWord fo blocks t (toVm v) != 0) = asBool v :=
  tw_truth (boolWord_spec t v h)

theorem vm_and {prim : String → List Int → Int} (a b : Int) :
    vmBin prim .OP_AND a b = b2i ((!isU a && a != 0) && (!isU b && b != 0)) := by
  simp only [vmBin, isU]
  cases isUndef a <;> cases isUndef b <;> simp [bne, Bool.beq_eq_decide_eq]

theorem vm_or {prim : String → List Int → Int} (a b : Int) :
    vmBin prim .OP_OR a b = b2i ((!isU a && a != 0) || (!isU b && b != 0)) := by
  simp only [vmBin, isU]
  cases isUndef a <;> cases isUndef b <;> simp [bne, Bool.beq_eq_decide_eq]

/-- the word pushed for an expression: the value's word, or — for a boolean-typed expression that is true —
    any defined non-zero word (the short-circuit `or` leaves its left operand's raw word) -/
def WordOK (t : Ty) (v : Val) (w : Int) : Prop :=
  w = toVm v ∨ (t = .bool ∧ v = .bool true ∧ isU w = false ∧ w ≠ 0)

theorem WordOK.exact {t : Ty} {v : Val} {w : Int} (h : WordOK t v w) (ht : t ≠ .bool) : w = toVm v := by
  rcases h with h | ⟨h, _⟩
  · exact h
  · exact absurd h ht

theorem truthWord_boolpos {blocks : List (Nat × Bytes)} (t : Ty) (v : Val) (w : Int) (hv : ValOk t v)
    (h : WordOK t v w) : TruthWord v (boolWord fo blocks t w) := by
  rcases h with rfl | ⟨rfl, rfl, hu, hz⟩
  · exact boolWord_spec t v hv
  · simp [TruthWord, boolWord, normW, show isUndef w = false from hu, bne_iff_ne.mpr hz, nbWord, Val.isUndef, asBool, truthy]

theorem ms_enc (env : Env) (n : Nat) : matchesOfStr env (encStr n) = env.strs.getD n [] := by
  simp [matchesOfStr, decStr_encStr]

theorem w_countIn (ms : List (Int × Int)) (vlo vhi : Val) (hlo : ValOk .int vlo) (hhi : ValOk .int vhi) :
    (if isU (toVm vlo) || isU (toVm vhi) then UNDEF
     else ((ms.countP (inRange (toVm vlo) (toVm vhi)) : Nat) : Int)) = toVm (vCountIn ms vlo vhi) := by
  rcases hlo with rfl | ⟨a, rfl, ha⟩ <;> rcases hhi with rfl | ⟨b, rfl, hb⟩ <;>
    simp [isUndef_of_ne, vCountIn, *]

theorem w_foundIn (ms : List (Int × Int)) (vlo vhi : Val) (hlo : ValOk .int vlo) (hhi : ValOk .int vhi) :
    (if isU (toVm vlo) || isU (toVm vhi) then UNDEF
     else b2i (ms.any (inRange (toVm vlo) (toVm vhi)))) = toVm (vFoundIn ms vlo vhi) := by
  rcases hlo with rfl | ⟨a, rfl, ha⟩ <;> rcases hhi with rfl | ⟨b, rfl, hb⟩ <;>
    simp [isUndef_of_ne, vFoundIn, *]

theorem w_foundAt (ms : List (Int × Int)) (vx : Val) (hx : ValOk .int vx) :
    (if isU (toVm vx) then UNDEF else b2i (ms.any fun m => m.1 == toVm vx)) = toVm (vFoundAt ms vx) := by
  rcases hx with rfl | ⟨a, rfl, ha⟩ <;> simp [isUndef_of_ne, vFoundAt, *]

theorem w_offset (ms : List (Int × Int)) (vx : Val) (hx : ValOk .int vx) :
    (if isU (toVm vx) then UNDEF else nthOff ms (toVm vx)) = toVm (vOffset ms vx) := by
  rcases hx with rfl | ⟨a, rfl, ha⟩
  · simp [vOffset]
  · simp only [toVm, isU, isUndef_of_ne ha, vOffset, nthOff]
    cases nth ms a <;> simp

theorem w_length (ms : List (Int × Int)) (vx : Val) (hx : ValOk .int vx) :
    (if isU (toVm vx) then UNDEF else nthLen ms (toVm vx)) = toVm (vLength ms vx) := by
  rcases hx with rfl | ⟨a, rfl, ha⟩
  · simp [vLength]
  · simp only [toVm, isU, isUndef_of_ne ha, vLength, nthLen]
    cases nth ms a <;> simp

theorem w_matches (re : Bytes) (nc : Bool) (va : Val) (ha : ValOk .str va) :
    (if isU (encRe re nc) || isU (toVm va) then UNDEF else matchWord (encRe re nc) (toVm va))
      = toVm (vMatches re nc va) := by
  have h1 : isUndef (encRe re nc) = false := isUndef_encPtr _ _
  rcases ha with rfl | ⟨a, rfl⟩
  · simp [vMatches]
  · have h2 := isUndef_encSS a
    simp [h1, h2, matchWord, decRe_encRe, decSS_encSS, vMatches]

/-- the word `quantCode` pushes -/
def quantWord (q : QKind) (w : Int) : Int :=
  match q with
  | .all => UNDEF
  | .any => 1
  | .none => 0
  | .num => w

theorem w_of_def (k : Int) (hk : isUndef k = false) (t n : Nat) :
    ofResult k t n = toVm (quantHolds (if k == 0 then .none else .atLeast k) t n) := by
  by_cases h0 : k = 0
  · subst h0; rfl
  · simp [ofResult, hk, quantHolds, h0]

theorem w_of (q : QKind) (vq : Val) (t n : Nat) (htn : t ≤ n)
    (hq : q = .num → ValOk .int vq ∧ vq ≠ .undef) :
    ofResult (quantWord q (toVm vq)) t n
      = toVm (quantHolds (quantOf q vq) t n) := by
  cases q with
  | all =>
    -- the undefined word asks for all: `t ≥ n` is `t = n` since `t ≤ n`
    have hd : decide (t ≥ n) = (t == n) := by
      rw [Bool.beq_eq_decide_eq]; exact decide_eq_decide.mpr (by omega)
    simp only [quantWord, ofResult, isU, isUndef_UNDEF, if_true, quantOf, quantHolds, toVm, hd]
  | any => exact w_of_def 1 (by decide) t n
  | none => exact w_of_def 0 (by decide) t n
  | num =>
    obtain ⟨rfl | ⟨k, rfl, hk⟩, hne⟩ := hq rfl
    · exact absurd rfl hne
    · exact w_of_def k (isUndef_of_ne hk) t n

theorem quantOf_ne_undef {q : QKind} {vq : Val} (hq : q = .num → ValOk .int vq ∧ vq ≠ .undef) : quantOf q vq ≠ .undef := by
  cases q with
  | num =>
    obtain ⟨rfl | ⟨k, rfl, _⟩, hne⟩ := hq rfl
    · exact absurd rfl hne
    · simp only [quantOf]; split <;> nofun
  | _ => nofun

theorem floor_ge_iff (a n : Nat) (k : Int) (hn : 0 < n) : (((a / n : Nat) : Int) ≥ k) ↔ ((a : Int) ≥ k * (n : Int)) := by
  rw [Int.natCast_ediv]
  exact Int.le_ediv_iff_mul_le (by omega)

/-- OP_OF_PERCENT (`found * 100 / count >= P` in integer arithmetic) against the specification's exact `P%`, for every integer P -/
theorem w_pct (vq : Val) (t n : Nat) (hn : n ≠ 0) (hv : ValOk .int vq) :
    pctResult (toVm vq) t n = toVm (pctHolds t n vq) := by
  rcases hv with rfl | ⟨k, rfl, hk⟩
  · simp [pctResult, pctHolds]
  · have hn0 : (n == 0) = false := by simp [hn]
    simp only [pctResult, toVm, pctHolds, isU, isUndef_of_ne hk, hn0, Bool.or_self, Bool.false_eq_true, if_false]
    congr 1
    apply decide_eq_decide.mpr
    have := floor_ge_iff (t * 100) n k (by omega)
    simpa using this

theorem count_strset (env : Env) (set : List Nat) (p : List (Int × Int) → Bool) :
    (set.map encStr).countP (fun sv => p (matchesOfStr env sv)) = set.countP (fun n => p (env.strs.getD n [])) := by
  rw [List.countP_map]
  congr 1
  funext n
  simp [ms_enc]

theorem count_ruleset (env : Env) (set : List Nat) :
    (set.map fun k => b2i (env.ruleMatched k)).countP (fun v => v != 0) = set.countP env.ruleMatched := by
  rw [List.countP_map]
  congr 1
  funext k
  simp only [Function.comp]
  cases env.ruleMatched k <;> simp [b2i]

/-- the word OP_INT_TO_DBL leaves in a slot -/
def promoteW (fo : FloatOps) (w : Int) : Int := if isU w then UNDEF else fo.ofInt w

/-- the operand words after the conversions `conv ta tb` inserts (INT_TO_DBL 2 = the left operand, 1 = the right one) -/
def convA (fo : FloatOps) (ta tb : Ty) (wa : Int) : Int := if ta == .int && tb == .flt then promoteW fo wa else wa
def convB (fo : FloatOps) (ta tb : Ty) (wb : Int) : Int := if ta == .flt && tb == .int then promoteW fo wb else wb

def asDbl (fo : FloatOps) : Val → Option Int
  | .flt w => some w
  | .int i => some (fo.ofInt i)
  | _ => none

/-- one operand of a double operation, promoted (`p`) or not -/
theorem dbl_operand (p : Bool) {t : Ty} {v : Val} (hv : ValOk t v) (hp : p = true → t = .int) (hn : p = false → t = .flt)
    (hpo : p = true → ∀ i, v = .int i → fo.ofInt i ≠ UNDEF) :
    v = .undef ∧ (if p then promoteW fo (toVm v) else toVm v) = UNDEF ∨
    ∃ x, asDbl fo v = some x ∧ (if p then promoteW fo (toVm v) else toVm v) = x ∧ x ≠ UNDEF := by
  cases p
  · cases hn rfl
    rcases hv with rfl | ⟨w, rfl, hw⟩
    · left; simp
    · right; exact ⟨w, rfl, by simp, hw⟩
  · cases hp rfl
    rcases hv with rfl | ⟨i, rfl, hi⟩
    · left; simp [promoteW]
    · right; exact ⟨fo.ofInt i, rfl, by simp [promoteW, isUndef_of_ne hi], hpo rfl i rfl⟩

/-- each converted operand is UNDEF or its double; on doubles `vArith`, `vCmp` are `arithFlt`, `cmpFlt` -/
theorem conv_words (ta tb : Ty) (va vb : Val) (hta : ta = .int ∨ ta = .flt) (htb : tb = .int ∨ tb = .flt)
    (hne : ¬ (ta = .int ∧ tb = .int)) (ha : ValOk ta va) (hb : ValOk tb vb) (hp : promoOk fo ta tb va vb) :
    (va = .undef ∧ convA fo ta tb (toVm va) = UNDEF ∨ ∃ x, asDbl fo va = some x ∧ convA fo ta tb (toVm va) = x ∧ x ≠ UNDEF) ∧
    (vb = .undef ∧ convB fo ta tb (toVm vb) = UNDEF ∨ ∃ y, asDbl fo vb = some y ∧ convB fo ta tb (toVm vb) = y ∧ y ≠ UNDEF) ∧
    (∀ x y, asDbl fo va = some x → asDbl fo vb = some y →
      (∀ op, isFltOp op = true → vArith fo op va vb = arithFlt fo op x y) ∧ ∀ op, vCmp fo op va vb = .bool (cmpFlt fo op x y)) := by
  refine ⟨dbl_operand (ta == .int && tb == .flt) ha ?_ ?_ ?_, dbl_operand (ta == .flt && tb == .int) hb ?_ ?_ ?_, ?_⟩
  · intro h; simp at h; exact h.1
  · intro h; rcases hta with rfl | rfl <;> rcases htb with rfl | rfl <;> simp_all
  · intro h i; simp at h; exact hp.1 h.1 h.2 i
  · intro h; simp at h; exact h.2
  · intro h; rcases hta with rfl | rfl <;> rcases htb with rfl | rfl <;> simp_all
  · intro h i; simp at h; exact hp.2 h.1 h.2 i
  · intro x y hx hy
    rcases hta with rfl | rfl <;> rcases htb with rfl | rfl <;> rcases ha with rfl | ⟨_, rfl, _⟩ <;>
      rcases hb with rfl | ⟨_, rfl, _⟩ <;> simp [asDbl] at hx hy hne
    all_goals
      subst hx; subst hy
      exact ⟨fun op hop => by cases op <;> simp [isFltOp] at hop <;> rfl, fun op => rfl⟩

theorem vArith_undef_left (op : ArOp) (v : Val) : vArith fo op .undef v = .undef := by cases v <;> rfl
theorem vArith_undef_right (op : ArOp) (v : Val) : vArith fo op v .undef = .undef := by cases v <;> rfl
theorem vCmp_undef_left (op : CmpOp) (v : Val) : vCmp fo op .undef v = .undef := by cases v <;> rfl
theorem vCmp_undef_right (op : CmpOp) (v : Val) : vCmp fo op v .undef = .undef := by cases v <;> rfl

theorem vm_arith_flt {blocks : List (Nat × Bytes)} (op : ArOp) (hop : isFltOp op = true) (ta tb : Ty) (va vb : Val)
    (hta : ta = .int ∨ ta = .flt) (htb : tb = .int ∨ tb = .flt) (hne : ¬ (ta = .int ∧ tb = .int))
    (ha : ValOk ta va) (hb : ValOk tb vb) (hp : promoOk fo ta tb va vb) :
    vmBin (prim fo blocks) (arithOp .flt op) (convA fo ta tb (toVm va)) (convB fo ta tb (toVm vb)) = toVm (vArith fo op va vb) := by
  obtain ⟨h1, h2, h3⟩ := conv_words (fo := fo) ta tb va vb hta htb hne ha hb hp
  rw [vmBin_arithFlt op hop]
  rcases h1 with ⟨rfl, e1⟩ | ⟨x, hx, e1, nx⟩
  · rw [e1, vArith_undef_left]
    simp
  · rcases h2 with ⟨rfl, e2⟩ | ⟨y, hy, e2, ny⟩
    · rw [e2, vArith_undef_right]
      simp
    · rw [e1, e2, (h3 x y hx hy).1 op hop]
      simp [isUndef_of_ne nx, isUndef_of_ne ny]

theorem vm_cmp_flt {blocks : List (Nat × Bytes)} (op : CmpOp) (ta tb : Ty) (va vb : Val)
    (hta : ta = .int ∨ ta = .flt) (htb : tb = .int ∨ tb = .flt) (hne : ¬ (ta = .int ∧ tb = .int))
    (ha : ValOk ta va) (hb : ValOk tb vb) (hp : promoOk fo ta tb va vb) :
    vmBin (prim fo blocks) (cmpOp .flt op) (convA fo ta tb (toVm va)) (convB fo ta tb (toVm vb)) = toVm (vCmp fo op va vb) := by
  obtain ⟨h1, h2, h3⟩ := conv_words (fo := fo) ta tb va vb hta htb hne ha hb hp
  rw [vmBin_cmpFlt]
  rcases h1 with ⟨rfl, e1⟩ | ⟨x, hx, e1, nx⟩
  · rw [e1, vCmp_undef_left]
    simp
  · rcases h2 with ⟨rfl, e2⟩ | ⟨y, hy, e2, ny⟩
    · rw [e2, vCmp_undef_right]
      simp
    · rw [e1, e2, (h3 x y hx hy).2 op]
      simp [isUndef_of_ne nx, isUndef_of_ne ny]

theorem numTy_flt {ta tb : Ty} (hta : ta = .int ∨ ta = .flt) (htb : tb = .int ∨ tb = .flt) (hne : ¬ (ta = .int ∧ tb = .int)) :
    numTy ta tb = .flt := by
  rcases hta with rfl | rfl <;> rcases htb with rfl | rfl <;> simp_all [numTy]

theorem vm_arith_num {blocks : List (Nat × Bytes)} (op : ArOp) (ta tb : Ty) (va vb : Val)
    (hta : ta = .int ∨ (isFltOp op = true ∧ ta = .flt)) (htb : tb = .int ∨ (isFltOp op = true ∧ tb = .flt))
    (ha : ValOk ta va) (hb : ValOk tb vb) (hp : promoOk fo ta tb va vb) :
    vmBin (prim fo blocks) (arithOp (numTy ta tb) op) (convA fo ta tb (toVm va)) (convB fo ta tb (toVm vb)) =
      toVm (vArith fo op va vb) := by
  by_cases hii : ta = .int ∧ tb = .int
  · obtain ⟨rfl, rfl⟩ := hii
    exact vm_arith op va vb ha hb
  · have hop : isFltOp op = true := by
      rcases hta with h | h
      · rcases htb with h' | h'
        · exact absurd ⟨h, h'⟩ hii
        · exact h'.1
      · exact h.1
    rw [numTy_flt (hta.imp id And.right) (htb.imp id And.right) hii]
    exact vm_arith_flt op hop ta tb va vb (hta.imp id And.right) (htb.imp id And.right) hii ha hb hp

theorem vm_cmp_num {blocks : List (Nat × Bytes)} (op : CmpOp) (ta tb : Ty) (va vb : Val)
    (hty : ((ta = .int ∨ ta = .flt) ∧ (tb = .int ∨ tb = .flt)) ∨ (ta = .str ∧ tb = .str))
    (ha : ValOk ta va) (hb : ValOk tb vb) (hp : promoOk fo ta tb va vb) :
    vmBin (prim fo blocks) (cmpOp (numTy ta tb) op) (convA fo ta tb (toVm va)) (convB fo ta tb (toVm vb)) =
      toVm (vCmp fo op va vb) := by
  rcases hty with ⟨h1, h2⟩ | ⟨rfl, rfl⟩
  · by_cases hii : ta = .int ∧ tb = .int
    · obtain ⟨rfl, rfl⟩ := hii
      exact vm_cmp_int op va vb ha hb
    · rw [numTy_flt h1 h2 hii]
      exact vm_cmp_flt op ta tb va vb h1 h2 hii ha hb hp
  · exact vm_cmp_str op va vb ha hb

end YaraModel.CondCompile
