/- Growth of a buffer (realloc + fix-up loop) is invisible in the abstract arena. -/
import YaraModel.Lemmas.ArenaKeys
namespace YaraModel.Arena
open YaraModel.Gen.ArenaLayout

/-- what the fix-up loop does to a slot value when buffer `b` moves from `old` to `new` (nothing if the
    buffer was unallocated or realloc extended it in place) -/
def moveVal (old used new : Nat) (v : Nat) : Nat :=
  if old ≠ 0 ∧ old ≠ new then retarget old used new v else v

theorem retarget_eq (old used new p : Nat) :
    retarget old used new p = if old ≤ p ∧ p < old + used then p - old + new else p := by
  simp [retarget, geLo, ltHi, fixupLowerInclusive, fixupUpperExclusive]

/-- the fix-up as one interval test: a block extended in place maps to itself -/
theorem moveVal_eq (old used new v : Nat) :
    moveVal old used new v = if old ≠ 0 ∧ old ≤ v ∧ v < old + used then v - old + new else v := by
  unfold moveVal
  rw [retarget_eq]
  by_cases hin : old ≤ v ∧ v < old + used
  · by_cases hm : old ≠ 0 ∧ old ≠ new
    · rw [if_pos hm, if_pos hin, if_pos ⟨hm.1, hin⟩]
    · rw [if_neg hm]; split <;> omega
  · rw [if_neg hin, ite_self, if_neg (fun h => hin h.2)]

theorem moveVal_zero (old used new : Nat) : moveVal old used new 0 = 0 := by
  rw [moveVal_eq, if_neg (by omega)]

theorem moveVal_hits {a : Arena} (hr : RangesOk a.bufs) {b newBase nc : Nat} (hb : b < a.bufs.length)
    (hf : Fresh a b newBase nc) (d : Bool) {j v : Nat} (hj : j < a.bufs.length) (hh : Hits (a.bufAt j) v) :
    Hits ((setMeta a b nc newBase d).bufAt j) (moveVal (a.bufAt b).base (a.bufAt b).data.length newBase v) ∧
      moveVal (a.bufAt b).base (a.bufAt b).data.length newBase v - ((setMeta a b nc newBase d).bufAt j).base = v - (a.bufAt j).base := by
  obtain ⟨h0, h1, h2⟩ := hh
  rw [bufAt_setMeta, moveVal_eq]
  by_cases hjb : b = j
  · subst hjb
    rw [if_pos ⟨rfl, hj⟩, if_pos ⟨h0, h1, h2⟩]
    have := hf.nonnull
    unfold Hits
    simp only
    omega
  · -- another buffer: its block is apart from the old block of `b`, so the pointer lies outside the interval
    have hap : Apart (a.bufAt b) (a.bufAt j) := pairwise_getD hr.apart hb hj hjb
    have hfb := (hr.fits _ (getD_mem b hb)).1
    have hfj := (hr.fits _ (getD_mem j hj)).1
    simp only [← bufAt_eq_getD] at hfb hfj
    rw [if_neg (fun h => hjb h.1), if_neg (by unfold Apart at hap; omega)]
    exact ⟨⟨h0, h1, h2⟩, rfl⟩

theorem ptrToRef_after_move {a : Arena} (hr : RangesOk a.bufs) {b newBase nc : Nat} (hb : b < a.bufs.length)
    (hf : Fresh a b newBase nc) (d : Bool) {v : Nat} (hv : ValidPtr a.bufs v) :
    ptrToRef ((setMeta a b nc newBase d).bufs) (moveVal (a.bufAt b).base (a.bufAt b).data.length newBase v) = ptrToRef a.bufs v
      ∧ moveVal (a.bufAt b).base (a.bufAt b).data.length newBase v < 2 ^ 64
      ∧ ValidPtr ((setMeta a b nc newBase d).bufs) (moveVal (a.bufAt b).base (a.bufAt b).data.length newBase v) := by
  have hr' := rangesOk_setMeta hr hf d
  rcases hv with rfl | ⟨j, hj, hh⟩
  · rw [moveVal_zero, ptrToRef_zero, ptrToRef_zero]
    exact ⟨rfl, by decide, Or.inl rfl⟩
  · have hj' : j < (setMeta a b nc newBase d).bufs.length := by rw [setMeta_length]; exact hj
    obtain ⟨hhit, hoff⟩ := moveVal_hits hr hb hf d hj hh
    have hfit := hr'.fits _ (getD_mem j hj')
    rw [ptrToRef_hit hr hj hh, ptrToRef_hit hr' hj' hhit]
    simp only [← bufAt_eq_getD] at hfit ⊢
    rw [hoff]
    refine ⟨rfl, ?_, Or.inr ⟨j, hj', hhit⟩⟩
    unfold Hits at hhit
    omega

theorem growBuf_eq (a : Arena) (b newBase nc : Nat) (zero : Bool) :
    growBuf a b newBase nc zero =
      setMeta (mapSlots (moveVal (a.bufAt b).base (a.bufAt b).data.length newBase) a.relocs a) b nc newBase (!zero) := by
  unfold growBuf
  rw [setBuf_eq_setMeta]
  congr 1
  unfold moveVal
  split
  · rfl
  · rw [mapSlots_id (fun _ _ => rfl)]

theorem keys3_moved (μ : Nat → Nat) (a : Arena) (b nc newBase : Nat) (d : Bool) :
    (setMeta (mapSlots μ a.relocs a) b nc newBase d).bufs.map key3 = (setMeta a b nc newBase d).bufs.map key3 := by
  rw [keys3_setMeta, keys3_setMeta, keys3_mapSlots]

/-- `μ` on every registered slot keeps what each pointer denotes (`hμ`): same `abs` -/
theorem abs_moved {a a' : Arena} (h : WF a) (μ : Nat → Nat) (hrel : a'.relocs = a.relocs)
    (hbod : bodies a' = bodies (mapSlots μ a.relocs a))
    (hμ : ∀ r ∈ a.relocs, μ (getSlot a r) < 2 ^ 64 ∧ ptrToRef a'.bufs (μ (getSlot a r)) = ptrToRef a.bufs (getSlot a r)) :
    abs a' = abs a := by
  unfold abs
  rw [hrel, toRefs_eq, toRefs_eq, hrel, bodies_mapSlots_congr _ _ hbod, mapSlots_comp _ _ h.slots (fun r hr => (hμ r hr).1),
    mapSlots_congr h.slots (ψ := fun v => encRef (ptrToRef a.bufs v).2) (fun r hr => by
      show encRef (ptrToRef a'.bufs (μ (getSlot a r))).2 = _
      rw [(hμ r hr).2])]

theorem abs_growBuf {a : Arena} (h : WF a) {b newBase nc : Nat} (hb : b < a.bufs.length) (hf : Fresh a b newBase nc) (zero : Bool) :
    abs (growBuf a b newBase nc zero) = abs a := by
  rw [growBuf_eq]
  refine abs_moved h _ (by simp [setMeta]) (bodies_setMeta ..) (fun r hr => ?_)
  have hm := ptrToRef_after_move h.ranges hb hf (!zero) (h.valid r hr)
  exact ⟨hm.2.1, by rw [ptrToRef_congr (keys_of_keys3 (keys3_moved _ a b nc newBase (!zero))), hm.1]⟩

end YaraModel.Arena
