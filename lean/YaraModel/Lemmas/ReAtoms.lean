/-
  Cover property of the atom extraction model (Model/ReAtoms.lean): whatever atoms `_yr_atoms_choose` picks — for EVERY
  quality function — every match of the expression contains an occurrence of one of them, at the positions of the nodes the
  match runs through.
    `Rd`   : how the nodes of an atom sit in the buffer (character size, what "node n sits at position s" means —
             byte / wide, case folding, and membership of (node id, position) in the trace of the match)
    `Sat`  : a tree node is witnessed inside a region of the buffer (OR: every child; AND: some child — `choose` keeps one
             child of an OR node and the atoms of all children of an AND node)
    `Tr`   : a match with its trace, the (leaf id, position) pairs of the atom-capable leaves it ran through
    `Inv`  : the state of the walk against the part of a match walked so far; `walk_inv` keeps it
    `chosen_cover` : the result, for the masked atoms; Lemmas/ReAtomsFinal.lean carries it to the byte sequences
-/
import YaraModel.Model.ReAtoms
import YaraModel.Lemmas.Re
namespace YaraModel.ReAtoms
open YaraModel.Re

structure Rd where
  cs : Nat
  ok : Node → Nat → Prop

def AtomAt (R : Rd) : Atom → Nat → Prop
  | [], _ => True
  | n :: t, s => R.ok n s ∧ AtomAt R t (s + R.cs)

def span (R : Rd) (a : Atom) : Nat := a.length * R.cs

section
variable {R : Rd}

theorem span_nil : span R [] = 0 := by simp [span]
theorem span_cons (n : Node) (t : Atom) : span R (n :: t) = R.cs + span R t := by
  simp only [span, List.length_cons]; rw [Nat.add_mul]; omega
theorem span_append (a b : Atom) : span R (a ++ b) = span R a + span R b := by
  simp only [span, List.length_append]; rw [Nat.add_mul]
theorem span_take_drop (a : Atom) (i : Nat) : span R (a.take i) + span R (a.drop i) = span R a := by
  rw [← span_append, List.take_append_drop]
theorem span_take_le (a : Atom) (n : Nat) : span R (a.take n) ≤ span R a := by
  have := span_take_drop (R := R) a n; omega

theorem atomAt_append {a b : Atom} {s : Nat} : AtomAt R (a ++ b) s ↔ AtomAt R a s ∧ AtomAt R b (s + span R a) := by
  induction a generalizing s with
  | nil => simp [AtomAt, span_nil]
  | cons n t ih =>
    simp only [List.cons_append, AtomAt, ih, span_cons]
    have : s + R.cs + span R t = s + (R.cs + span R t) := by omega
    rw [this]
    constructor
    · rintro ⟨h1, h2, h3⟩; exact ⟨⟨h1, h2⟩, h3⟩
    · rintro ⟨⟨h1, h2⟩, h3⟩; exact ⟨h1, h2, h3⟩

theorem atomAt_drop {a : Atom} {s : Nat} (h : AtomAt R a s) (i : Nat) : AtomAt R (a.drop i) (s + span R (a.take i)) := by
  have := (atomAt_append (R := R) (a := a.take i) (b := a.drop i) (s := s)).1 (by rw [List.take_append_drop]; exact h)
  exact this.2

theorem atomAt_take {a : Atom} {s : Nat} (h : AtomAt R a s) (n : Nat) : AtomAt R (a.take n) s := by
  have := (atomAt_append (R := R) (a := a.take n) (b := a.drop n) (s := s)).1 (by rw [List.take_append_drop]; exact h)
  exact this.1

def Occurs (R : Rd) (a : Atom) (lo hi : Nat) : Prop := ∃ s, lo ≤ s ∧ s + span R a ≤ hi ∧ AtomAt R a s

theorem Occurs.mono {a : Atom} {lo hi lo' hi' : Nat} (h : Occurs R a lo hi) (h1 : lo' ≤ lo) (h2 : hi ≤ hi') : Occurs R a lo' hi' := by
  obtain ⟨s, a1, a2, a3⟩ := h
  exact ⟨s, by omega, by omega, a3⟩

theorem occurs_nil {lo hi : Nat} (h : lo ≤ hi) : Occurs R [] lo hi := ⟨lo, Nat.le_refl _, by rw [span_nil]; omega, trivial⟩

theorem occurs_sub {a : Atom} {lo hi : Nat} (h : Occurs R a lo hi) (i n : Nat) : Occurs R ((a.drop i).take n) lo hi := by
  obtain ⟨s, a1, a2, a3⟩ := h
  refine ⟨s + span R (a.take i), by omega, ?_, atomAt_take (atomAt_drop a3 i) n⟩
  have h1 := span_take_le (R := R) (a.drop i) n
  have h2 := span_take_drop (R := R) a i
  omega

theorem occurs_trim {a : Atom} {lo hi : Nat} (h : Occurs R a lo hi) : Occurs R (trim a).2 lo hi := by
  have hle : lo ≤ hi := by obtain ⟨s, a1, a2, _⟩ := h; omega
  unfold trim
  simp only
  split
  · exact occurs_nil hle
  · split
    · have := occurs_sub (occurs_sub h ((a.takeWhile (·.mask == 0)).length)
        ((a.drop (a.takeWhile (·.mask == 0)).length).length - ((a.drop (a.takeWhile (·.mask == 0)).length).reverse.takeWhile (·.mask == 0)).length)) 0 1
      simpa using this
    · exact occurs_sub h _ _

mutual
def Sat (R : Rd) (lo hi : Nat) : Tree → Prop
  | .leaf a => Occurs R a lo hi
  | .or kids => SatAll R lo hi kids
  | .and kids => SatAny R lo hi kids
def SatAll (R : Rd) (lo hi : Nat) : List Tree → Prop
  | [] => True
  | t :: ts => Sat R lo hi t ∧ SatAll R lo hi ts
def SatAny (R : Rd) (lo hi : Nat) : List Tree → Prop
  | [] => False
  | t :: ts => Sat R lo hi t ∨ SatAny R lo hi ts
end

mutual
theorem Sat.mono {lo hi lo' hi' : Nat} (h1 : lo' ≤ lo) (h2 : hi ≤ hi') : ∀ (t : Tree), Sat R lo hi t → Sat R lo' hi' t
  | .leaf _, h => Occurs.mono h h1 h2
  | .or kids, h => SatAll.mono h1 h2 kids h
  | .and kids, h => SatAny.mono h1 h2 kids h
theorem SatAll.mono {lo hi lo' hi' : Nat} (h1 : lo' ≤ lo) (h2 : hi ≤ hi') : ∀ (l : List Tree), SatAll R lo hi l → SatAll R lo' hi' l
  | [], _ => trivial
  | t :: ts, h => ⟨Sat.mono h1 h2 t h.1, SatAll.mono h1 h2 ts h.2⟩
theorem SatAny.mono {lo hi lo' hi' : Nat} (h1 : lo' ≤ lo) (h2 : hi ≤ hi') : ∀ (l : List Tree), SatAny R lo hi l → SatAny R lo' hi' l
  | [], h => h.elim
  | t :: ts, h => h.imp (Sat.mono h1 h2 t) (SatAny.mono h1 h2 ts)
end

theorem satAll_append {lo hi : Nat} {l1 l2 : List Tree} : SatAll R lo hi (l1 ++ l2) ↔ SatAll R lo hi l1 ∧ SatAll R lo hi l2 := by
  induction l1 with
  | nil => simp [SatAll]
  | cons t ts ih => simp only [List.cons_append, SatAll, ih, and_assoc]

variable (q : Atom → Int)

theorem chooseOr_cons (t : Tree) (ts : List Tree) (acc : List Atom) (mx : Int) : chooseOr q (t :: ts) acc mx =
    if mx = 255 then (acc, mx) else if (choose q t).2 > mx then chooseOr q ts (choose q t).1 (choose q t).2 else chooseOr q ts acc mx := by
  rw [chooseOr]

-- the minimum only falls, the accumulated atoms stay
theorem chooseAnd_ge : ∀ (kids : List Tree) (acc : List Atom) (mn : Int),
    (chooseAnd q kids acc mn).2 ≤ mn ∧ ∀ a ∈ acc, a ∈ (chooseAnd q kids acc mn).1
  | [], acc, mn => by unfold chooseAnd; exact ⟨Int.le_refl _, fun a h => h⟩
  | t :: ts, acc, mn => by
    unfold chooseAnd
    simp only
    have := chooseAnd_ge ts ((choose q t).1 ++ acc) (if (choose q t).2 < mn then (choose q t).2 else mn)
    refine ⟨?_, fun a ha => this.2 a (List.mem_append_right _ ha)⟩
    have h1 := this.1
    split at h1 <;> omega

theorem chooseAnd_cons (t : Tree) (ts : List Tree) (acc : List Atom) (mn : Int) : chooseAnd q (t :: ts) acc mn =
    chooseAnd q ts ((choose q t).1 ++ acc) (if (choose q t).2 < mn then (choose q t).2 else mn) := by
  rw [chooseAnd]

mutual
theorem choose_occurs {lo hi : Nat} : ∀ (t : Tree), Sat R lo hi t → (choose q t).2 > 0 → ∃ a ∈ (choose q t).1, Occurs R a lo hi
  | .leaf a, hs, hq => by
    rw [choose] at hq ⊢
    split
    · rename_i he; simp [he] at hq
    · exact ⟨_, by simp, occurs_trim hs⟩
  | .or kids, hs, hq => by
    exact chooseOr_occurs kids [] 0 hs (fun h => absurd h (by omega)) hq
  | .and kids, hs, hq => by
    exact chooseAnd_occurs kids [] 255 hs hq
theorem chooseOr_occurs {lo hi : Nat} : ∀ (kids : List Tree) (acc : List Atom) (mx : Int), SatAll R lo hi kids →
    (mx > 0 → ∃ a ∈ acc, Occurs R a lo hi) → (chooseOr q kids acc mx).2 > 0 → ∃ a ∈ (chooseOr q kids acc mx).1, Occurs R a lo hi
  | [], acc, mx, _, hacc, hq => by rw [chooseOr] at hq ⊢; exact hacc hq
  | t :: ts, acc, mx, hs, hacc, hq => by
    rw [chooseOr_cons] at hq ⊢
    split at hq
    · rw [if_pos ‹_›]; exact hacc (by omega)
    · rw [if_neg ‹_›]
      split at hq
      · rw [if_pos ‹_›]; exact chooseOr_occurs ts _ _ hs.2 (fun hpos => choose_occurs t hs.1 hpos) hq
      · rw [if_neg ‹_›]; exact chooseOr_occurs ts acc mx hs.2 hacc hq
theorem chooseAnd_occurs {lo hi : Nat} : ∀ (kids : List Tree) (acc : List Atom) (mn : Int), SatAny R lo hi kids →
    (chooseAnd q kids acc mn).2 > 0 → ∃ a ∈ (chooseAnd q kids acc mn).1, Occurs R a lo hi
  | [], _, _, hs, _ => hs.elim
  | t :: ts, acc, mn, hs, hq => by
    rw [chooseAnd_cons] at hq ⊢
    have hmono := chooseAnd_ge q ts ((choose q t).1 ++ acc) (if (choose q t).2 < mn then (choose q t).2 else mn)
    rcases hs with hs | hs
    · -- the minimum over the children is positive, so this child's quality is
      have hpos : (choose q t).2 > 0 := by
        have := hmono.1
        split at this <;> omega
      obtain ⟨a, ha, ho⟩ := choose_occurs t hs hpos
      exact ⟨a, hmono.2 a (List.mem_append_left _ ha), ho⟩
    · exact chooseAnd_occurs ts _ _ hs hq
end

theorem chooseOr_nil_or_pos : ∀ (kids : List Tree) (acc : List Atom) (mx : Int), 0 ≤ mx → (acc = [] ∨ mx > 0) →
    ((chooseOr q kids acc mx).1 = [] ∨ (chooseOr q kids acc mx).2 > 0)
  | [], acc, mx, _, h => by unfold chooseOr; exact h
  | t :: ts, acc, mx, h0, h => by
    rw [chooseOr_cons]
    by_cases h255 : mx = 255
    · simp only [h255, if_true]; right; omega
    · simp only [h255, if_false]
      by_cases hgt : (choose q t).2 > mx
      · simp only [hgt, if_true]
        exact chooseOr_nil_or_pos ts _ _ (by omega) (.inr (by omega))
      · simp only [hgt, if_false]; exact chooseOr_nil_or_pos ts acc mx h0 h

/-- state of the walk after the part [p0, cur) of a match: every appended child is witnessed there, the pending run ends at
    `cur` (or is frozen because the best quality is already maximal), the best atom so far occurs -/
structure Inv (R : Rd) (st : St) (p0 cur : Nat) : Prop where
  le : p0 ≤ cur
  kids : SatAll R p0 cur st.kids
  -- in subtraction form; never used directly: `Inv.recent'` and `Inv.of` translate it to `EndsAt` below, which has no subtraction
  recent : (span R st.recent ≤ cur - p0 ∧ AtomAt R st.recent (cur - span R st.recent)) ∨
    (255 ≤ st.bestQ ∧ 4 ≤ st.recent.length ∧ Occurs R st.recent p0 cur)
  best : Occurs R st.best p0 cur

def EndsAt (R : Rd) (a : Atom) (lo hi : Nat) : Prop := ∃ s, lo ≤ s ∧ s + span R a = hi ∧ AtomAt R a s

theorem endsAt_iff {a : Atom} {lo hi : Nat} (hle : lo ≤ hi) :
    EndsAt R a lo hi ↔ span R a ≤ hi - lo ∧ AtomAt R a (hi - span R a) := by
  constructor
  · rintro ⟨s, h1, rfl, h3⟩; exact ⟨by omega, by rw [Nat.add_sub_cancel]; exact h3⟩
  · rintro ⟨h1, h2⟩; exact ⟨hi - span R a, by omega, by omega, h2⟩

theorem EndsAt.occurs {a : Atom} {lo hi : Nat} (h : EndsAt R a lo hi) : Occurs R a lo hi := by
  obtain ⟨s, h1, h2, h3⟩ := h
  exact ⟨s, h1, Nat.le_of_eq h2, h3⟩

theorem endsAt_nil {lo hi : Nat} (h : lo ≤ hi) : EndsAt R [] lo hi := ⟨hi, h, by rw [span_nil]; rfl, trivial⟩

theorem EndsAt.snoc {a : Atom} {lo hi : Nat} (h : EndsAt R a lo hi) {x : Node} (hx : R.ok x hi) :
    EndsAt R (a ++ [x]) lo (hi + R.cs) := by
  obtain ⟨s, h1, rfl, h3⟩ := h
  exact ⟨s, h1, by rw [span_append, span_cons, span_nil]; omega, atomAt_append.2 ⟨h3, hx, trivial⟩⟩

theorem EndsAt.drop {a : Atom} {lo hi : Nat} (h : EndsAt R a lo hi) (i : Nat) : EndsAt R (a.drop i) lo hi := by
  obtain ⟨s, h1, rfl, h3⟩ := h
  have := span_take_drop (R := R) a i
  exact ⟨s + span R (a.take i), by omega, by omega, atomAt_drop h3 i⟩

theorem Inv.of {st : St} {p0 cur : Nat} (hle : p0 ≤ cur) (hk : SatAll R p0 cur st.kids)
    (hr : EndsAt R st.recent p0 cur ∨ (255 ≤ st.bestQ ∧ 4 ≤ st.recent.length ∧ Occurs R st.recent p0 cur))
    (hb : Occurs R st.best p0 cur) : Inv R st p0 cur :=
  ⟨hle, hk, hr.imp_left (endsAt_iff hle).1, hb⟩

theorem Inv.recent' {st : St} {p0 cur : Nat} (h : Inv R st p0 cur) :
    EndsAt R st.recent p0 cur ∨ (255 ≤ st.bestQ ∧ 4 ≤ st.recent.length ∧ Occurs R st.recent p0 cur) :=
  h.recent.imp_left (endsAt_iff h.le).2

theorem Inv.recentOccurs {st : St} {p0 cur : Nat} (h : Inv R st p0 cur) : Occurs R st.recent p0 cur :=
  h.recent'.elim EndsAt.occurs fun h3 => h3.2.2

theorem inv_init (p : Nat) : Inv R {} p p :=
  .of (Nat.le_refl _) trivial (.inl (endsAt_nil (Nat.le_refl _))) (occurs_nil (Nat.le_refl _))

theorem inv_addNode {st : St} {p0 cur : Nat} (h : Inv R st p0 cur) (x : Node) (hx : R.ok x cur) :
    Inv R (addNode q st x) p0 (cur + R.cs) := by
  have hle : cur ≤ cur + R.cs := Nat.le_add_right _ _
  have hle' : p0 ≤ cur + R.cs := Nat.le_trans h.le hle
  have hk := SatAll.mono (Nat.le_refl p0) hle _ h.kids
  have hb := h.best.mono (Nat.le_refl p0) hle
  fun_cases addNode q st x with
  | case1 =>
    -- the window is not full: `x` joins the pending run
    rcases h.recent' with he | ⟨_, h4, _⟩
    · exact .of hle' hk (.inl (he.snoc hx)) hb
    · omega
  | case2 _ _ a st' =>
    -- the window is full: its oldest node leaves, the trimmed window `a` competes with the best atom so far (`st'`, the model's `let`)
    rcases h.recent' with he | ⟨h255, _, _⟩
    · by_cases hq : q a > st.bestQ
      · rw [show st' = { st with best := a, bestQ := q a } from if_pos hq]
        exact .of hle' hk (.inl ((he.drop 1).snoc hx)) ((occurs_trim he.occurs).mono (Nat.le_refl p0) hle)
      · rw [show st' = st from if_neg hq]
        exact .of hle' hk (.inl ((he.drop 1).snoc hx)) hb
    · omega
  | case3 =>
    -- the best quality is maximal: the window is frozen
    exact .of hle' hk (.inr ⟨by omega, by omega, h.recentOccurs.mono (Nat.le_refl p0) hle⟩) hb

theorem inv_flush_of {st : St} {p0 q1 : Nat} (hle : p0 ≤ q1) (hk : SatAll R p0 q1 st.kids) (hr : Occurs R st.recent p0 q1)
    (hb : Occurs R st.best p0 q1) : Inv R (flush q st) p0 q1 := by
  refine .of hle ?_ (.inl (endsAt_nil hle)) (occurs_nil hle)
  unfold flush
  split
  · exact hk
  · rw [satAll_append]
    refine ⟨hk, ?_, trivial⟩
    show Occurs R (if _ then _ else _) p0 q1
    split
    · exact occurs_trim hr
    · exact hb

theorem inv_flush_move {st : St} {p0 cur q1 : Nat} (h : Inv R st p0 cur) (hle : cur ≤ q1) : Inv R (flush q st) p0 q1 :=
  inv_flush_of q (Nat.le_trans h.le hle) (SatAll.mono (Nat.le_refl p0) hle _ h.kids) (h.recentOccurs.mono (Nat.le_refl p0) hle)
    (h.best.mono (Nat.le_refl p0) hle)

theorem inv_flush {st : St} {p0 cur : Nat} (h : Inv R st p0 cur) : Inv R (flush q st) p0 cur :=
  inv_flush_move q h (Nat.le_refl cur)

theorem inv_flush_with {st : St} {p0 cur q1 : Nat} (h : Inv R st p0 cur) (hle : cur ≤ q1) (T : Tree) (hT : Sat R p0 q1 T) :
    Inv R (flush q { st with kids := st.kids ++ [T] }) p0 q1 :=
  inv_flush_of q (Nat.le_trans h.le hle) (satAll_append.2 ⟨SatAll.mono (Nat.le_refl p0) hle _ h.kids, hT, trivial⟩)
    (h.recentOccurs.mono (Nat.le_refl p0) hle) (h.best.mono (Nat.le_refl p0) hle)

end


/-! ### matches with their trace: which atom-capable leaf (id) was matched at which position -/
/-- nodes the walk does not descend into and that end a run -/
def Opaque : Re → Bool
  | .lit _ | .masked _ _ | .any | .cat _ _ | .alt _ _ | .plus _ _ | .range _ _ _ _ => false
  | _ => true

-- The trace follows what `walk` does with the expression: it goes through the body of `e+` once and then flushes, so `plusStep`
-- traces the first iteration and lets the rest be any match; it goes through the body of `e{lo,hi}` `min lo 4` times in a row,
-- so `rangeStep` traces every iteration (`walk_inv` uses the first `min lo 4`). Every copy of a body carries the ids its
-- leaves have in the expression (the same `i`), as `walk` numbers them.
inductive Tr (fl : Flags) (buf : Bytes) : Re → Nat → Nat → Nat → List (Nat × Nat) → Prop
  | lit {b i p q} : Re.Matches fl buf (.lit b) p q → Tr fl buf (.lit b) i p q [(i, p)]
  | masked {v m i p q} : Re.Matches fl buf (.masked v m) p q → Tr fl buf (.masked v m) i p q [(i, p)]
  | any {i p q} : Re.Matches fl buf .any p q → Tr fl buf .any i p q [(i, p)]
  | opq {r i p q} : Opaque r = true → Re.Matches fl buf r p q → Tr fl buf r i p q []
  | cat {a b i p t q t1 t2} : Tr fl buf a i p t t1 → Tr fl buf b (i + leaves a) t q t2 → Tr fl buf (.cat a b) i p q (t1 ++ t2)
  | altL {a b i p q t1} : Tr fl buf a i p q t1 → Tr fl buf (.alt a b) i p q t1
  | altR {a b i p q t1} : Tr fl buf b (i + leaves a) p q t1 → Tr fl buf (.alt a b) i p q t1
  | plusOne {a g i p q t1} : Tr fl buf a i p q t1 → Tr fl buf (.plus a g) i p q t1
  | plusStep {a g i p t q t1} : Tr fl buf a i p t t1 → Re.Matches fl buf (.plus a g) t q → Tr fl buf (.plus a g) i p q t1
  | rangeStop {a hi g i p} : Tr fl buf (.range a 0 hi g) i p p []
  | rangeStep {a lo hi g i p t q t1 t2} : 0 < hi → Tr fl buf a i p t t1 → Tr fl buf (.range a (lo - 1) (hi - 1) g) i t q t2 →
      Tr fl buf (.range a lo hi g) i p q (t1 ++ t2)

section
variable {fl : Flags} {buf : Bytes}

theorem tr_of_matches {r : Re} {p q : Nat} (h : Re.Matches fl buf r p q) : ∀ i, ∃ tr, Tr fl buf r i p q tr := by
  induction h with
  | lit hc => exact fun i => ⟨_, .lit (.lit hc)⟩
  | masked hc => exact fun i => ⟨_, .masked (.masked hc)⟩
  | any hc => exact fun i => ⟨_, .any (.any hc)⟩
  | cat _ _ ih1 ih2 =>
    intro i
    obtain ⟨t1, h1⟩ := ih1 i
    obtain ⟨t2, h2⟩ := ih2 _
    exact ⟨_, .cat h1 h2⟩
  | altL _ ih => intro i; obtain ⟨t1, h1⟩ := ih i; exact ⟨_, .altL h1⟩
  | altR _ ih => intro i; obtain ⟨t1, h1⟩ := ih _; exact ⟨_, .altR h1⟩
  | plusOne _ ih => intro i; obtain ⟨t1, h1⟩ := ih i; exact ⟨_, .plusOne h1⟩
  | plusStep _ h2 ih _ => intro i; obtain ⟨t1, h1⟩ := ih i; exact ⟨_, .plusStep h1 h2⟩
  | rangeStop => exact fun i => ⟨_, .rangeStop⟩
  | rangeStep hpos _ _ ih1 ih2 =>
    intro i
    obtain ⟨t1, h1⟩ := ih1 i
    obtain ⟨t2, h2⟩ := ih2 i
    exact ⟨_, .rangeStep hpos h1 h2⟩
  -- every other node is opaque: the match itself, with the empty trace
  | notLit hc | maskedNot hc | cls hc | wordCh hc | nonWordCh hc | space hc | nonSpace hc | digit hc | nonDigit hc | wordB hc
  | nonWordB hc => exact fun i => ⟨_, .opq rfl (by constructor; exact hc)⟩
  | empty | starNil | rangeAnyStop | bol | eol => exact fun i => ⟨_, .opq rfl (by constructor)⟩
  | starStep h1 h2 _ _ => exact fun i => ⟨_, .opq rfl (.starStep h1 h2)⟩
  | rangeAnyStep hpos hc h2 _ => exact fun i => ⟨_, .opq rfl (.rangeAnyStep hpos hc h2)⟩

theorem Tr.matches {r : Re} {i p q : Nat} {tr : List (Nat × Nat)} (h : Tr fl buf r i p q tr) : Re.Matches fl buf r p q := by
  induction h with
  | lit h | masked h | any h => exact h
  | opq _ h => exact h
  | cat _ _ ih1 ih2 => exact .cat ih1 ih2
  | altL _ ih => exact .altL ih
  | altR _ ih => exact .altR ih
  | plusOne _ ih => exact .plusOne ih
  | plusStep _ h2 ih => exact .plusStep ih h2
  | rangeStop => exact .rangeStop
  | rangeStep hp _ _ ih1 ih2 => exact .rangeStep hp ih1 ih2

def NodeOk (fl : Flags) (buf : Bytes) (n : Node) (s : Nat) : Prop :=
  ∃ c, buf[s]? = some c ∧ (fl.wide = true → buf[s + 1]? = some 0) ∧
    (c &&& n.mask = n.byte ∨ (fl.nocase = true ∧ n.mask = 0xFF ∧ lower c = lower n.byte))

/-- the masks of hex strings and regular expressions: a byte, `??`, or one nibble -/
def MaskGood (m : UInt8) : Prop := m = 0xFF ∨ m = 0x00 ∨ m = 0x0F ∨ m = 0xF0

/-- every masked node of the expression has such a mask (hex_grammar.y produces no others) -/
def MaskOK : Re → Prop
  | .masked _ m => MaskGood m
  | .cat a b => MaskOK a ∧ MaskOK b
  | .alt a b => MaskOK a ∧ MaskOK b
  | .star a _ => MaskOK a
  | .plus a _ => MaskOK a
  | .range a _ _ _ => MaskOK a
  | _ => True

-- `MaskGood n.mask` is carried for the expansion of the atom (`atomAt_chars`, Lemmas/ReAtomsFinal.lean)
def rdOf (fl : Flags) (buf : Bytes) (T : List (Nat × Nat)) : Rd :=
  { cs := fl.cs, ok := fun n s => NodeOk fl buf n s ∧ (n.id, s) ∈ T ∧ MaskGood n.mask }

theorem and_255 (c : UInt8) : c &&& 0xFF = c := UInt8.and_neg_one

theorem nodeOk_of_charOk {t : UInt8 → Bool} {n : Node} {p : Nat}
    (ht : ∀ c, t c = true → c &&& n.mask = n.byte ∨ (fl.nocase = true ∧ n.mask = 0xFF ∧ lower c = lower n.byte))
    (hc : charOk fl buf t p = true) : NodeOk fl buf n p := by
  obtain ⟨c, h1, h2, h3⟩ := charOk_iff.1 hc
  exact ⟨c, h1, h2, ht c h3⟩

theorem testLit_cases {b c : UInt8} (h : testLit fl b c = true) : c = b ∨ (fl.nocase = true ∧ lower c = lower b) := by
  unfold testLit at h
  cases hn : fl.nocase <;> simp only [hn, if_true, Bool.false_eq_true, if_false, beq_iff_eq] at h
  · exact .inl h
  · exact .inr ⟨rfl, h⟩

variable (q : Atom → Int)

theorem walk_opaque {r : Re} (h : Opaque r = true) (i : Nat) (st : St) : walk q r i st = flush q st := by
  cases r <;> first | rfl | cases h

/-- `T` is the trace of the WHOLE match: it fixes how nodes sit in the buffer
    (`rdOf fl buf T`) and does not change during the induction; `tr ⊆ T` is the trace of the part `[cur, q1)` matched by the
    subexpression `r` (leaf ids from `i`).  `p0` is where the region of the current OR node began, `cur` where the match stood
    before `r`, `q1` where it stands after. -/
theorem walk_inv (T : List (Nat × Nat)) : ∀ (r : Re) (i : Nat) (st : St) (p0 cur q1 : Nat) (tr : List (Nat × Nat)),
    MaskOK r → Inv (rdOf fl buf T) st p0 cur → Tr fl buf r i cur q1 tr → (∀ e ∈ tr, e ∈ T) → Inv (rdOf fl buf T) (walk q r i st) p0 q1 := by
  intro r
  induction r with
  | lit b =>
    intro i st p0 cur q1 tr hmk hI ht hsub
    cases ht with
    | lit hm =>
      cases hm with
      | lit hc =>
        exact inv_addNode q hI _ ⟨nodeOk_of_charOk (fun c h => (testLit_cases h).imp (fun e => by rw [and_255]; exact e) fun ⟨h1, h2⟩ => ⟨h1, rfl, h2⟩) hc, hsub _ (by simp), .inl rfl⟩
    | opq ho _ => cases ho
  | masked v m =>
    intro i st p0 cur q1 tr hmk hI ht hsub
    cases ht with
    | masked hm =>
      cases hm with
      | masked hc =>
        exact inv_addNode q hI _ ⟨nodeOk_of_charOk (fun c h => .inl (by simpa [testMasked] using h)) hc, hsub _ (by simp), hmk⟩
    | opq ho _ => cases ho
  | any =>
    intro i st p0 cur q1 tr hmk hI ht hsub
    cases ht with
    | any hm =>
      cases hm with
      | any hc =>
        exact inv_addNode q hI _ ⟨nodeOk_of_charOk (fun c _ => .inl (by simp)) hc, hsub _ (by simp), .inr (.inl rfl)⟩
    | opq ho _ => cases ho
  | cat a b iha ihb =>
    intro i st p0 cur q1 tr hmk hI ht hsub
    cases ht with
    | cat h1 h2 =>
      exact ihb _ _ _ _ _ _ hmk.2 (iha _ _ _ _ _ _ hmk.1 hI h1 (fun e he => hsub e (List.mem_append_left _ he))) h2
        (fun e he => hsub e (List.mem_append_right _ he))
    | opq ho _ => cases ho
  | alt a b iha ihb =>
    intro i st p0 cur q1 tr hmk hI ht hsub
    have hb := (Matches.bounds ht.matches).1
    have hand : Sat (rdOf fl buf T) p0 q1 (.and [.or (flush q (walk q a i {})).kids, .or (flush q (walk q b (i + leaves a) {})).kids]) := by
      -- the AND node is witnessed by the OR node of the branch the match took
      cases ht with
      | altL h1 =>
        exact .inl (SatAll.mono hI.le (Nat.le_refl _) _ (inv_flush q (iha _ _ _ _ _ _ hmk.1 (inv_init cur) h1 hsub)).kids)
      | altR h1 =>
        exact .inr (.inl (SatAll.mono hI.le (Nat.le_refl _) _ (inv_flush q (ihb _ _ _ _ _ _ hmk.2 (inv_init cur) h1 hsub)).kids))
      | opq ho _ => cases ho
    exact inv_flush_with q hI hb _ hand
  | plus a g ih =>
    intro i st p0 cur q1 tr hmk hI ht hsub
    cases ht with
    | plusOne h1 => exact inv_flush q (ih _ _ _ _ _ _ hmk hI h1 hsub)
    | plusStep h1 h2 => exact inv_flush_move q (ih _ _ _ _ _ _ hmk hI h1 hsub) (Matches.bounds h2).1
    | opq ho _ => cases ho
  | range a lo hi g ih =>
    intro i st p0 cur q1 tr hmk hI ht hsub
    -- the first min(lo, 4) iterations are consecutive copies of the body
    have key : ∀ (n : Nat) (st : St) (cur lo' hi' : Nat) (tr : List (Nat × Nat)), n ≤ lo' → Inv (rdOf fl buf T) st p0 cur →
        Tr fl buf (.range a lo' hi' g) i cur q1 tr → (∀ e ∈ tr, e ∈ T) →
        ∃ t, t ≤ q1 ∧ Inv (rdOf fl buf T) (iter (walk q a i) n st) p0 t := by
      intro n
      induction n with
      | zero => intro st cur lo' hi' tr _ h1 h2 _; exact ⟨cur, (Matches.bounds h2.matches).1, h1⟩
      | succ k ihk =>
        intro st cur lo' hi' tr hle h1 h2 hs
        cases h2 with
        | rangeStop => omega
        | rangeStep _ m1 m2 =>
          exact ihk _ _ (lo' - 1) (hi' - 1) _ (by omega) (ih _ _ _ _ _ _ hmk h1 m1 (fun e he => hs e (List.mem_append_left _ he))) m2
            (fun e he => hs e (List.mem_append_right _ he))
        | opq ho _ => cases ho
    obtain ⟨t, ht', hinv⟩ := key (min lo 4) st cur lo hi tr (Nat.min_le_left _ _) hI ht hsub
    exact inv_flush_move q hinv ht'
  | star _ _ _ | rangeAny _ _ _ | notLit _ | maskedNot _ _ | cls _ _ | wordCh | nonWordCh | space | nonSpace | digit
  | nonDigit | empty | bol | eol | wordB | nonWordB =>
    intro i st p0 cur q1 tr _ hI ht _
    rw [walk_opaque q rfl]
    exact inv_flush_move q hI (Matches.bounds ht.matches).1

/-- one of the chosen atoms sits inside [p, q') on nodes of the trace — unless no atom at all was chosen (the zero-length atom
    applies) -/
theorem chosen_cover (r : Re) (hmk : MaskOK r) {p q' : Nat} {T : List (Nat × Nat)} (hm : Tr fl buf r 0 p q' T) :
    chosen q r = [] ∨ ∃ a ∈ chosen q r, Occurs (rdOf fl buf T) a p q' := by
  have hcase : (choose q (treeOf q r)).1 = [] ∨ (choose q (treeOf q r)).2 > 0 := by
    unfold treeOf choose
    exact chooseOr_nil_or_pos q _ [] 0 (Int.le_refl _) (.inl rfl)
  rcases hcase with h0 | hq
  · left; exact h0
  · right
    have hinv := inv_flush q (walk_inv q T r 0 {} p p q' T hmk (inv_init p) hm (fun e he => he))
    exact choose_occurs q (treeOf q r) hinv.kids hq

end

end YaraModel.ReAtoms
