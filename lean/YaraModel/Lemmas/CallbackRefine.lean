/- C11: the C-shaped model (Model/Callback.lean) refines the protocol specification (Spec/Callback.lean), first the
   reporting part (`scan`), then the matching phase with `CALLBACK_MSG_TOO_MANY_MATCHES` in front of it (`fullScan`);
   at the end, what the refinement gives for every scan. -/
import YaraModel.Lemmas.CallbackProps
import YaraModel.Lemmas.CallbackPlay
namespace YaraModel.Cb

theorem notLoaded_cons (loaded : List String) (m : String) (ms : List String) :
    (distinctModules (m :: ms)).filter (fun x => !loaded.contains x) =
      if loaded.contains m then (distinctModules ms).filter (fun x => !loaded.contains x)
      else m :: (distinctModules ms).filter (fun x => !(m :: loaded).contains x) := by
  simp only [distinctModules, List.filter_cons, List.filter_filter]
  cases h : loaded.contains m
  · simp only [Bool.not_false, if_true, Bool.false_eq_true, if_false]
    congr 1
    apply List.filter_congr
    intro x _
    by_cases hx : x = m <;> simp [hx]
  · simp only [Bool.not_true, Bool.false_eq_true, if_false, if_true]
    apply List.filter_congr
    intro x _
    by_cases hx : x = m
    · subst hx; simpa using h
    · simp [hx]

theorem loadModules_eq_play (loaded ms : List String) (s : List Ret) :
    loadModules loaded ms s =
      let p := play (((distinctModules ms).filter fun x => !loaded.contains x).flatMap
        fun m => [.importModule m, .moduleImported m]) s
      ⟨p.trace, p.rest, p.stopped.isNone⟩ := by
  induction ms generalizing loaded s with
  | nil => simp [loadModules, distinctModules, play]
  | cons m ms ih =>
    rw [notLoaded_cons]
    simp only [loadModules]
    cases h : loaded.contains m with
    | true => exact ih loaded s
    | false =>
      rcases hc : call s with ⟨r1, s1⟩
      rcases hc2 : call s1 with ⟨r2, s2⟩
      simp only [Bool.false_eq_true, if_false, List.flatMap_cons, List.cons_append, List.nil_append, play, hc, hc2,
        verdict_module (m := .importModule m) rfl, verdict_module (m := .moduleImported m) rfl, ih]
      by_cases h1 : r1 = .error
      · simp [h1]
      · by_cases h2 : r2 = .error <;> simp [h1, h2]

theorem loadModules_empty_table (imports : List String) (s : List Ret) :
    loadModules [] imports s =
      let p := play (moduleMsgs imports) s
      ⟨p.trace, p.rest, p.stopped.isNone⟩ := by
  have h := loadModules_eq_play [] imports s
  rwa [show (distinctModules imports).filter (fun x => !([] : List String).contains x) = distinctModules imports from
    List.filter_eq_self.2 fun _ _ => rfl] at h

theorem play_moduleMsgs_stopped {imports : List String} {s : List Ret} {rc : Rc}
    (h : (play (moduleMsgs imports) s).stopped = some rc) : rc = .callbackError := by
  obtain ⟨m, hm, a, hv⟩ := play_stopped_mem h
  rw [verdict_module (moduleMsgs_isModule hm)] at hv
  split at hv <;> cases hv
  rfl

theorem evalCond_eq_holds (m : List Bool) (c : Cond) : evalCond m c = c.holds (fun j => m.getD j false) := by
  induction c with
  | lit b => rfl
  | str f => rfl
  | cnt f g => rfl
  | rule j => rfl
  | not c ih => simp [evalCond, Cond.holds, ih]
  | and a b iha ihb => simp [evalCond, Cond.holds, iha, ihb]
  | or a b iha ihb => simp [evalCond, Cond.holds, iha, ihb]

/-- skipping is sound: a condition that needs a string match is false when none of its strings matched -/
theorem holds_false_of_required (env : Nat → Bool) (c : Cond) (hr : c.required ≠ 0) (hf : c.anyFound = false) :
    c.holds env = false := by
  induction c with
  | lit b => simp [Cond.required] at hr
  | str f => simpa [Cond.anyFound, Cond.holds] using hf
  | cnt f g => simp [Cond.required] at hr
  | rule j => simp [Cond.required] at hr
  | not c _ => simp [Cond.required] at hr
  | and a b iha ihb =>
    simp only [Cond.anyFound, Bool.or_eq_false_iff] at hf
    simp only [Cond.required] at hr
    simp only [Cond.holds, Bool.and_eq_false_iff]
    by_cases ha : a.required = 0
    · exact Or.inr (ihb (by omega) hf.2)
    · exact Or.inl (iha ha hf.1)
  | or a b iha ihb =>
    simp only [Cond.anyFound, Bool.or_eq_false_iff] at hf
    simp only [Cond.required] at hr
    simp only [Cond.holds, Bool.or_eq_false_iff]
    exact ⟨iha (by omega) hf.1, ihb (by omega) hf.2⟩

theorem execRule_eq (e : Ex) (r : Rule) :
    execRule e r =
      let t := r.cond.holds (fun j => e.matched.getD j false)
      ⟨e.matched ++ [t], if r.isGlobal && !t then r.ns :: e.unsat else e.unsat⟩ := by
  simp only [execRule, Ex.markIfGlobal]
  cases hq : r.requiredEval with
  | false =>
    simp only [Rule.requiredEval, Bool.or_eq_false_iff, beq_eq_false_iff_ne] at hq
    simp [holds_false_of_required _ r.cond hq.1 hq.2]
  | true =>
    simp only [Bool.not_true, Bool.false_eq_true, if_false, evalCond_eq_holds]
    cases r.cond.holds (fun j => e.matched.getD j false) <;> simp

theorem exec_snoc (rs : List Rule) (r : Rule) : exec (rs ++ [r]) = execRule (exec rs) r := by
  simp [exec]

theorem exec_matched (rs : List Rule) : (exec rs).matched = truthTable rs := by
  induction rs using List.snoc_induction with
  | nil => rfl
  | snoc l a ih => rw [exec_snoc, execRule_eq, truthTable_snoc, ih]; rfl

theorem exec_unsat (rs : List Rule) (ns : Nat) : (exec rs).unsat.contains ns = !globalsHold rs ns := by
  induction rs using List.snoc_induction with
  | nil => rfl
  | snoc l a ih =>
    have ht : (fun j => (truthTable l).getD j false) = condHolds l := rfl
    rw [exec_snoc, execRule_eq, exec_matched, globalsHold_snoc, ht]
    cases a.isGlobal <;> cases a.cond.holds (condHolds l) <;> simp [← ih, @eq_comm _ ns, Bool.or_comm]
    rfl

/-- the model-side twin of `ruleMsg`: what `report` sends for a rule -/
def modelMsg (fl : Flags) (e : Ex) (ri : Rule × Nat) : Option Msg :=
  if ri.1.isPrivate then none else loopMsg fl e ri.2 ri.1

theorem modelMsg_exec (rs : List Rule) (fl : Flags) : modelMsg fl (exec rs) = ruleMsg rs fl := by
  funext ri
  simp only [modelMsg, ruleMsg, loopMsg, specMatching, condHolds, exec_matched, exec_unsat, Bool.not_not]
  rfl

theorem loopMsg_isRule {fl : Flags} {e : Ex} {i : Nat} {r : Rule} {m : Msg} (h : loopMsg fl e i r = some m) :
    m.isRule = true := by
  simp only [loopMsg] at h
  split at h <;> split at h <;> simp at h <;> subst h <;> rfl

theorem report_eq_play (fl : Flags) (e : Ex) (i : Nat) (rs : List Rule) (s : List Ret) :
    report fl e i rs s =
      let p := play ((rs.zipIdx i).filterMap (modelMsg fl e)) s
      (p.trace, match p.stopped with | some rc => .exit rc | none => .done p.rest) := by
  induction rs generalizing i s with
  | nil => simp [report, play]
  | cons r rs ih =>
    simp only [List.zipIdx_cons, List.filterMap_cons, report, modelMsg]
    cases hm : loopMsg fl e i r with
    | none => simpa using ih (i + 1) s
    | some m =>
      cases hp : r.isPrivate with
      | true => simpa using ih (i + 1) s
      | false =>
        rcases hc : call s with ⟨a, s'⟩
        cases a <;> simp [play, verdict_rule (loopMsg_isRule hm), hc, ih]

theorem scan_eq_specScan (rs : List Rule) (imports : List String) (fl : Flags) (script : List Ret) :
    scan rs imports fl script = specScan rs imports fl script := by
  simp only [scan, specScan, protocol, List.append_assoc, loadModules_empty_table, play_append (moduleMsgs imports)]
  cases hs : (play (moduleMsgs imports) script).stopped with
  | some rc => cases play_moduleMsgs_stopped hs; simp [hs]
  | none =>
    have hr : ((rs.zipIdx 0).filterMap (modelMsg fl (exec rs))) = ruleMsgs rs fl := by rw [modelMsg_exec]; rfl
    simp only [Option.isNone_none, Bool.not_true, Bool.false_eq_true, if_false, report_eq_play, hr, play_append (ruleMsgs rs fl)]
    cases hs2 : (play (ruleMsgs rs fl) (play (moduleMsgs imports) script).rest).stopped <;>
      simp [hs2, play, verdict_finished]

/-- what the code's state records after the occurrences `seen` -/
def MInv (limit : Nat) (seen : List Nat) (st : MatchSt) : Prop :=
  ∀ s, st.count s = min (seen.count s) limit ∧ (s ∈ st.disabled ↔ limit < seen.count s)

theorem MInv.snoc {limit : Nat} {seen : List Nat} {st st' : MatchSt} {s : Nat} (h : MInv limit seen st)
    (hne : ∀ x, x ≠ s → st'.count x = st.count x ∧ (x ∈ st'.disabled ↔ x ∈ st.disabled))
    (hs : st'.count s = min (seen.count s + 1) limit ∧ (s ∈ st'.disabled ↔ limit < seen.count s + 1)) :
    MInv limit (seen ++ [s]) st' := by
  intro x
  rw [List.count_append, List.count_singleton]
  by_cases hx : s = x
  · subst hx; simpa using hs
  · obtain ⟨h1, h2⟩ := hne x (Ne.symm hx)
    simpa [hx, h1, h2] using h x

theorem matchPhase_eq_play (limit : Nat) (es seen : List Nat) (st : MatchSt) (sc : List Ret)
    (h : MInv limit seen st) :
    let p := play (tooManyMsgsFrom limit seen es) sc
    let m := matchPhase limit es st sc
    m.trace = p.trace ∧ m.rest = p.rest ∧ m.ok = p.stopped.isNone ∧
      (p.stopped = none → MInv limit (seen ++ es) m.st) := by
  induction es generalizing seen st sc with
  | nil => simp [matchPhase, tooManyMsgsFrom, play, h]
  | cons s es ih =>
    obtain ⟨hcnt, hdis⟩ := h s
    rw [List.append_cons]
    simp only [matchPhase, tooManyMsgsFrom, List.contains_iff_mem]
    by_cases hd : s ∈ st.disabled
    · have hgt := hdis.1 hd
      rw [if_pos hd, if_neg (Nat.ne_of_gt hgt)]
      apply ih
      exact h.snoc (fun _ _ => ⟨rfl, .rfl⟩)
        ⟨by rw [hcnt, Nat.min_eq_right (Nat.le_of_lt hgt), Nat.min_eq_right (by omega)], iff_of_true hd (by omega)⟩
    · have hle := Nat.le_of_not_lt (mt hdis.2 hd)
      rw [Nat.min_eq_left hle] at hcnt
      rw [if_neg hd, hcnt]
      by_cases hc : seen.count s = limit
      · rw [if_pos hc, if_pos hc]
        have hinv : MInv limit (seen ++ [s]) ⟨st.count, s :: st.disabled⟩ :=
          h.snoc (fun x hx => ⟨rfl, List.mem_cons.trans (or_iff_right hx)⟩)
            ⟨by rw [Nat.min_eq_right (by omega)]; exact hcnt.trans hc, iff_of_true List.mem_cons_self (by omega)⟩
        rcases hcs : call sc with ⟨a, sc'⟩
        cases a
        · obtain ⟨i1, i2, i3, i4⟩ := ih _ _ sc' hinv
          simpa [play, verdict_tooMany, hcs, i1, i2, i3] using i4
        all_goals simp [play, verdict_tooMany, hcs]
      · rw [if_neg hc, if_neg hc]
        apply ih
        exact h.snoc (fun x hx => ⟨if_neg hx, .rfl⟩)
          ⟨(if_pos rfl).trans (by rw [Nat.min_eq_left (by omega)]), iff_of_false hd (by omega)⟩

theorem play_tooManyMsgs_stopped {limit : Nat} {events : List Nat} {s : List Ret} {rc : Rc}
    (h : (play (tooManyMsgs limit events) s).stopped = some rc) : rc = .tooManyMatches := by
  obtain ⟨m, hm, a, hv⟩ := play_stopped_mem h
  obtain ⟨x, rfl⟩ := isTooMany_eq (tooManyMsgsFrom_isTooMany hm)
  rw [verdict_tooMany] at hv
  split at hv <;> cases hv
  rfl

theorem fullScan_eq_specFullScan (limit : Nat) (events : List Nat) (rs : List SRule) (imports : List String)
    (fl : Flags) (script : List Ret) :
    fullScan limit events rs imports fl script = specFullScan limit events rs imports fl script := by
  obtain ⟨h1, h2, h3, h4⟩ := matchPhase_eq_play limit events [] .init script fun s => by simp [MatchSt.init]
  simp only [fullScan, specFullScan, fullProtocol, play_append (tooManyMsgs limit events), h1, h2, h3]
  cases hs : (play (tooManyMsgs limit events) script).stopped with
  | some rc => cases play_tooManyMsgs_stopped hs; simp [tooManyMsgs] at hs ⊢; simp [hs]
  | none =>
    have hc : (matchPhase limit events .init script).st.count = specCount limit events :=
      funext fun s => (h4 hs s).1
    simp [tooManyMsgs] at hs
    simp [hs, hc, scan_eq_specScan, specScan, tooManyMsgs]

theorem scan_plays (rs : List Rule) (imports : List String) (fl : Flags) (script : List Ret) :
    Plays (scan rs imports fl script) (protocol rs imports fl) script :=
  scan_eq_specScan rs imports fl script

theorem fullScan_plays (limit : Nat) (events : List Nat) (rs : List SRule) (imports : List String)
    (fl : Flags) (script : List Ret) :
    Plays (fullScan limit events rs imports fl script) (fullProtocol limit events rs imports fl) script :=
  fullScan_eq_specFullScan limit events rs imports fl script

theorem scan_prefix_modules (rs : List Rule) (imports : List String) (fl : Flags) (script : List Ret) :
    (scan rs imports fl script).1 <+: moduleMsgs imports ++ (ruleMsgs rs fl ++ [.scanFinished]) :=
  List.append_assoc .. ▸ (scan_plays rs imports fl script).prefix

theorem finished_mem_iff (rs : List Rule) (imports : List String) (fl : Flags) (script : List Ret) :
    Msg.scanFinished ∈ (scan rs imports fl script).1 ↔ NotStopped (scan rs imports fl script).1 script := by
  rw [(scan_plays rs imports fl script).notStopped_iff, scan_plays rs imports fl script, protocol, play_append]
  cases hs : (play (moduleMsgs imports ++ ruleMsgs rs fl) script).stopped with
  | some rc => simpa [Played.outcome, hs] using fun h => finished_not_mem_body rs imports fl ((play_prefix _ script).subset h)
  | none => simp [Played.outcome, play, verdict_finished]

theorem mem_scan_rule (rs : List Rule) (imports : List String) (fl : Flags) (script : List Ret) (m : Msg)
    (hm : m ∈ (scan rs imports fl script).1) (hr : m.isRule = true) : m ∈ ruleMsgs rs fl := by
  rw [← protocol_filter_rule rs imports fl]
  exact List.mem_filter.2 ⟨(scan_plays rs imports fl script).prefix.subset hm, hr⟩

theorem ruleMatching_of_scan {rs : List Rule} {imports : List String} {fl : Flags} {script : List Ret} {i : Nat}
    (h : Msg.ruleMatching i ∈ (scan rs imports fl script).1) :
    ∃ r, rs[i]? = some r ∧ r.isPrivate = false ∧ fl.matching = true ∧ specMatching rs i r = true :=
  (mem_ruleMsgs_matching rs fl i).1.1 (mem_scan_rule rs imports fl script _ h rfl)

theorem ruleNotMatching_of_scan {rs : List Rule} {imports : List String} {fl : Flags} {script : List Ret} {i : Nat}
    (h : Msg.ruleNotMatching i ∈ (scan rs imports fl script).1) :
    ∃ r, rs[i]? = some r ∧ r.isPrivate = false ∧ fl.notMatching = true ∧ specMatching rs i r = false :=
  (mem_ruleMsgs_matching rs fl i).2.1 (mem_scan_rule rs imports fl script _ h rfl)

theorem fullScan_of_continue (limit : Nat) (events : List Nat) (rs : List SRule) (imports : List String)
    (fl : Flags) (script : List Ret)
    (hcont : ∀ k, k < (tooManyMsgs limit events).length → answer script k = .cont) :
    fullScan limit events rs imports fl script =
      (tooManyMsgs limit events ++
         (scan (rs.map (SRule.resolve (specCount limit events))) imports fl
            (script.drop (tooManyMsgs limit events).length)).1,
       (scan (rs.map (SRule.resolve (specCount limit events))) imports fl
            (script.drop (tooManyMsgs limit events).length)).2) := by
  have hp : play (tooManyMsgs limit events) script =
      ⟨tooManyMsgs limit events, none, script.drop (tooManyMsgs limit events).length⟩ := by
    apply play_all_none
    intro k m hk
    obtain ⟨s, rfl⟩ := isTooMany_eq (tooManyMsgsFrom_isTooMany (List.mem_of_getElem? hk))
    rw [verdict_tooMany, hcont k (List.getElem?_eq_some_iff.1 hk).1]
  rw [fullScan_eq_specFullScan]
  simp only [specFullScan, fullProtocol, play_append (tooManyMsgs limit events), hp, scan_eq_specScan, specScan]

end YaraModel.Cb
