/- Concrete non-trivial arenas used by the `example`s next to the property theorems (they show that the hypotheses are
   satisfiable); `exArena2` and the facts about the saved image serve Thm/C17; ArenaSession (a client session run from `create`)
   takes `exAlloc`. -/
import YaraModel.Lemmas.ArenaLoad
namespace YaraModel.Arena

/-- buffer 0 (at 0x2000) holds two registered pointers: one to byte 2 of buffer 1 (at 0x1000),
    one null; buffer 2 was never allocated -/
def exArena : Arena :=
  { bufs := [ { data := [2, 16, 0, 0, 0, 0, 0, 0, 1, 2, 0, 0, 0, 0, 0, 0, 0, 0], cap := 32, base := 8192 },
              { data := [7, 7, 7, 7], cap := 8, base := 4096 },
              {} ],
    relocs := [⟨0, 0⟩, ⟨0, 10⟩], init := 8 }

theorem exArena_wf : WF exArena := by
  refine ⟨by decide, ⟨by decide, by decide, by decide⟩, by decide, by decide, by decide⟩

theorem exArena_fresh : Fresh exArena 1 65536 64 := by
  refine ⟨by decide, by decide, ?_, by decide⟩
  intro j hj hne
  have : j = 0 ∨ j = 2 := by
    have : j < 3 := hj
    omega
  rcases this with rfl | rfl <;> decide

def exAlloc (i : Nat) : Nat := 1048576 * (i + 1)

theorem exArena_small : ∀ b ∈ exArena.bufs, b.data.length ≤ 2 ^ 31 := by decide

theorem exArena_loaded : RangesOk (loadedBufs exAlloc 0 (bodies (toRefs exArena))) := ⟨by decide, by decide, by decide⟩

theorem exArena_bodiesEnd : bodiesEnd exArena = 64 := by decide

/-- 6 bytes of header, 3 table entries, 22 bytes of bodies, 2 relocation entries (by the length of each part: the header's
    bytes are not looked at) -/
theorem exArena_save_length : (save exArena).length = 80 := by
  rw [save_split]
  simp only [List.length_append, length_header, length_table]
  decide

/-- two buffers: buffer 0 is one registered pointer holding NULL; the last 8 bytes of buffer 1 (the last buffer) happen to
    read as the relocation entry (buffer 0, offset 0) -/
def exArena2 : Arena :=
  { bufs := [ { data := [0, 0, 0, 0, 0, 0, 0, 0], cap := 8, base := 8192 },
              { data := [7, 7, 7, 7, 0, 0, 0, 0, 0, 0, 0, 0], cap := 16, base := 4096 } ],
    relocs := [⟨0, 0⟩], init := 8 }

theorem exArena2_wf : WF exArena2 := by
  refine ⟨by decide, ⟨by decide, by decide, by decide⟩, by decide, by decide, by decide⟩

end YaraModel.Arena
