/- Aho-Corasick construction, `_yr_ac_create_failure_links` and `_yr_ac_optimize_failure_links`: failure = longest proper
   path-suffix, match list of a state = the entries of all atoms that are suffixes of its path, longest first (`specList`), root
   matches (zero-length atoms) last; the shortened links keep the transition function. -/
import YaraModel.Lemmas.AcBuildChains
namespace YaraModel.AC.Build
open YaraModel.Text

/-- where the list of `x` must continue after its own entries -/
def RT (A : Auto) (atoms : List (Nat × Atom)) (x : Nat) : Nat := headRef (specList atoms (A.st x).path.tail)
/-- reference (1-based, 0 = NULL) of the root's match list: the zero-length atoms, newest first -/
def R0 (atoms : List (Nat × Atom)) : Nat := headRef (ownIdx atoms [])

/-- match-list structure during the pass. `lk`: states already linked to their failure state's list (their parent has been
    popped), `pp`: states popped themselves. A linked state's continuation may still be NULL where the final one is the
    root's list (the failure state had not inherited it yet); popping the state repairs that. `root_bt` is assumed of the
    atoms: `rootFixup` tells the root's own entries by `backtrack = 0` (C: `match->backtrack > 0`). -/
structure MS (A : Auto) (atoms : List (Nat × Atom)) (lk pp : Nat → Prop) : Prop where
  trie : Trie A
  pool_size : A.pool.size = atoms.length
  pool_info : ∀ (e : Nat) (a : Nat × Atom), atoms[e]? = some a →
    ∃ nx, A.pool[e]? = some (a.1, a.2.bytes.length + a.2.backtrack, nx)
  atoms_in : ∀ a ∈ atoms, ∃ s, s < A.states.size ∧ (A.st s).path = a.2.bytes
  root_bt : ∀ a ∈ atoms, a.2.bytes = [] → a.2.backtrack = 0
  root_chain : ChainSeg A.pool (A.st 0).matchesRef (ownIdx atoms []) 0
  pp_lk : ∀ x, pp x → lk x
  lk_range : ∀ x, lk x → 0 < x ∧ x < A.states.size
  fresh : ∀ x, 0 < x → x < A.states.size → ¬ lk x → ChainSeg A.pool (A.st x).matchesRef (ownIdx atoms (A.st x).path) 0
  linked : ∀ x, lk x → ¬ pp x → ∃ tl, ChainSeg A.pool (A.st x).matchesRef (ownIdx atoms (A.st x).path) tl ∧
    (tl = RT A atoms x ∨ (tl = 0 ∧ RT A atoms x = R0 atoms))
  popped : ∀ x, pp x → ChainSeg A.pool (A.st x).matchesRef (ownIdx atoms (A.st x).path) (RT A atoms x)

/-- invariant of the queue loop of `_yr_ac_create_failure_links` -/
structure I2 (A : Auto) (atoms : List (Nat × Atom)) (lk pp : Nat → Prop) : Prop where
  ms : MS A atoms lk pp
  root_fail : (A.st 0).failure = 0
  fail : ∀ x, lk x → (A.st x).failure < A.states.size ∧
    (A.st (A.st x).failure).path = lsuf (pathsOf A) (A.st x).path.tail

theorem Trie.path_ne_nil {A : Auto} (hT : Trie A) {x : Nat} (hx : x < A.states.size) (h0 : 0 < x) : (A.st x).path ≠ [] := by
  intro h
  have := hT.depth_pos hx h0
  rw [hT.depth_eq x hx, h] at this
  simp at this

theorem atoms_in_paths {A : Auto} {atoms : List (Nat × Atom)}
    (hin : ∀ a ∈ atoms, ∃ s, s < A.states.size ∧ (A.st s).path = a.2.bytes) :
    ∀ (e : Nat) (a : Nat × Atom), atoms[e]? = some a → a.2.bytes ∈ pathsOf A := by
  intro e a ha
  obtain ⟨s, hs, hp⟩ := hin a (List.mem_of_getElem? ha)
  exact mem_pathsOf.mpr ⟨s, hs, hp⟩

theorem specList_ends (atoms : List (Nat × Atom)) : ∀ (w : Bytes), ∃ pre, specList atoms w = pre ++ ownIdx atoms [] := by
  intro w
  induction w with
  | nil => exact ⟨[], rfl⟩
  | cons c t ih =>
    obtain ⟨pre, hp⟩ := ih
    exact ⟨ownIdx atoms (c :: t) ++ pre, by simp [specList, hp]⟩

theorem R0_of_specList_nil {atoms : List (Nat × Atom)} {w : Bytes} (h : headRef (specList atoms w) = 0) : R0 atoms = 0 := by
  obtain ⟨pre, hp⟩ := specList_ends atoms w
  rw [hp] at h
  unfold R0
  cases hpre : pre with
  | nil => rw [hpre] at h; exact h
  | cons a l => rw [hpre] at h; cases h

theorem MS.ref_status {A : Auto} {atoms : List (Nat × Atom)} {lk pp : Nat → Prop} (h : MS A atoms lk pp) {t : Nat} (ht : lk t) :
    (A.st t).matchesRef = headRef (specList atoms (A.st t).path) ∨
    ((A.st t).matchesRef = 0 ∧ headRef (specList atoms (A.st t).path) = R0 atoms) := by
  have hr := h.lk_range t ht
  obtain ⟨tl, hc, htl⟩ : ∃ tl, ChainSeg A.pool (A.st t).matchesRef (ownIdx atoms (A.st t).path) tl ∧
      (tl = RT A atoms t ∨ (tl = 0 ∧ RT A atoms t = R0 atoms)) := by
    by_cases hp : pp t
    · exact ⟨_, h.popped t hp, Or.inl rfl⟩
    · exact h.linked t ht hp
  rw [specList_of_ne_nil atoms _ (h.trie.path_ne_nil hr.2 hr.1), headRef_append, hc.head_eq]
  -- without own entries the reference is the continuation, and the claim is what `linked` says of it
  by_cases ho : ownIdx atoms (A.st t).path = []
  · rw [if_pos ho, if_pos ho]; exact htl
  · rw [if_neg ho, if_neg ho]; exact Or.inl rfl

theorem Trie.fail_depth_lt {A : Auto} (hT : Trie A) {x f : Nat} (hx : x < A.states.size) (h0 : 0 < x) (hf : f < A.states.size)
    (hfp : (A.st f).path = lsuf (pathsOf A) (A.st x).path.tail) : (A.st f).depth < (A.st x).depth := by
  rw [hT.depth_eq f hf, hT.depth_eq x hx, hfp]
  exact lsuf_tail_length_lt _ (hT.path_ne_nil hx h0)

theorem MS.complete_chain {A : Auto} {atoms : List (Nat × Atom)} {lk pp : Nat → Prop} (h : MS A atoms lk pp) {y : Nat}
    (hy : y = 0 ∨ pp y) (hys : y < A.states.size) (hdp : Below A pp (A.st y).depth) :
    ChainSeg A.pool (A.st y).matchesRef (specList atoms (A.st y).path) 0 := by
  have hT := h.trie
  induction hn : (A.st y).depth using Nat.strongRecOn generalizing y with
  | _ n ih =>
    rcases hy with hy | hy
    · subst hy
      rw [hT.root_path]; exact h.root_chain
    · have hr := h.lk_range y (h.pp_lk y hy)
      rw [specList_of_ne_nil atoms _ (hT.path_ne_nil hr.2 hr.1)]
      refine (h.popped y hy).append ?_
      -- the list continues with the whole list of the state `f` of the longest proper suffix, which is shallower: the root, or popped
      obtain ⟨f, hf, hfp⟩ := mem_pathsOf.mp (lsuf_mem (pathsOf A) hT.nil_mem (A.st y).path.tail)
      have hdf := hT.fail_depth_lt hr.2 hr.1 hf hfp
      have hc := ih _ (hn ▸ hdf) ((Nat.eq_zero_or_pos f).imp id fun e => hdp f e hf hdf) hf
        (fun g h0 hg hd => hdp g h0 hg (Nat.lt_trans hd hdf)) rfl
      rw [hfp, ← specList_lsuf (atoms_in_paths h.atoms_in)] at hc
      rw [show RT A atoms y = (A.st f).matchesRef from hc.ref_eq.symm]; exact hc

theorem findFailure_spec {A : Auto} {atoms : List (Nat × Atom)} {lk pp : Nat → Prop} (h : I2 A atoms lk pp) {d : Nat} (hdc : Below A lk d)
    (c : UInt8) : ∀ (fuel g : Nat), g < A.states.size → (A.st g).depth + 1 < d → (A.st g).depth < fuel →
    match findFailure A c fuel g with
    | some t => t < A.states.size ∧ lk t ∧ (A.st t).path = lsuf (pathsOf A) ((A.st g).path ++ [c])
    | none => lsuf (pathsOf A) ((A.st g).path ++ [c]) = [] := by
  have hT := h.ms.trie
  intro fuel g
  -- the branches of `findFailure`: 1 out of fuel; 2 a transition on `c`; 3 none, at the root; 4 none elsewhere: on to the failure state
  fun_induction findFailure A c fuel g with
  | case1 g => intro _ _ hf; omega
  | case2 fuel g t hn =>
    intro hg hd _
    obtain ⟨ht, hi⟩ := nextState_some hn
    have hlt := hT.child_lt g hg t ht
    have hp := hT.child_path g hg t ht
    rw [hi] at hp
    refine ⟨hlt.2, hdc t (by omega) hlt.2 (by rw [hT.depth_child hg ht]; omega), ?_⟩
    rw [← hp]
    exact (lsuf_of_mem _ _ (mem_pathsOf.mpr ⟨t, hlt.2, rfl⟩)).symm
  | case3 fuel hn =>
    intro hg _ _
    have hnp := hT.not_path_of_no_child hg (nextState_none hn)
    rw [hT.root_path, List.nil_append] at hnp ⊢
    exact lsuf_of_not_mem _ _ _ hnp
  | case4 fuel g hn hg0 ih =>
    intro hg hd hf
    have hnp := hT.not_path_of_no_child hg (nextState_none hn)
    obtain ⟨hf1, hf2⟩ := h.fail g (hdc g (by omega) hg (by omega))
    have hdlt := hT.fail_depth_lt hg (by omega) hf1 hf2
    rw [lsuf_fail_step _ hT.nil_mem hT.prefixClosed _ c hnp, ← hf2]
    exact ih hf1 (by omega) (by omega)

theorem I2.congr_sets {A : Auto} {atoms : List (Nat × Atom)} {lk lk' pp pp' : Nat → Prop} (h : I2 A atoms lk pp)
    (e : ∀ x, lk x ↔ lk' x) (e2 : ∀ x, pp x ↔ pp' x) : I2 A atoms lk' pp' := by
  have : lk = lk' := funext fun x => propext (e x)
  have : pp = pp' := funext fun x => propext (e2 x)
  subst_vars; exact h

theorem Below.mono {A : Auto} {lk lk' : Nat → Prop} {d : Nat} (h : Below A lk d) (hm : ∀ x, lk x → lk' x) : Below A lk' d :=
  fun g h0 hg hd => hm g (h g h0 hg hd)

theorem Same.refl (A : Auto) : Same A A := ⟨rfl, fun _ => rfl⟩
theorem Same.trans {A B C : Auto} (h1 : Same A B) (h2 : Same B C) : Same A C :=
  ⟨h2.1.trans h1.1, fun i => (h2.2 i).trans (h1.2 i)⟩

theorem Same.kids {A B : Auto} (h : Same A B) (s : Nat) : kids B s = kids A s := h.children s

theorem same_modify (A : Auto) (ch : Nat) (f : State → State) (hf : ∀ x : State, shape (f x) = shape x) :
    Same A (A.modify ch f) := ⟨by simp, proj_modify shape A ch f hf⟩

theorem same_setNext (A : Auto) (i1 nx : Nat) : Same A (setNext A i1 nx) := ⟨rfl, fun _ => rfl⟩

/-- `B` is `A` after a write that concerns the state `ch` only: its failure link, its match reference, or the `next` of one of
    the pool entries `own` -/
structure Touch (A B : Auto) (ch : Nat) (own : List Nat) : Prop where
  same : Same A B
  others : ∀ j, j ≠ ch → (B.st j).matchesRef = (A.st j).matchesRef ∧ (B.st j).failure = (A.st j).failure
  pool_size : B.pool.size = A.pool.size
  info : ∀ (e a b : Nat), (∃ n, A.pool[e]? = some (a, b, n)) → ∃ n, B.pool[e]? = some (a, b, n)
  next : ∀ e, e ∉ own → poolNextAt B.pool e = poolNextAt A.pool e

theorem Touch.refl (A : Auto) (ch : Nat) (own : List Nat) : Touch A A ch own :=
  ⟨Same.refl A, fun _ _ => ⟨rfl, rfl⟩, rfl, fun _ _ _ h => h, fun _ _ => rfl⟩

theorem Touch.trans {A B C : Auto} {ch : Nat} {own : List Nat} (h1 : Touch A B ch own) (h2 : Touch B C ch own) : Touch A C ch own :=
  ⟨h1.same.trans h2.same,
   fun j hj => ⟨(h2.others j hj).1.trans (h1.others j hj).1, (h2.others j hj).2.trans (h1.others j hj).2⟩,
   h2.pool_size.trans h1.pool_size, fun e a b h => h2.info e a b (h1.info e a b h),
   fun e he => (h2.next e he).trans (h1.next e he)⟩

theorem touch_modify (A : Auto) (ch : Nat) (f : State → State) (hf : ∀ x : State, shape (f x) = shape x) (own : List Nat) :
    Touch A (A.modify ch f) ch own :=
  ⟨same_modify A ch f hf, fun j hj => by rw [st_modify_ne A ch j f hj]; exact ⟨rfl, rfl⟩, rfl, fun _ _ _ h => h, fun _ _ => rfl⟩

theorem touch_setNext (A : Auto) (ch : Nat) {own : List Nat} {last : Nat} (hl : last ∈ own) (v : Nat) :
    Touch A (setNext A (last + 1) v) ch own :=
  ⟨same_setNext _ _ _, fun _ _ => ⟨rfl, rfl⟩, by simp, fun e a b h => setNext_info A (last + 1) v e a b h,
   fun e he => setNext_next_ne A _ _ (fun hh => he (by rw [hh]; simpa using hl))⟩

theorem I2_frame {A B : Auto} {atoms : List (Nat × Atom)} {lk pp lk' pp' : Nat → Prop} (h : I2 A atoms lk pp) {ch : Nat}
    (hch : 0 < ch ∧ ch < A.states.size)
    (ht : Touch A B ch (ownIdx atoms (A.st ch).path))
    (hlk : ∀ x, x ≠ ch → (lk' x ↔ lk x)) (hpp : ∀ x, x ≠ ch → (pp' x ↔ pp x)) (hl : lk' ch)
    (cseg : ∃ tl, ChainSeg B.pool (B.st ch).matchesRef (ownIdx atoms (A.st ch).path) tl ∧
      (tl = RT A atoms ch ∨ (¬ pp' ch ∧ tl = 0 ∧ RT A atoms ch = R0 atoms)))
    (cfail : (B.st ch).failure < A.states.size ∧ (A.st (B.st ch).failure).path = lsuf (pathsOf A) (A.st ch).path.tail) :
    I2 B atoms lk' pp' := by
  obtain ⟨tl, cseg, ctl⟩ := cseg
  obtain ⟨hs, s3, s4, s4', s5⟩ := ht
  have s1 := hs.size
  have hT := h.ms.trie
  have hRT : ∀ x, RT B atoms x = RT A atoms x := fun x => by unfold RT; rw [hs.path x]
  -- the own entries of different states are disjoint (paths are injective), so the lists of the other states survive `s5`
  have frame : ∀ x, x < A.states.size → x ≠ ch → ∀ r tl, ChainSeg A.pool r (ownIdx atoms (A.st x).path) tl →
      ChainSeg B.pool r (ownIdx atoms (A.st x).path) tl := by
    intro x hx hxc r tl hc
    apply hc.congr (by omega)
    intro e he
    apply s5
    intro he2
    exact hxc (hT.path_inj x ch hx hch.2 (ownIdx_disjoint he he2))
  -- every field: for `x = ch` it is one of the hypotheses `c…`, for `x ≠ ch` the old fact moved along `frame`, `s3`
  refine ⟨⟨hT.congr hs, by rw [s4]; exact h.ms.pool_size, ?_, ?_, h.ms.root_bt, ?_, ?_, ?_, ?_, ?_, ?_⟩, ?_, ?_⟩
  · intro e a ha
    exact s4' e _ _ (h.ms.pool_info e a ha)
  · intro a ha
    obtain ⟨s, hs1, hs2⟩ := h.ms.atoms_in a ha
    exact ⟨s, by omega, by rw [hs.path s]; exact hs2⟩
  · rw [(s3 0 (by omega)).1]
    have := frame 0 hT.size_pos (by omega) _ _ (by rw [hT.root_path]; exact h.ms.root_chain)
    rw [hT.root_path] at this; exact this
  · intro x hx
    by_cases e : x = ch
    · subst e; exact hl
    · exact (hlk x e).mpr (h.ms.pp_lk x ((hpp x e).mp hx))
  · intro x hx
    by_cases e : x = ch
    · subst e; omega
    · have := h.ms.lk_range x ((hlk x e).mp hx); omega
  · intro x h0 hx hn
    rw [hs.path x]
    by_cases e : x = ch
    · subst e; exact absurd hl hn
    · rw [(s3 x e).1]
      exact frame x (by omega) e _ _ (h.ms.fresh x h0 (by omega) (fun hh => hn ((hlk x e).mpr hh)))
  · intro x hx hn
    rw [hs.path x, hRT]
    by_cases e : x = ch
    · subst e; exact ⟨tl, cseg, ctl.imp id (·.2)⟩
    · obtain ⟨tl, hc, htl⟩ := h.ms.linked x ((hlk x e).mp hx) (fun hh => hn ((hpp x e).mpr hh))
      have hr := h.ms.lk_range x ((hlk x e).mp hx)
      rw [(s3 x e).1]
      exact ⟨tl, frame x hr.2 e _ _ hc, htl⟩
  · intro x hx
    rw [hs.path x, hRT]
    by_cases e : x = ch
    · subst e
      rcases ctl with e | ⟨hn, _⟩
      · exact e ▸ cseg
      · exact absurd hx hn
    · have hpx := (hpp x e).mp hx
      have hr := h.ms.lk_range x (h.ms.pp_lk x hpx)
      rw [(s3 x e).1]
      exact frame x hr.2 e _ _ (h.ms.popped x hpx)
  · rw [(s3 0 (by omega)).2]; exact h.root_fail
  · intro x hx
    rw [hs.size, pathsOf_congr hs, hs.path x]
    by_cases e : x = ch
    · subst e
      obtain ⟨c1, c2⟩ := cfail
      exact ⟨c1, by rw [hs.path _]; exact c2⟩
    · obtain ⟨g1, g2⟩ := h.fail x ((hlk x e).mp hx)
      rw [(s3 x e).2]
      exact ⟨g1, by rw [hs.path _]; exact g2⟩

theorem poolBt_of_info {A : Auto} {e a b n : Nat} (h : A.pool[e]? = some (a, b, n)) : poolBt A (e + 1) = b := by
  unfold poolBt
  simp [Array.getD_eq_getD_getElem?, h]

theorem last_mem_own_nil {atoms : List (Nat × Atom)} {w : Bytes} {init : List Nat} {last : Nat}
    (h : specList atoms w = init ++ [last]) (hne : ownIdx atoms [] ≠ []) : last ∈ ownIdx atoms [] := by
  obtain ⟨pre, hp⟩ := specList_ends atoms w
  rw [hp] at h
  rcases List.eq_nil_or_concat (ownIdx atoms []) with e | ⟨i2, l2, e⟩
  · exact absurd e hne
  · rw [List.concat_eq_append] at e
    rw [e, ← List.append_assoc] at h
    have := (List.append_inj' h rfl).2
    simp at this
    rw [e, ← this]; simp

/-- both writes of the loop body: make the own segment of `x` continue at `v` -/
def setTail (A : Auto) (x v : Nat) : Auto :=
  if (A.st x).matchesRef = 0 then A.modify x fun s => { s with matchesRef := v }
  else setNext A (lastMatch A A.pool.size (A.st x).matchesRef) v

theorem setTail_spec {A : Auto} {x : Nat} {own : List Nat} (hx : x < A.states.size)
    (hc : ChainSeg A.pool (A.st x).matchesRef own 0) (hn : own.Nodup) (hl : own.length ≤ A.pool.size) (v : Nat) :
    Touch A (setTail A x v) x own ∧ ChainSeg (setTail A x v).pool ((setTail A x v).st x).matchesRef own v ∧
      ((setTail A x v).st x).failure = (A.st x).failure := by
  unfold setTail
  by_cases hr : (A.st x).matchesRef = 0
  · rw [if_pos hr]
    rw [hr] at hc
    rw [hc.nil_of_zero, st_modify_self A x _ hx]
    exact ⟨touch_modify A x (fun s => { s with matchesRef := v }) (fun _ => rfl) _, rfl, rfl⟩
  · rw [if_neg hr]
    obtain ⟨init, last, rfl, hlm⟩ := lastMatch_of_chain A hc hr hl
    rw [hlm]
    exact ⟨touch_setNext A x (by simp) v, ChainSeg.setNext_last hc hn v, rfl⟩

theorem rootFixup_I2 {A : Auto} {atoms : List (Nat × Atom)} {lk pp : Nat → Prop} (h : I2 A atoms lk pp) {cur : Nat}
    (hcur : lk cur) (hnp : ¬ pp cur) (hdp : Below A pp (A.st cur).depth) :
    I2 (rootFixup A cur) atoms lk (fun x => pp x ∨ x = cur) := by
  have hT := h.ms.trie
  have hcr := h.ms.lk_range cur hcur
  have hcne := hT.path_ne_nil hcr.2 hcr.1
  obtain ⟨tl, hc, htl⟩ := h.ms.linked cur hcur hnp
  have hroot : (A.st 0).matchesRef = R0 atoms := h.ms.root_chain.ref_eq
  have hlk' : ∀ x, x ≠ cur → (lk x ↔ lk x) := fun _ _ => Iff.rfl
  have hpp' : ∀ x, x ≠ cur → ((pp x ∨ x = cur) ↔ pp x) := fun x e => ⟨fun hh => hh.resolve_right e, Or.inl⟩
  have hownlen : (ownIdx atoms (A.st cur).path).length ≤ A.pool.size := by rw [h.ms.pool_size]; exact ownIdx_length_le _ _
  by_cases htl0 : tl = 0
  · -- the list is the own entries only and ends in NULL: it gets the root's list as continuation, which is the final one
    subst htl0
    have hfinal : R0 atoms = RT A atoms cur := by
      rcases htl with e | ⟨_, e⟩
      · rw [← e]; exact R0_of_specList_nil e.symm
      · exact e.symm
    have hset : rootFixup A cur = setTail A cur (R0 atoms) := by
      unfold rootFixup setTail
      rw [hroot]
      by_cases hr : (A.st cur).matchesRef = 0
      · rw [if_neg (fun hh => hh hr), if_pos hr]
      · rw [if_pos hr, if_neg hr]
        -- the last own entry belongs to an atom with the path of `cur`, which is not empty: its backtrack is positive
        obtain ⟨init, last, hl, hlm⟩ := lastMatch_of_chain A hc hr hownlen
        have hlast : last ∈ ownIdx atoms (A.st cur).path := by rw [hl]; simp
        obtain ⟨a, ha, hab⟩ := mem_ownIdx.mp hlast
        obtain ⟨nx, hnx⟩ := h.ms.pool_info last a ha
        have hbt : poolBt A (last + 1) > 0 := by
          rw [poolBt_of_info hnx, hab]
          have := List.length_pos_iff.mpr hcne
          omega
        rw [hlm, if_pos hbt]
    rw [hset]
    obtain ⟨t1, hc1, hf1⟩ := setTail_spec hcr.2 hc (ownIdx_nodup _ _) hownlen (R0 atoms)
    exact I2_frame h hcr t1 hlk' hpp' hcur ⟨_, hc1, Or.inl hfinal⟩ (by rw [hf1]; exact h.fail cur hcur)
  · -- the list continues into the final list of the failure state, which ends with the root's list: nothing is written
    have hexact : tl = RT A atoms cur := by
      rcases htl with e | ⟨e, _⟩
      · exact e
      · exact absurd e htl0
    have hr : (A.st cur).matchesRef ≠ 0 := by
      intro hr
      have := hc.head_eq
      rw [hr] at hc this
      rw [hc.nil_of_zero, if_pos rfl] at this
      exact htl0 this.symm
    have hI : I2 A atoms lk (fun x => pp x ∨ x = cur) :=
      I2_frame h hcr (Touch.refl A cur _) hlk' hpp' hcur ⟨_, hc, Or.inl hexact⟩ (h.fail cur hcur)
    have hcomplete : ChainSeg A.pool (A.st cur).matchesRef (specList atoms (A.st cur).path) 0 :=
      hI.ms.complete_chain (Or.inr (Or.inr rfl)) hcr.2 (hdp.mono fun _ => Or.inl)
    obtain ⟨init, last, hl, hlm⟩ := lastMatch_of_chain A hcomplete hr (by rw [h.ms.pool_size]; exact specList_length_le _ _)
    rw [hl] at hcomplete
    have hnext : poolNext A (last + 1) = 0 := by
      obtain ⟨m, _, h2⟩ := hcomplete.split
      simp only [ChainSeg] at h2
      rw [poolNext_eq]; exact h2.2.2
    have hsame : rootFixup A cur = A := by
      unfold rootFixup
      rw [if_pos hr]
      simp only
      rw [hlm]
      split
      · -- the last entry of the whole list is a root entry (backtrack 0) unless there is none, and then the write changes nothing
        rename_i hbt
        by_cases hon : ownIdx atoms [] = []
        · have : (A.st 0).matchesRef = 0 := by rw [hroot]; unfold R0; rw [hon]; rfl
          rw [this, ← hnext]; exact setNext_noop A (last + 1)
        · exfalso
          have hm := last_mem_own_nil hl hon
          obtain ⟨a, ha, hab⟩ := mem_ownIdx.mp hm
          obtain ⟨nx, hnx⟩ := h.ms.pool_info last a ha
          rw [poolBt_of_info hnx, hab, h.ms.root_bt a (List.mem_of_getElem? ha) hab] at hbt
          simp at hbt
      · rfl
    rw [hsame]
    exact hI

/-- a fresh state whose path has no proper suffix among the paths but `[]` is linked by failure = root alone: its list keeps its
    NULL end, which stands for the root's list until the state is popped. Used for the children of the root (`linkInit`) and for the
    case `none` of `linkChild` -/
theorem linkRoot_I2 {A : Auto} {atoms : List (Nat × Atom)} {lk pp : Nat → Prop} (h : I2 A atoms lk pp) {ch : Nat}
    (hch : 0 < ch ∧ ch < A.states.size) (hnl : ¬ lk ch) (hsuf : lsuf (pathsOf A) (A.st ch).path.tail = []) :
    I2 (A.modify ch fun x => { x with failure := 0 }) atoms (fun x => lk x ∨ x = ch) pp := by
  have hnpp : ¬ pp ch := fun hh => hnl (h.ms.pp_lk ch hh)
  apply I2_frame (lk' := fun x => lk x ∨ x = ch) h hch (touch_modify A ch (fun x => { x with failure := 0 }) (fun _ => rfl) _)
    (fun x e => ⟨fun hh => hh.resolve_right e, Or.inl⟩) (fun _ _ => Iff.rfl) (Or.inr rfl)
  · rw [st_modify_self A ch _ hch.2]
    refine ⟨0, h.ms.fresh ch hch.1 hch.2 hnl, Or.inr ⟨hnpp, rfl, ?_⟩⟩
    unfold RT
    rw [specList_lsuf (atoms_in_paths h.ms.atoms_in), hsuf]; rfl
  · rw [st_modify_self A ch _ hch.2]
    exact ⟨h.ms.trie.size_pos, by rw [h.ms.trie.root_path, hsuf]⟩

theorem linkChild_I2 {A : Auto} {atoms : List (Nat × Atom)} {lk pp : Nat → Prop} (h : I2 A atoms lk pp) {d : Nat} (hdc : Below A lk (d + 1))
    {cur ch : Nat} (hcur : lk cur) (hd : (A.st cur).depth = d) (hch : ch ∈ (A.st cur).children) (hnl : ¬ lk ch) :
    I2 (linkChild cur A ch) atoms (fun x => lk x ∨ x = ch) pp := by
  have hT := h.ms.trie
  have hcr := h.ms.lk_range cur hcur
  have hcl := hT.child_lt cur hcr.2 ch hch
  have hch0 : 0 < ch ∧ ch < A.states.size := ⟨by omega, hcl.2⟩
  obtain ⟨hg1, hg2⟩ := h.fail cur hcur
  have hcne := hT.path_ne_nil hcr.2 hcr.1
  have hgd : (A.st (A.st cur).failure).depth + 1 ≤ d := hd ▸ hT.fail_depth_lt hcr.2 hcr.1 hg1 hg2
  have hfuel : (A.st (A.st cur).failure).depth < A.states.size := by
    have := hT.depth_le_id _ hg1; omega
  have spec := findFailure_spec h hdc (A.st ch).input A.states.size _ hg1 (Nat.succ_lt_succ hgd) hfuel
  have htarget : lsuf (pathsOf A) (A.st ch).path.tail = lsuf (pathsOf A) ((A.st (A.st cur).failure).path ++ [(A.st ch).input]) := by
    rw [hT.child_path cur hcr.2 ch hch, List.tail_append_of_ne_nil hcne, hg2]
    exact lsuf_step _ hT.nil_mem hT.prefixClosed _ _
  have hfresh := h.ms.fresh ch hch0.1 hch0.2 hnl
  have hnpp : ¬ pp ch := fun hh => hnl (h.ms.pp_lk ch hh)
  have hRT : RT A atoms ch = headRef (specList atoms (lsuf (pathsOf A) (A.st ch).path.tail)) := by
    unfold RT; rw [← specList_lsuf (atoms_in_paths h.ms.atoms_in)]
  have hlk' : ∀ x, x ≠ ch → ((lk x ∨ x = ch) ↔ lk x) := fun x e => ⟨fun hh => hh.resolve_right e, Or.inl⟩
  unfold linkChild
  cases hff : findFailure A (A.st ch).input A.states.size (A.st cur).failure with
  | some t =>
    rw [hff] at spec
    simp only at spec
    obtain ⟨ht1, ht2, ht3⟩ := spec
    have htc : t ≠ ch := fun e => hnl (e ▸ ht2)
    -- the failure link is written first; then the own segment of `ch` (still ending in NULL) continues at the list of `t`
    show I2 (setTail (A.modify ch fun x => { x with failure := t }) ch
      ((A.modify ch fun x => { x with failure := t }).st t).matchesRef) atoms _ pp
    have t1 := touch_modify A ch (fun x => { x with failure := t }) (fun _ => rfl) (ownIdx atoms (A.st ch).path)
    have hA1ch : (A.modify ch fun x => { x with failure := t }).st ch = { A.st ch with failure := t } :=
      st_modify_self A ch _ hch0.2
    rw [st_modify_ne A ch t _ htc]
    obtain ⟨t2, hc2, hf2⟩ := setTail_spec (A := A.modify ch fun x => { x with failure := t }) (x := ch)
      (by rw [size_modify]; exact hch0.2) (by rw [hA1ch]; exact hfresh) (ownIdx_nodup _ _)
      (by rw [pool_modify, h.ms.pool_size]; exact ownIdx_length_le _ _) (A.st t).matchesRef
    -- the reference copied from `t` is the final continuation, or NULL where the final one is the root's list
    have hreft : (A.st t).matchesRef = RT A atoms ch ∨ ((A.st t).matchesRef = 0 ∧ RT A atoms ch = R0 atoms) := by
      rw [hRT, htarget, ← ht3]
      exact h.ms.ref_status ht2
    apply I2_frame h hch0 (t1.trans t2) hlk' (fun _ _ => Iff.rfl) (Or.inr rfl) ⟨_, hc2, hreft.imp id fun e => ⟨hnpp, e⟩⟩
    rw [hf2, hA1ch]
    exact ⟨ht1, by rw [ht3, htarget]⟩
  | none =>
    rw [hff] at spec
    exact linkRoot_I2 h hch0 hnl (htarget.trans spec)

theorem rootFixup_same (A : Auto) (cur : Nat) : Same A (rootFixup A cur) := by
  unfold rootFixup
  split
  · simp only
    split
    · exact same_setNext _ _ _
    · exact Same.refl A
  · exact same_modify A cur _ (fun _ => rfl)

theorem linkChild_same (cur : Nat) (A : Auto) (ch : Nat) : Same A (linkChild cur A ch) := by
  unfold linkChild
  split
  · rename_i t _
    simp only
    have h1 : Same A (A.modify ch fun x => { x with failure := t }) := same_modify A ch _ (fun _ => rfl)
    split
    · exact h1.trans (same_modify _ ch _ (fun _ => rfl))
    · exact h1.trans (same_setNext _ _ _)
  · exact same_modify A ch _ (fun _ => rfl)

theorem foldl_linkChild_same (cur : Nat) : ∀ (l : List Nat) (A : Auto), Same A (l.foldl (linkChild cur) A) := by
  intro l
  induction l with
  | nil => intro A; exact Same.refl A
  | cons a l ih => intro A; exact (linkChild_same cur A a).trans (ih _)

theorem linkStep_same (A : Auto) (cur : Nat) : Same A (linkStep A cur) := by
  exact (rootFixup_same A cur).trans (foldl_linkChild_same cur _ _)

theorem Below.congr {A B : Auto} {lk : Nat → Prop} {d : Nat} (h : Below A lk d) (hs : Same A B) : Below B lk d := by
  intro g h0 hg hd
  rw [hs.1] at hg
  rw [hs.depth g] at hd
  exact h g h0 hg hd

theorem foldl_linkChild_I2 {atoms : List (Nat × Atom)} {cur d : Nat} {pp : Nat → Prop} : ∀ (l : List Nat) (A : Auto) (lk : Nat → Prop),
    I2 A atoms lk pp → Below A lk (d + 1) → lk cur → (A.st cur).depth = d → (∀ ch ∈ l, ch ∈ (A.st cur).children) → l.Nodup →
    (∀ ch ∈ l, ¬ lk ch) → I2 (l.foldl (linkChild cur) A) atoms (fun x => lk x ∨ x ∈ l) pp := by
  intro l A lk h hdc hcur hd hsub hnd hnl
  refine (List.foldl_prefix_inv (fun pre B => Same A B ∧ I2 B atoms (fun x => lk x ∨ x ∈ pre) pp) l
    ⟨Same.refl A, h.congr_sets (fun x => by simp) (fun _ => Iff.rfl)⟩ ?_).2
  intro pre a post B hl ⟨hsB, hB⟩
  have ha : a ∈ l := by rw [hl]; simp
  rw [hl] at hnd
  have hna : ¬ (lk a ∨ a ∈ pre) := fun hh =>
    hh.elim (hnl a ha) fun hh => (List.nodup_append.mp hnd).2.2 a hh a List.mem_cons_self rfl
  exact ⟨hsB.trans (linkChild_same cur B a),
    (linkChild_I2 hB ((hdc.mono fun _ => Or.inl).congr hsB) (Or.inl hcur) (by rw [hsB.depth]; exact hd)
      (by rw [hsB.children]; exact hsub a ha) hna).congr_sets (fun x => by simp [or_assoc]) (fun _ => Iff.rfl)⟩

theorem linkStep_I2 {A : Auto} {atoms : List (Nat × Atom)} {lk pp : Nat → Prop} (h : I2 A atoms lk pp) {cur : Nat} (hcur : lk cur)
    (hnp : ¬ pp cur) (hdp : Below A pp (A.st cur).depth)
    (hdc : Below A lk ((A.st cur).depth + 1)) (hnl : ∀ ch ∈ (A.st cur).children, ¬ lk ch) :
    I2 (linkStep A cur) atoms (fun x => lk x ∨ x ∈ (A.st cur).children) (fun x => pp x ∨ x = cur) := by
  unfold linkStep
  simp only
  have h1 := rootFixup_I2 h hcur hnp hdp
  have hs := rootFixup_same A cur
  rw [hs.children cur]
  exact foldl_linkChild_I2 _ (rootFixup A cur) lk h1 (hdc.congr hs) hcur (hs.depth cur)
    (fun _ hch => by rw [hs.children cur]; exact hch) (h.ms.trie.kids_nodup (h.ms.lk_range cur hcur).2) hnl

/-- the automaton when the queue loop of `_yr_ac_create_failure_links` starts: the root and its children fail to the root -/
def linkInit (A : Auto) : Auto :=
  ((A.modify 0 fun x => { x with failure := 0 }).st 0).children.foldl (fun B ch => B.modify ch fun x => { x with failure := 0 })
    (A.modify 0 fun x => { x with failure := 0 })

theorem linkInit_same (A : Auto) : Same A (linkInit A) :=
  List.foldlRecOn _ _ (same_modify A 0 (fun x => { x with failure := 0 }) (fun _ => rfl))
    fun B hB a _ => hB.trans (same_modify B a (fun x => { x with failure := 0 }) (fun _ => rfl))

theorem createFailureLinks_same (A : Auto) : Same A (createFailureLinks A) :=
  bfs_invariant kids linkStep (fun B => Same A B) (fun B s hB => hB.trans (linkStep_same B s)) _ _ _ (linkInit_same A)

/-- what `lk` and `pp` of `MS` are once `_yr_ac_create_failure_links` has returned -/
def allLk (A : Auto) : Nat → Prop := fun x => 0 < x ∧ x < A.states.size

theorem rootFail_I2 {A : Auto} {atoms : List (Nat × Atom)} (h : P1 A atoms)
    (hbt : ∀ a ∈ atoms, a.2.bytes = [] → a.2.backtrack = 0) :
    I2 (A.modify 0 fun x => { x with failure := 0 }) atoms (fun x => x ∈ ([] : List Nat)) (fun x => x ∈ ([] : List Nat)) := by
  have hT := h.trie
  have hs := same_modify A 0 (fun x => { x with failure := 0 }) (fun _ => rfl)
  have h0 := st_modify_self A 0 (fun x => { x with failure := 0 }) hT.size_pos
  refine ⟨⟨hT.congr hs, h.pool_size, h.pool_info, ?_, hbt, ?_, fun _ hx => hx, (fun _ hx => nomatch hx), ?_, (fun _ hx => nomatch hx),
    (fun _ hx => nomatch hx)⟩, by rw [h0], (fun _ hx => nomatch hx)⟩
  · intro a ha
    obtain ⟨s, hs1, hs2⟩ := h.atoms_in a ha
    exact ⟨s, by rw [hs.1]; exact hs1, by rw [hs.path s]; exact hs2⟩
  · rw [h0]
    have := h.chains 0 hT.size_pos
    rw [hT.root_path] at this; exact this
  · intro x hx0 hx _
    rw [st_modify_ne A 0 x _ (by omega)]
    exact h.chains x (by simpa using hx)

/-- the children of the root are linked one by one by `linkRoot_I2`: the proper suffix of a path of length 1 is `[]` -/
theorem linkInit_I2 {A : Auto} {atoms : List (Nat × Atom)} (h : P1 A atoms)
    (hbt : ∀ a ∈ atoms, a.2.bytes = [] → a.2.backtrack = 0) :
    I2 (linkInit A) atoms (lkOf (linkInit A) []) (fun x => x ∈ ([] : List Nat)) := by
  have hT := h.trie
  have hs1 := same_modify A 0 (fun x => { x with failure := 0 }) (fun _ => rfl)
  have hnd : (A.st 0).children.Nodup := hT.kids_nodup hT.size_pos
  obtain ⟨hs, hI⟩ := List.foldl_prefix_inv (f := fun B ch => B.modify ch fun x => { x with failure := 0 })
    (fun pre B => Same A B ∧ I2 B atoms (fun x => x ∈ pre) (fun x => x ∈ ([] : List Nat))) (A.st 0).children ⟨hs1, rootFail_I2 h hbt⟩ (by
      intro pre a post B hl ⟨hsB, hB⟩
      have ha : a ∈ (A.st 0).children := by rw [hl]; simp
      have hlt := hT.child_lt 0 hT.size_pos a ha
      rw [hl] at hnd
      have hna : a ∉ pre := fun hh => (List.nodup_append.mp hnd).2.2 a hh a List.mem_cons_self rfl
      refine ⟨hsB.trans (same_modify B a _ (fun _ => rfl)),
        (linkRoot_I2 hB ⟨by omega, by rw [hsB.1]; exact hlt.2⟩ hna ?_).congr_sets (fun x => by simp) (fun _ => Iff.rfl)⟩
      rw [hsB.path, hT.child_path 0 hT.size_pos a ha, hT.root_path]; rfl)
  unfold linkInit
  rw [hs1.children 0]
  exact hI.congr_sets (fun x => by rw [lkOf_nil, hs.kids 0]; rfl) (fun _ => Iff.rfl)

theorem linkLoop_I2 {A2 : Auto} {atoms : List (Nat × Atom)} (hT2 : Trie A2)
    (hinit : I2 A2 atoms (lkOf A2 []) (fun x => x ∈ ([] : List Nat))) :
    I2 (bfs kids linkStep A2.states.size (kids A2 0) A2) atoms (allLk A2) (allLk A2) := by
  obtain ⟨ord, ho, hs, h⟩ := bfs_pass hT2 kids linkStep (fun pre B => Same A2 B ∧ I2 B atoms (lkOf A2 pre) (fun x => x ∈ pre))
    (fun _ B hB => funext hB.1.kids) A2 ⟨Same.refl A2, hinit⟩ (by
      intro pre cur B v ⟨hsB, hB⟩
      have hkB : (B.st cur).children = kids A2 cur := hsB.children cur
      refine ⟨hsB.trans (linkStep_same B cur), (linkStep_I2 hB v.linked v.fresh ?_ ?_ ?_).congr_sets ?_ ?_⟩
      · rw [hsB.depth]; exact v.before.congr hsB
      · rw [hsB.depth]; exact v.parent.congr hsB
      · intro ch hch; rw [hkB] at hch; exact v.kid_not_linked hT2 hch
      · intro x
        rw [hkB, lkOf_append]
      · intro x; simp)
  exact h.congr_sets (ho.lkOf_iff hT2) (fun x => ⟨ho.range x, fun hx => ho.complete x hx.1 hx.2⟩)

theorem createFailureLinks_I2 {A : Auto} {atoms : List (Nat × Atom)} (h : P1 A atoms)
    (hbt : ∀ a ∈ atoms, a.2.bytes = [] → a.2.backtrack = 0) :
    I2 (createFailureLinks A) atoms (allLk (createFailureLinks A)) (allLk (createFailureLinks A)) := by
  have hs := linkInit_same A
  have hsz : ∀ x, allLk (linkInit A) x ↔ allLk (createFailureLinks A) x := fun x => by
    unfold allLk; rw [hs.1, (createFailureLinks_same A).1]
  exact (linkLoop_I2 (h.trie.congr hs) (linkInit_I2 h hbt)).congr_sets hsz hsz      -- by definition of `createFailureLinks`

/-- `f` serves the scanner as failure target of `x` -/
def FailTo (A : Auto) (x f : Nat) : Prop :=
  f < A.states.size ∧ (A.st f).depth < (A.st x).depth ∧
  ∀ c : UInt8, (∀ n ∈ (A.st x).children, (A.st n).input ≠ c) →
    lsuf (pathsOf A) ((A.st f).path ++ [c]) = lsuf (pathsOf A) ((A.st x).path ++ [c])

/-- what the scanner needs from a (possibly shortened) failure link -/
def FailInv (A : Auto) (x : Nat) : Prop := FailTo A x (A.st x).failure

theorem FailTo.same {A B : Auto} {x f : Nat} (h : FailTo A x f) (hs : Same A B) : FailTo B x f := by
  unfold FailTo
  rw [hs.1, pathsOf_congr hs, hs.path x, hs.depth x, hs.children x, hs.path f,
    hs.depth f]
  exact ⟨h.1, h.2.1, fun c hno => h.2.2 c fun n hn => by rw [← hs.input n]; exact hno n hn⟩

structure MF (A : Auto) (atoms : List (Nat × Atom)) : Prop where
  trie : Trie A
  pool_size : A.pool.size = atoms.length
  pool_info : ∀ (e : Nat) (a : Nat × Atom), atoms[e]? = some a →
    ∃ nx, A.pool[e]? = some (a.1, a.2.bytes.length + a.2.backtrack, nx)
  atoms_in : ∀ a ∈ atoms, ∃ s, s < A.states.size ∧ (A.st s).path = a.2.bytes
  chain : ∀ x, x < A.states.size → ChainSeg A.pool (A.st x).matchesRef (specList atoms (A.st x).path) 0

/-- what holds after `_yr_ac_create_failure_links` and is kept by every step of `_yr_ac_optimize_failure_links`: the match
    lists are final (`MF`) and every failure link, shortened or not, still serves the scanner (`FailInv`) -/
structure I3 (A : Auto) (atoms : List (Nat × Atom)) : Prop where
  mf : MF A atoms
  root_fail : (A.st 0).failure = 0
  fail : ∀ x, 0 < x → x < A.states.size → FailInv A x

theorem MF.congr {A B : Auto} {atoms : List (Nat × Atom)} (h : MF A atoms) (hs : Same A B)
    (hp : B.pool = A.pool) (hr : ∀ j, (B.st j).matchesRef = (A.st j).matchesRef) : MF B atoms := by
  refine ⟨h.trie.congr hs, by rw [hp]; exact h.pool_size, by rw [hp]; exact h.pool_info, ?_, ?_⟩
  · intro a ha
    obtain ⟨s, h1, h2⟩ := h.atoms_in a ha
    exact ⟨s, by rw [hs.1]; exact h1, by rw [hs.path s]; exact h2⟩
  · intro x hx
    rw [hs.1] at hx
    rw [hp, hr, hs.path x]; exact h.chain x hx

theorem MF_of_I2 {A : Auto} {atoms : List (Nat × Atom)} (h : I2 A atoms (allLk A) (allLk A)) : MF A atoms := by
  refine ⟨h.ms.trie, h.ms.pool_size, h.ms.pool_info, h.ms.atoms_in, ?_⟩
  exact fun x hx => h.ms.complete_chain ((Nat.eq_zero_or_pos x).imp id fun e => ⟨e, hx⟩) hx (fun g h0 hg _ => ⟨h0, hg⟩)

theorem I3_of_I2 {A : Auto} {atoms : List (Nat × Atom)} (h : I2 A atoms (allLk A) (allLk A)) : I3 A atoms := by
  have hT := h.ms.trie
  refine ⟨MF_of_I2 h, h.root_fail, ?_⟩
  intro x h0 hx
  obtain ⟨h1, h2⟩ := h.fail x ⟨h0, hx⟩
  refine ⟨h1, hT.fail_depth_lt hx h0 h1 h2, fun c hno => ?_⟩
  rw [lsuf_fail_step _ hT.nil_mem hT.prefixClosed _ c (hT.not_path_of_no_child hx hno), h2]

theorem transitionsSubset_spec {A : Auto} {s1 s2 : Nat} (h : transitionsSubset A s1 s2 = true) (c : UInt8)
    (hno : ∀ n ∈ (A.st s1).children, (A.st n).input ≠ c) : ∀ n ∈ (A.st s2).children, (A.st n).input ≠ c := by
  unfold transitionsSubset at h
  rw [List.all_eq_true] at h
  intro n hn e
  have := h n hn
  rw [List.any_eq_true] at this
  obtain ⟨m, hm, he⟩ := this
  have he' : (A.st m).input = (A.st n).input := by simpa using he
  exact hno m hm (he'.trans e)

theorem optStep_same (A : Auto) (cur : Nat) : Same A (optStep A cur) := by
  unfold optStep
  simp only
  split
  · exact same_modify A cur _ (fun _ => rfl)
  · exact Same.refl A

theorem optimizeFailureLinks_same (A : Auto) : Same A (optimizeFailureLinks A) :=
  bfs_invariant kids optStep (fun B => Same A B) (fun B s hB => hB.trans (optStep_same B s)) _ _ A (Same.refl A)

/-- the one idea of the optimisation: if every byte `f` accepts is accepted by `x`, a byte `x` rejects is rejected by `f` too, and the
    failure target of `f` serves `x` -/
theorem FailTo.trans {A : Auto} {x f g : Nat} (h1 : FailTo A x f) (h2 : FailTo A f g) (hsub : transitionsSubset A x f = true) :
    FailTo A x g :=
  ⟨h2.1, Nat.lt_trans h2.2.1 h1.2.1, fun c hno => (h2.2.2 c (transitionsSubset_spec hsub c hno)).trans (h1.2.2 c hno)⟩

theorem optStep_I3 {A : Auto} {atoms : List (Nat × Atom)} (h : I3 A atoms) (cur : Nat) : I3 (optStep A cur) atoms := by
  unfold optStep
  simp only
  split
  · rename_i hc
    simp only [Bool.and_eq_true, decide_eq_true_eq] at hc
    obtain ⟨hf0', hsub⟩ := hc
    -- `cur` is a non-root state: the default state and the root fail to 0
    have hcs : cur < A.states.size := Nat.lt_of_not_le fun hle => hf0' (by rw [st_default A cur hle]; rfl)
    have hc0 : 0 < cur := Nat.pos_of_ne_zero fun e => hf0' (e ▸ h.root_fail)
    have c := h.fail cur hc0 hcs
    have f := h.fail (A.st cur).failure (Nat.pos_of_ne_zero hf0') c.1
    have hs := same_modify A cur (fun x => { x with failure := (A.st (A.st cur).failure).failure }) (fun _ => rfl)
    refine ⟨h.mf.congr hs rfl (proj_modify (·.matchesRef) A cur _ fun _ => rfl), ?_, fun x h0 hx => ?_⟩
    · rw [st_modify_ne _ _ _ _ (by omega)]; exact h.root_fail
    · rw [hs.1] at hx
      unfold FailInv
      by_cases e : x = cur
      · subst e
        rw [st_modify_self _ _ _ hcs]
        exact (c.trans f hsub).same hs
      · rw [st_modify_ne _ _ _ _ e]
        exact (h.fail x h0 hx).same hs
  · exact h

theorem optimizeFailureLinks_I3 {A : Auto} {atoms : List (Nat × Atom)} (h : I3 A atoms) : I3 (optimizeFailureLinks A) atoms :=
  bfs_invariant kids optStep (fun B => I3 B atoms) (fun _ s hB => optStep_I3 hB s) _ _ A h

end YaraModel.AC.Build

