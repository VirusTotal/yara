/- The match-list opcodes of exec.c as regenerated (Gen/MatchOps.lean) compute what the VM model's step computes on the match views. -/
import YaraModel.Gen.MatchOps
import YaraModel.Model.CondVm
namespace YaraModel.MatchCore
open YaraModel.Cond YaraModel.CondVm YaraModel.Gen.MatchOps

def Sorted (ms : List MatchRec) : Prop := ms.Pairwise (fun a b => (view a).1 ≤ (view b).1)

theorem found_eq (ms : List MatchRec) : OP_FOUND ms = C.b2i (!(ms.map view).isEmpty) := by
  cases ms <;> rfl

theorem count_eq (ms : List MatchRec) : OP_COUNT ms = ((ms.map view).length : Int) := by
  simp [OP_COUNT]

/-- the loop of OP_OFFSET / OP_LENGTH: count matches from `s.i`, copy the field `f` of the one numbered `s.r1` into r3 -/
theorem nth_loop (f : MatchRec → Int) (B : MatchRec → MS → MS × Bool)
    (hB : ∀ m s, B m s = (if s.r1 = s.i then { s with r3 := f m, i := s.i + 1 } else { s with i := s.i + 1 }, false)) :
    ∀ (ms : List MatchRec) (s : MS), (∀ m, m ∈ ms → f m ≠ C.UNDEF) → s.r3 = C.UNDEF →
    (whileList (fun s => decide (s.r3 == C.UNDEF)) B ms s).r3 =
      if s.r1 ≥ s.i then ((ms[(s.r1 - s.i).toNat]?).map f).getD C.UNDEF else C.UNDEF := by
  intro ms
  induction ms with
  | nil => intro s _ h3; simp [whileList, h3]
  | cons m ms ih =>
    intro s hne h3
    have hc : decide (s.r3 == C.UNDEF) = true := by simp [h3]
    simp only [whileList, hc, if_true, hB, Bool.false_eq_true, if_false]
    by_cases hx : s.r1 = s.i
    · -- found: r3 is defined from now on, so the loop condition fails at the next round
      have hm := hne m (List.mem_cons_self ..)
      simp only [hx, if_true]
      cases ms with
      | nil => simp [whileList]
      | cons m' ms' =>
        simp [whileList, hm]
    · simp only [hx, if_false]
      rw [ih { s with i := s.i + 1 } (fun m' hm' => hne m' (List.mem_cons_of_mem _ hm')) h3]
      by_cases hge : s.r1 ≥ s.i
      · have h1 : s.r1 ≥ s.i + 1 := by omega
        have h2 : (s.r1 - s.i).toNat = (s.r1 - (s.i + 1)).toNat + 1 := by omega
        simp only [hge, h1, if_true, h2, List.getElem?_cons_succ]
      · have h1 : ¬ s.r1 ≥ s.i + 1 := by omega
        simp only [hge, h1, if_false]

theorem nth_field (g : Int × Int → Int) (ms : List MatchRec) (x : Int) :
    (if x ≥ 1 then ((ms[(x - 1).toNat]?).map fun m => g (view m)).getD C.UNDEF else C.UNDEF) =
      match nth (ms.map view) x with
      | some m => g m
      | none => C.UNDEF := by
  simp only [nth]
  by_cases h1 : x < 1
  · have : ¬ x ≥ 1 := by omega
    simp [h1, this]
  · have : x ≥ 1 := by omega
    simp only [h1, this, if_true, if_false, List.getElem?_map]
    cases ms[(x - 1).toNat]? <;> rfl

/-- the guard every generated operator opens with -/
theorem undef_guard {x a b : Int} (h : C.isUndef x = false → a = b) :
    (if C.isUndef x then C.UNDEF else a) = if isU x then C.UNDEF else b := by
  unfold isU; cases hu : C.isUndef x
  · simpa using h hu
  · rfl

theorem undef_guard₂ {x y a b : Int} (h : C.isUndef x = false → C.isUndef y = false → a = b) :
    (if C.isUndef x then C.UNDEF else if C.isUndef y then C.UNDEF else a) = if isU x || isU y then C.UNDEF else b := by
  unfold isU; cases hu : C.isUndef x <;> cases hv : C.isUndef y <;> first | rfl | simpa using h hu hv

theorem offset_eq (ms : List MatchRec) (x : Int) (h : ∀ m, m ∈ ms → (view m).1 ≠ C.UNDEF) :
    OP_OFFSET ms x = if isU x then C.UNDEF else nthOff (ms.map view) x := by
  refine undef_guard fun _ => ?_
  refine (nth_loop (fun m => (view m).1) _ (fun m s => ?_) ms _ h rfl).trans (nth_field (·.1) ms x)
  by_cases hx : s.r1 = s.i <;> simp [hx, view]

theorem length_eq (ms : List MatchRec) (x : Int) (h : ∀ m, m ∈ ms → (view m).2 ≠ C.UNDEF) :
    OP_LENGTH ms x = if isU x then C.UNDEF else nthLen (ms.map view) x := by
  refine undef_guard fun _ => ?_
  refine (nth_loop (fun m => (view m).2) _ (fun m s => ?_) ms _ h rfl).trans (nth_field (·.2) ms x)
  by_cases hx : s.r1 = s.i <;> simp [hx, view]

/-- The early `break` of OP_FOUND_AT / OP_FOUND_IN / OP_COUNT_IN, once: on a list sorted by offset, a loop whose body acts
    (`u`, leaving or not: `brk`) on the matches selected by `sel`, leaves at the first match beyond `hi` and passes over the
    others, is the loop over the selected matches alone — provided nothing beyond `hi` is selected.  `I` is what the body may
    assume of the registers. -/
theorem whileList_break (cond : MS → Bool) (B : MatchRec → MS → MS × Bool) (I : MS → Prop) (sel : Int × Int → Bool) (hi : Int)
    (u : MS → MS) (brk : Bool) (hsel : ∀ q : Int × Int, hi < q.1 → sel q = false) (hu : ∀ s, I s → I (u s))
    (hB : ∀ m s, I s → B m s = if sel (view m) then (u s, brk) else if (view m).1 > hi then (s, true) else (s, false)) :
    ∀ (ms : List MatchRec) (s : MS), Sorted ms → I s →
      whileList cond B ms s = whileList cond (fun _ s => (u s, brk)) (ms.filter fun m => sel (view m)) s := by
  intro ms
  induction ms with
  | nil => intro s _ _; rfl
  | cons m ms ih =>
    intro s hs hI
    obtain ⟨hle, hs'⟩ := List.pairwise_cons.mp hs
    by_cases c1 : sel (view m) = true
    · simp only [List.filter_cons, c1, if_true, whileList, hB m s hI]
      cases brk
      · simp only [Bool.false_eq_true, if_false]; rw [ih (u s) hs' (hu s hI)]
      · rfl
    · simp only [List.filter_cons, c1, if_false, Bool.false_eq_true, whileList, hB m s hI]
      by_cases c2 : (view m).1 > hi
      · -- every later match lies beyond `hi` too: nothing is selected
        have : (ms.filter fun m => sel (view m)) = [] :=
          List.filter_eq_nil_iff.mpr fun m' hm' => by simp [hsel (view m') (by have := hle m' hm'; omega)]
        simp only [c2, if_true, this, whileList]
        split <;> rfl
      · simp only [c2, if_false, Bool.false_eq_true]
        split
        · exact ih s hs' hI
        · cases (ms.filter fun m => sel (view m)) <;> simp [whileList, *]

theorem inRange_beyond (lo : Int) {hi : Int} (q : Int × Int) (h : hi < q.1) : inRange lo hi q = false := by
  simp only [inRange, Bool.and_eq_false_iff, decide_eq_false_iff_not]; omega

/-- the body shared by OP_FOUND_IN and OP_COUNT_IN (they differ in the update `u` of r4), in the form `whileList_break` wants -/
theorem range_body (q : Int × Int) (lo hi : Int) (s : MS) (u : MS → MS) (hu : (u s).r2 = s.r2) (h1 : s.r1 = lo) (h2 : s.r2 = hi) :
    (if (decide (q.1 ≥ s.r1) && decide (q.1 ≤ s.r2)) = true then
        (if decide (q.1 > (u s).r2) = true then (u s, true) else (u s, false))
      else if decide (q.1 > s.r2) = true then (s, true) else (s, false)) =
    if inRange lo hi q then (u s, false) else if q.1 > hi then (s, true) else (s, false) := by
  simp only [hu, h1, h2, ge_iff_le, gt_iff_lt, Bool.and_eq_true, decide_eq_true_eq, inRange]
  by_cases c1 : lo ≤ q.1 ∧ q.1 ≤ hi
  · have : ¬ hi < q.1 := by omega
    simp [c1, this]
  · simp [c1]

theorem count_hits (u : MS → MS) (r : MS → Int) (hr : ∀ s, r (u s) = r s + 1) : ∀ (hits : List MatchRec) (s : MS),
    r (whileList (fun _ => true) (fun _ s => (u s, false)) hits s) = r s + (hits.length : Int) := by
  intro hits
  induction hits with
  | nil => intro s; simp [whileList]
  | cons m ms ih => intro s; simp only [whileList, if_true, Bool.false_eq_true, if_false, ih, hr, List.length_cons]; omega

theorem any_view (p : Int × Int → Bool) (ms : List MatchRec) :
    (ms.map view).any p = !(ms.filter fun m => p (view m)).isEmpty := by
  induction ms with
  | nil => rfl
  | cons m ms ih => by_cases h : p (view m) = true <;> simp_all

theorem found_at_eq (ms : List MatchRec) (x : Int) (hs : Sorted ms) :
    OP_FOUND_AT ms x = if isU x then C.UNDEF else C.b2i ((ms.map view).any fun m => m.1 == x) := by
  refine undef_guard fun _ => ?_
  simp only
  rw [whileList_break _ _ (fun s => s.r1 = x) (fun q => q.1 == x) x (fun s => { s with r3 := 1 }) true
    (fun q h => beq_eq_false_iff_ne.mpr (by omega)) (fun _ h => h) ?_ ms _ hs rfl, any_view]
  · -- the first hit, if there is one, sets r3 and leaves
    cases ms.filter fun m => (view m).1 == x <;> rfl
  · intro m s h1
    simp only [h1, view, beq_iff_eq, decide_eq_true_eq]
    by_cases c1 : x = C.add m.base m.offset
    · simp [c1]
    · have : ¬ C.add m.base m.offset = x := fun h => c1 h.symm
      by_cases c2 : x < C.add m.base m.offset <;> simp [c1, c2, this]

theorem found_in_eq (ms : List MatchRec) (lo hi : Int) (hs : Sorted ms) :
    OP_FOUND_IN ms lo hi = if isU lo || isU hi then C.UNDEF else C.b2i ((ms.map view).any (inRange lo hi)) := by
  refine undef_guard₂ fun _ _ => ?_
  simp only
  rw [whileList_break _ _ (fun s => s.r1 = lo ∧ s.r2 = hi) (inRange lo hi) hi (fun s => { s with r4 := 1 }) false
    (inRange_beyond lo) (fun _ h => h) ?_ ms _ hs ⟨rfl, rfl⟩, any_view]
  · -- after the first hit r4 is 1 and the loop condition fails
    cases ms.filter fun m => inRange lo hi (view m) with
    | nil => rfl
    | cons m hits => cases hits <;> rfl
  · intro m s h
    exact range_body (view m) lo hi s (fun s => { s with r4 := 1 }) rfl h.1 h.2

theorem count_in_eq (ms : List MatchRec) (lo hi : Int) (hs : Sorted ms) :
    OP_COUNT_IN ms lo hi = if isU lo || isU hi then C.UNDEF else (((ms.map view).countP (inRange lo hi) : Nat) : Int) := by
  refine undef_guard₂ fun _ _ => ?_
  simp only
  rw [whileList_break _ _ (fun s => s.r1 = lo ∧ s.r2 = hi) (inRange lo hi) hi (fun s => { s with r4 := s.r4 + 1 }) false
    (inRange_beyond lo) (fun _ h => h) ?_ ms _ hs ⟨rfl, rfl⟩, count_hits _ (·.r4) (fun _ => rfl), List.countP_map,
    List.countP_eq_length_filter]
  · simp [Function.comp_def]
  · intro m s h
    exact range_body (view m) lo hi s (fun s => { s with r4 := s.r4 + 1 }) rfl h.1 h.2

end YaraModel.MatchCore
