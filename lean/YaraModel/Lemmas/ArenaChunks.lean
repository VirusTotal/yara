/- A stream that delivers the image in arbitrary chunks (fread contract) is, for the loader, the same
   as the whole image: here phase by phase, assembled as `load_chunked` in Thm/C08. -/
import YaraModel.Lemmas.ArenaLoad
namespace YaraModel.Arena
open YaraModel.Gen.ArenaLayout

theorem readChunks_spec (n : Nat) (cs : List Bytes) :
    (readChunks n cs).1 = cs.flatten.take n ∧ (readChunks n cs).2.flatten = cs.flatten.drop n := by
  induction n, cs using readChunks.induct with
  | case1 cs => simp [readChunks]
  | case2 n hn => cases n <;> simp [readChunks]
  | case3 n cs ih => simpa [readChunks] using ih
  | case4 n x c cs got rest heq ih =>
    simp only [readChunks]
    constructor
    · simpa using ih.1
    · simpa using ih.2

theorem parseHeader_take (s : Bytes) :
    parseHeader s =
      match parseHeader (s.take headerSize) with
      | .error e => .error e
      | .ok (n, _) => .ok (n, s.drop headerSize) := by
  obtain hl | ⟨m0, m1, m2, m3, ver, nb, rest, rfl⟩ := short_or_cons6 s
  · rw [List.take_of_length_le (by omega), parseHeader_short hl]
  · simp only [headerSize, List.take_succ_cons, List.take_zero, List.drop_succ_cons, List.drop_zero, parseHeader_cons6]
    split
    · rfl
    split
    · rfl
    split <;> rfl

theorem rdLE_take {k off m : Nat} (s : Bytes) (h : off + k ≤ m) : rdLE k (s.take m) off = rdLE k s off := by
  unfold rdLE
  congr 1
  apply List.ext_getElem?
  intro i
  simp only [List.getElem?_take, List.getElem?_drop]
  split
  · rw [if_pos (by omega)]
  · rfl

theorem parseTable_take (n : Nat) (s : Bytes) :
    parseTable n s =
      match parseTable n (s.take (tableEntrySize * n)) with
      | .error e => .error e
      | .ok (sizes, _) => .ok (sizes, s.drop (tableEntrySize * n)) := by
  unfold parseTable
  have hmin : min (tableEntrySize * n) (s.take (tableEntrySize * n)).length = min (tableEntrySize * n) s.length := by
    rw [List.length_take]; omega
  rw [hmin]
  split
  · rfl
  · congr 2
    apply List.map_congr_left
    intro i hi
    have hi' : i < n := List.mem_range.1 hi
    symm
    apply rdLE_take
    simp only [tableEntrySize, tblSizeOff, tblSizeSize]; omega

theorem parseTable_length {n : Nat} {s : Bytes} {sizes : List Nat} {r : Bytes} (h : parseTable n s = .ok (sizes, r)) :
    sizes.length = n := by
  unfold parseTable at h
  split at h
  · cases h
  · cases h; simp

theorem offsetsOk_take (n : Nat) (s : Bytes) (i expected : Nat) (sizes : List Nat) (h : i + sizes.length ≤ n) :
    offsetsOk (s.take (tableEntrySize * n)) i expected sizes = offsetsOk s i expected sizes := by
  induction sizes generalizing i expected with
  | nil => rfl
  | cons z t ih =>
    simp only [offsetsOk]
    simp only [List.length_cons] at h
    have hlen : i + 1 + t.length ≤ n := by omega
    rw [ih (i + 1) (expected + z) hlen, rdLE_take]
    simp only [tableEntrySize, tblOffsetOff, tblOffsetSize]
    omega

theorem bodiesVia_spec (alloc : Nat → Nat) (sizes : List Nat) (i : Nat) (cs : List Bytes) :
    readBodies alloc i sizes cs.flatten =
      match loadVia.bodiesVia alloc i sizes cs with
      | .error e => .error e
      | .ok (bufs, cs') => .ok (bufs, cs'.flatten) := by
  fun_induction loadVia.bodiesVia alloc i sizes cs with
  | case1 => rfl
  | case2 i cs rest ih =>
    rw [readBodies, if_pos rfl, ih]
    cases loadVia.bodiesVia alloc (i + 1) rest cs <;> rfl
  | case3 i cs size rest hz _ hc => rw [readBodies, if_neg hz, if_pos hc]
  | case4 i cs size rest hz _ hc got cs' heq hshort =>
    obtain ⟨rfl, _⟩ := heq ▸ readChunks_spec size cs
    rw [List.length_take] at hshort
    rw [readBodies, if_neg hz, if_neg hc, if_pos (by omega)]
  | case5 i cs size rest hz _ hc got cs' heq hlong ih =>
    obtain ⟨rfl, hr⟩ := heq ▸ readChunks_spec size cs
    rw [List.length_take] at hlong
    rw [readBodies, if_neg hz, if_neg hc, if_neg (by omega), ← hr, ih]
    cases loadVia.bodiesVia alloc (i + 1) rest cs' <;> rfl

theorem applyRelocs_append8 (cfg : LoaderCfg) (a : Arena) {e : Bytes} (he : e.length = 8) (rest : Bytes) :
    applyRelocs cfg a (e ++ rest) =
      match applyRelocs cfg a e with
      | .error err => .error err
      | .ok a' => applyRelocs cfg a' rest := by
  rcases e with _ | ⟨b0, _ | ⟨b1, _ | ⟨b2, _ | ⟨b3, _ | ⟨b4, _ | ⟨b5, _ | ⟨b6, _ | ⟨b7, _ | ⟨b8, e⟩⟩⟩⟩⟩⟩⟩⟩⟩ <;> try cases he
  simp only [List.cons_append, List.nil_append]
  rw [applyRelocs]
  conv => rhs; rw [applyRelocs]
  cases decRef (leVal [b0, b1, b2, b3, b4, b5, b6, b7]) with
  | none => rfl
  | some r =>
    simp only
    split
    · rfl
    · split
      · rfl
      · split
        · rfl
        · cases refToPtr a.bufs (decRef (getSlot a r)) with
          | error e => rfl
          | ok p => simp only [applyRelocs]

theorem relocsVia_spec (cfg : LoaderCfg) (fuel : Nat) (a : Arena) (cs : List Bytes) (hf : cs.flatten.length / 8 < fuel) :
    loadVia.relocsVia cfg fuel a cs = applyRelocs cfg a cs.flatten := by
  induction fuel generalizing a cs with
  | zero => omega
  | succ f ih =>
    obtain ⟨h1, h2⟩ := readChunks_spec 8 cs
    rw [loadVia.relocsVia]
    simp only [relocEntrySize, h1, List.length_take]
    by_cases hshort : cs.flatten.length < 8
    · rw [if_pos (by omega), List.take_of_length_le (by omega)]
    · rw [if_neg (by omega)]
      conv => rhs; rw [← List.take_append_drop 8 cs.flatten, applyRelocs_append8 cfg a (by rw [List.length_take]; omega), ← h2]
      cases applyRelocs cfg a (cs.flatten.take 8) with
      | error e => rfl
      | ok a' => exact ih a' _ (by rw [h2, List.length_drop]; omega)
end YaraModel.Arena
