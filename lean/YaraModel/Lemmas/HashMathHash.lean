/- hash.c: the table-driven CRC-32 is the bitwise CRC-32, checksum32 is the sum modulo 2^32, and the
   per-scan digest cache is transparent. -/
import YaraModel.Model.HashMath
import YaraModel.Spec.HashMath
namespace YaraModel.HM
open Spec

/-- `Spec.crcStep` on `BitVec 32` (`crcStep_toBitVec`), where single bits can be addressed: `UInt32` has no bit lemmas -/
def bstep (c : BitVec 32) : BitVec 32 :=
  if c.getLsbD 0 then (c >>> 1) ^^^ 0xEDB88320#32 else c >>> 1

def bstep8 (c : BitVec 32) : BitVec 32 := bstep (bstep (bstep (bstep (bstep (bstep (bstep (bstep c)))))))

theorem and_one_eq (c : BitVec 32) : (c &&& 1#32 = 1#32) ↔ c.getLsbD 0 = true := by
  constructor
  · intro h
    have := congrArg (·.getLsbD 0) h
    simpa using this
  · intro h
    apply BitVec.eq_of_getLsbD_eq
    intro i hi
    cases i with
    | zero => simpa using h
    | succ n => simp

theorem crcStep_toBitVec (c : UInt32) : (crcStep c).toBitVec = bstep c.toBitVec := by
  unfold crcStep bstep
  have h : (c &&& 1 = 1) ↔ (c.toBitVec &&& 1#32 = 1#32) := by
    rw [← UInt32.toBitVec_inj]; simp
  simp only [h, and_one_eq]
  split <;> simp_all <;> rfl

theorem crcBit8_toBitVec (c : UInt32) : (crcBit8 c).toBitVec = bstep8 c.toBitVec := by
  simp [crcBit8, bstep8, crcStep_toBitVec]

theorem bstep_eq (c : BitVec 32) : bstep c = (c >>> 1) ^^^ (if c.getLsbD 0 then 0xEDB88320#32 else 0#32) := by
  unfold bstep
  split <;> simp

theorem bstep_xor (a b : BitVec 32) : bstep (a ^^^ b) = bstep a ^^^ bstep b := by
  simp only [bstep_eq, BitVec.getLsbD_xor, BitVec.ushiftRight_xor_distrib]
  -- by the low bits of `a` and `b`: the polynomial is xor-ed in on neither side, once on both sides, or twice on the right (it cancels)
  cases a.getLsbD 0 with
  | false => cases b.getLsbD 0 <;> simp [BitVec.xor_assoc]
  | true =>
    cases b.getLsbD 0 with
    | false => simp only [Bool.xor_false, if_true, Bool.false_eq_true, if_false, BitVec.xor_zero]; ac_rfl
    | true =>
      simp only [Bool.xor_self, Bool.false_eq_true, if_false, if_true, BitVec.xor_zero]
      calc a >>> 1 ^^^ b >>> 1 = (a >>> 1 ^^^ b >>> 1) ^^^ (0xEDB88320#32 ^^^ 0xEDB88320#32) := by simp
        _ = _ := by ac_rfl

theorem bstep8_xor (a b : BitVec 32) : bstep8 (a ^^^ b) = bstep8 a ^^^ bstep8 b := by
  simp [bstep8, bstep_xor]

theorem maskHi_bit : ∀ i : Fin 32, (0xFFFFFF00#32).getLsbD i.val = decide (8 ≤ i.val) := by decide
theorem maskLo_bit : ∀ i : Fin 32, (0xFF#32).getLsbD i.val = decide (i.val < 8) := by decide

theorem split_lo_hi (a : BitVec 32) : a = (a &&& 0xFF#32) ^^^ (a &&& 0xFFFFFF00#32) := by
  apply BitVec.eq_of_getLsbD_eq
  intro i hi
  have h1 := maskHi_bit ⟨i, hi⟩
  have h2 := maskLo_bit ⟨i, hi⟩
  simp only [BitVec.getLsbD_xor, BitVec.getLsbD_and, h1, h2]
  cases a.getLsbD i <;> by_cases h : i < 8 <;> simp [h] <;> omega

theorem hi_shift8 (a : BitVec 32) : (a &&& 0xFFFFFF00#32) >>> 8 = a >>> 8 := by
  apply BitVec.eq_of_getLsbD_eq
  intro i hi
  simp only [BitVec.getLsbD_ushiftRight, BitVec.getLsbD_and]
  by_cases h : 8 + i < 32
  · have h1 := maskHi_bit ⟨8 + i, h⟩
    rw [h1]; simp
  · have : a.getLsbD (8 + i) = false := BitVec.getLsbD_of_ge a (8 + i) (by omega)
    simp [this]

theorem bstep_even (a : BitVec 32) (h : a.getLsbD 0 = false) : bstep a = a >>> 1 := by
  unfold bstep; rw [h]; rfl

theorem bstep_shift (a : BitVec 32) (k : Nat) (hk : k < 8) :
    bstep ((a &&& 0xFFFFFF00#32) >>> k) = (a &&& 0xFFFFFF00#32) >>> (k + 1) := by
  rw [bstep_even]
  · rw [BitVec.shiftRight_add]
  · have h1 := maskHi_bit ⟨k, by omega⟩
    simp only [BitVec.getLsbD_ushiftRight, BitVec.getLsbD_and, Nat.add_zero, h1]
    simp; omega

theorem bstep8_hi (a : BitVec 32) : bstep8 (a &&& 0xFFFFFF00#32) = a >>> 8 := by
  unfold bstep8
  have h0 := bstep_shift a 0 (by omega)
  simp only [BitVec.ushiftRight_zero] at h0
  rw [h0, bstep_shift a 1 (by omega), bstep_shift a 2 (by omega), bstep_shift a 3 (by omega),
    bstep_shift a 4 (by omega), bstep_shift a 5 (by omega), bstep_shift a 6 (by omega),
    bstep_shift a 7 (by omega)]
  exact hi_shift8 a

/-- The bit step is linear over xor, and eight steps only shift a word whose low byte is zero: the
    low byte alone decides what is xor-ed in, which is why a table of 256 entries suffices. -/
theorem bstep8_split (a : BitVec 32) : bstep8 a = bstep8 (a &&& 0xFF#32) ^^^ (a >>> 8) := by
  conv => lhs; rw [split_lo_hi a]
  rw [bstep8_xor, bstep8_hi]

theorem crcBit8_split (x : UInt32) : crcBit8 x = crcBit8 (x &&& 0xFF) ^^^ (x >>> 8) := by
  rw [← UInt32.toBitVec_inj]
  simp only [crcBit8_toBitVec, UInt32.toBitVec_xor, UInt32.toBitVec_and, UInt32.toBitVec_shiftRight]
  have := bstep8_split x.toBitVec
  simpa using this

/-- Kernel evaluation over the whole finite table (256 entries x 8 bit steps), as one comparison of
    lists rather than 256 array lookups. -/
theorem tab_list : Gen.crc32Tab.toList = (List.range 256).map crcBit := by decide +kernel

theorem tab_entry (i : Nat) (h : i < 256) : Gen.crc32Tab[i]! = crcBit i := by
  rw [show Gen.crc32Tab = ((List.range 256).map crcBit).toArray from Array.toList_inj.mp tab_list]
  simp [h]

theorem and_ff_lt (x : UInt32) : (x &&& 0xFF).toNat < 256 := by
  rw [UInt32.toNat_and]
  exact Nat.lt_of_le_of_lt Nat.and_le_right (by decide)

theorem xor_byte_shift8 (c : UInt32) (b : UInt8) : (c ^^^ b.toUInt32) >>> 8 = c >>> 8 := by
  rw [← UInt32.toNat_inj, UInt32.toNat_shiftRight, UInt32.toNat_shiftRight, UInt32.toNat_xor,
    Nat.shiftRight_xor_distrib, UInt8.toNat_toUInt32, Nat.shiftRight_eq_div_pow b.toNat,
    show b.toNat / 2 ^ (UInt32.toNat 8 % 32) = 0 from Nat.div_eq_of_lt b.toNat_lt, Nat.xor_zero]

theorem crcTabStep_eq (c : UInt32) (b : UInt8) : crcTabStep c b = crcBit8 (c ^^^ b.toUInt32) := by
  unfold crcTabStep
  rw [tab_entry _ (and_ff_lt _), crcBit8_split (c ^^^ b.toUInt32), xor_byte_shift8]
  unfold crcBit
  rw [UInt32.ofNat_toNat]

theorem foldl_ckStep (bs : Bytes) (c : UInt32) :
    (bs.foldl ckStep c).toNat = (c.toNat + sumBytes bs) % 4294967296 := by
  induction bs generalizing c with
  | nil => simp [sumBytes]
  | cons b bs ih =>
    simp only [List.foldl_cons, ih, ckStep, sumBytes, List.map_cons, List.sum_cons]
    rw [UInt32.toNat_add]
    simp only [UInt8.toNat_toUInt32]
    omega

/-- the digest computed without the cache -/
def fresh {D : Type} (H : Alg → Bytes → D) (blocks : List Block) (a : Alg) (off len : Int) : Option D :=
  (rangeWalk blocks off len).map (H a)

theorem Alg.ns_inj (a b : Alg) (h : a.ns = b.ns) : a = b := by
  cases a <;> cases b <;> first | rfl | (simp [Alg.ns] at h)

theorem lookup_add {D : Type} (c : Cache D) (ns ns' : String) (off len off' len' : Int) (d : D) :
    (c.add ns off len d).lookup ns' off' len' =
      if ns = ns' ∧ off = off' ∧ len = len' then some d else c.lookup ns' off' len' := by
  by_cases h : ns = ns' ∧ off = off' ∧ len = len'
  · obtain ⟨rfl, rfl, rfl⟩ := h
    simp [Cache.add, Cache.lookup]
  · have : (ns == ns' && off == off' && len == len') = false := by
      rw [Bool.eq_false_iff]
      intro hb
      simp only [Bool.and_eq_true, beq_iff_eq] at hb
      exact h ⟨hb.1.1, hb.1.2, hb.2⟩
    simp [Cache.add, Cache.lookup, this, h]

/-- every hit of the cache is that digest -/
def CacheOk {D : Type} (H : Alg → Bytes → D) (blocks : List Block) (c : Cache D) : Prop :=
  ∀ (a : Alg) (off len : Int) (d : D), c.lookup a.ns off len = some d → fresh H blocks a off len = some d

theorem CacheOk.add {D : Type} {H : Alg → Bytes → D} {blocks : List Block} {c : Cache D} (hc : CacheOk H blocks c)
    (a : Alg) (off len : Int) (d : D) (hd : fresh H blocks a off len = some d) : CacheOk H blocks (c.add a.ns off len d) := by
  intro a' off' len' d' h
  rw [lookup_add] at h
  split at h
  · next hk =>
    obtain ⟨hns, rfl, rfl⟩ := hk
    exact Alg.ns_inj _ _ hns ▸ Option.some.inj h ▸ hd
  · exact hc a' off' len' d' h

theorem dataDigest_sound {D : Type} (H : Alg → Bytes → D) (blocks : List Block) (c : Cache D)
    (hc : CacheOk H blocks c) (a : Alg) (off len : Int) :
    (dataDigest H blocks c a off len).2 = fresh H blocks a off len ∧
    CacheOk H blocks (dataDigest H blocks c a off len).1 := by
  have hf : fresh H blocks a off len =
      if argsOk blocks off len then (walkLoop blocks off.toNat len.toNat false).map (fun cs => H a cs.flatten)
      else none := by
    unfold fresh rangeWalk chunksWalk
    split <;> simp [Function.comp_def]
  -- cached / nothing addressed / digest computed and cached / arguments refused
  fun_cases dataDigest H blocks c a off len
  · next _ d hl => exact ⟨(hc a off len d hl).symm, hc⟩
  · next hok _ hw => rw [if_pos hok, hw] at hf; exact ⟨hf.symm, hc⟩
  · next hok _ cs hw d => rw [if_pos hok, hw] at hf; exact ⟨hf.symm, hc.add a off len _ hf⟩
  · next hok => rw [if_neg hok] at hf; exact ⟨hf.symm, hc⟩

theorem runDigests_sound {D : Type} (H : Alg → Bytes → D) (blocks : List Block) (c : Cache D)
    (hc : CacheOk H blocks c) (calls : List (Alg × Int × Int)) :
    runDigests H blocks c calls = calls.map fun x => fresh H blocks x.1 x.2.1 x.2.2 := by
  induction calls generalizing c with
  | nil => rfl
  | cons x rest ih =>
    obtain ⟨a, off, len⟩ := x
    have h := dataDigest_sound H blocks c hc a off len
    simp only [runDigests, List.map_cons, h.1, ih _ h.2]

end YaraModel.HM
