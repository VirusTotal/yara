/- The certificate as propositions (`Cert`). The scan is the concatenation of the reports of the states it runs through (`run`,
   `scanFrom_eq_reports`); a certified automaton is, after reading `w`, in a state whose path is the longest suffix of `w` that is
   a path (`Cert.run_root`), and there the match list holds exactly the atoms ending here (`report_mem`). -/
import YaraModel.Lemmas.AcTheory
namespace YaraModel.AC
open YaraModel.Text

/-- `paths`: the (slot, path) pairs of the states; the fields are the five conjuncts of `certOK`, in its order -/
structure Cert (T : Tables) (atoms : List (Nat × Atom)) (paths : List (Nat × Bytes)) : Prop where
  root : (0, []) ∈ paths
  closed : ∀ sp ∈ paths, sp.2 = [] ∨ sp.2.dropLast ∈ paths.map (·.2)
  step : ∀ sp ∈ paths, ∀ c, c < 256 →
    (delta T (fuelOf T) sp.1 (c + 1), lsuf (paths.map (·.2)) (sp.2 ++ [UInt8.ofNat c])) ∈ paths
  outs : ∀ sp ∈ paths, ∀ e : Nat × Nat,
    e ∈ entries T (fuelOf T) (T.m.getD sp.1 0).toNat ↔
    e ∈ (atoms.filter fun sa => sa.2.bytes.isSuffixOf sp.2).map fun sa => (sa.1, sa.2.bytes.length + sa.2.backtrack)
  atomsIn : ∀ sa ∈ atoms, sa.2.bytes ∈ paths.map (·.2)

theorem subsetB_iff {α : Type} [BEq α] [LawfulBEq α] (a b : List α) : subsetB a b = true ↔ ∀ x ∈ a, x ∈ b := by
  simp [subsetB]

theorem lsufH_eq (P : List Bytes) (w : Bytes) : lsufH (Std.HashSet.ofList P) w = lsuf P w := by
  induction w with
  | nil => rfl
  | cons c t ih => simp only [lsufH, lsuf, Std.HashSet.contains_ofList, ih]

theorem cert_of_certOK (T : Tables) (atoms : List (Nat × Atom)) (paths : List (Nat × Bytes))
    (h : certOK T atoms paths = true) : Cert T atoms paths := by
  unfold certOK at h
  simp only [Bool.and_eq_true, List.all_eq_true, Std.HashSet.contains_ofList, List.contains_eq_mem, decide_eq_true_eq,
    lsufH_eq] at h
  obtain ⟨⟨⟨⟨h1, h2⟩, h4⟩, h5⟩, h6⟩ := h
  refine ⟨h1, fun sp hsp => ?_, fun sp hsp c hc => h4 sp hsp c (by simpa using hc), fun sp hsp e => ?_, h6⟩
  · simpa using h2 sp hsp
  · have := h5 sp hsp
    simp only [subsetB_iff] at this
    exact ⟨this.1 e, this.2 e⟩

theorem prefixClosed_of_cert {T : Tables} {atoms : List (Nat × Atom)} {paths : List (Nat × Bytes)}
    (h : Cert T atoms paths) : PrefixClosed (paths.map (·.2)) := by
  intro p c hp
  obtain ⟨sp, hsp, hsp2⟩ := List.mem_map.mp hp
  rcases h.closed sp hsp with h0 | h0
  · rw [hsp2] at h0; simp at h0
  · rw [hsp2] at h0; simpa using h0

theorem nil_mem_of_cert {T : Tables} {atoms : List (Nat × Atom)} {paths : List (Nat × Bytes)}
    (h : Cert T atoms paths) : [] ∈ paths.map (·.2) :=
  List.mem_map.mpr ⟨(0, []), h.root, rfl⟩

theorem mem_expectedAt {atoms : List (Nat × Atom)} {w : Bytes} {x : Nat × Nat × Nat} :
    x ∈ expectedAt atoms w ↔ ∃ sa ∈ atoms, sa.2.bytes <:+ w ∧ sa.2.bytes.length + sa.2.backtrack ≤ w.length ∧
      x = (sa.1, w.length - (sa.2.bytes.length + sa.2.backtrack), sa.2.bytes.length + sa.2.backtrack) := by
  simp only [expectedAt, List.mem_filterMap]
  refine exists_congr fun sa => and_congr_right fun _ => ?_
  split
  · rename_i hc
    simp only [Bool.and_eq_true, List.isSuffixOf_iff_suffix, decide_eq_true_eq] at hc
    simp [hc.1, hc.2, eq_comm]
  · rename_i hc
    simp only [Bool.and_eq_true, List.isSuffixOf_iff_suffix, decide_eq_true_eq] at hc
    simp only [reduceCtorEq, false_iff]
    exact fun h => hc ⟨h.1, h.2.1⟩

theorem report_mem {T : Tables} {atoms : List (Nat × Atom)} {paths : List (Nat × Bytes)} (h : Cert T atoms paths)
    (state : Nat) (w : Bytes) (hst : (state, lsuf (paths.map (·.2)) w) ∈ paths) (x : Nat × Nat × Nat) :
    x ∈ report T state w.length ↔ x ∈ expectedAt atoms w := by
  simp only [report, List.mem_filterMap, mem_expectedAt, h.outs _ hst, List.mem_map, List.mem_filter,
    List.isSuffixOf_iff_suffix]
  constructor
  · rintro ⟨_, ⟨sa, ⟨hsa, hsuf⟩, rfl⟩, hx⟩
    split at hx
    · rename_i hle
      exact ⟨sa, hsa, (suffix_iff_suffix_lsuf _ w _ (h.atomsIn sa hsa)).mpr hsuf, hle, (Option.some.inj hx).symm⟩
    · cases hx
  · rintro ⟨sa, hsa, hsuf, hle, rfl⟩
    exact ⟨_, ⟨sa, ⟨hsa, (suffix_iff_suffix_lsuf _ w _ (h.atomsIn sa hsa)).mp hsuf⟩, rfl⟩, if_pos hle⟩

def run (T : Tables) (s : Nat) (w : Bytes) : Nat := w.foldl (fun s c => delta T (fuelOf T) s (c.toNat + 1)) s

theorem scanFrom_eq_reports (T : Tables) : ∀ (rest : Bytes) (i s : Nat),
    scanFrom T rest i s = (List.range (rest.length + 1)).flatMap fun k => report T (run T s (rest.take k)) (i + k) := by
  intro rest
  induction rest with
  | nil => intro i s; simp [scanFrom, run]
  | cons c t ih =>
    intro i s
    rw [scanFrom, ih, List.length_cons, List.range_succ_eq_map (n := t.length + 1), List.flatMap_cons, List.flatMap_map]
    simp [run, Nat.add_assoc, Nat.add_comm 1]

theorem Cert.run_mem {T : Tables} {atoms : List (Nat × Atom)} {paths : List (Nat × Bytes)} (h : Cert T atoms paths) :
    ∀ (w pre : Bytes) (s : Nat), (s, lsuf (paths.map (·.2)) pre) ∈ paths →
      (run T s w, lsuf (paths.map (·.2)) (pre ++ w)) ∈ paths := by
  intro w
  induction w with
  | nil => intro pre s hs; simpa [run] using hs
  | cons c t ih =>
    intro pre s hs
    have hstep := h.step _ hs c.toNat c.toNat_lt
    simp only [UInt8.ofNat_toNat] at hstep
    rw [← lsuf_step _ (nil_mem_of_cert h) (prefixClosed_of_cert h)] at hstep
    simpa [run] using ih (pre ++ [c]) _ hstep

theorem Cert.run_root {T : Tables} {atoms : List (Nat × Atom)} {paths : List (Nat × Bytes)} (h : Cert T atoms paths) (w : Bytes) :
    (run T 0 w, lsuf (paths.map (·.2)) w) ∈ paths := by
  exact h.run_mem w [] 0 h.root

theorem Cert.scan_mem {T : Tables} {atoms : List (Nat × Atom)} {paths : List (Nat × Bytes)} (h : Cert T atoms paths)
    (buf : Bytes) (x : Nat × Nat × Nat) :
    x ∈ scan T buf ↔ ∃ k, k ≤ buf.length ∧ x ∈ expectedAt atoms (buf.take k) := by
  simp only [scan, scanFrom_eq_reports, List.mem_flatMap, List.mem_range, Nat.zero_add, Nat.lt_succ_iff]
  refine exists_congr fun k => and_congr_right fun hk => ?_
  have := report_mem h _ (buf.take k) (h.run_root _) x
  rwa [List.length_take, Nat.min_eq_left hk] at this

end YaraModel.AC
