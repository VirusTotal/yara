/-
  The VM model only visits configurations of an abstract machine: `Reach e f m bm` — fiber state `f` is reachable in mode `m` after
  `bm` matched bytes by ε-steps (what `_yr_re_fiber_sync` does), zero-width steps and consuming steps.  Everything
  `exec` reports (callbacks, *matches) comes from a reachable fiber standing at RE_OPCODE_MATCH.  Generic: any code.
-/
import YaraModel.Model.ReVm
namespace YaraModel.ReVm

/-- `AStep`, `SStar`, `Reach.cons`, `Seg.jump`, `Dir.any`, `modeCons` write this disjunction out (defeq) -/
def isAnyOp (op : Nat) : Prop := op = OP_REPEAT_ANY_GREEDY ∨ op = OP_REPEAT_ANY_UNGREEDY

/-- one branch `_yr_re_fiber_sync` may take from a fiber (the executed-split set only removes branches) -/
inductive EStep (code : Code) : Fiber → Fiber → Prop
  | splitNext {f : Fiber} : (u8 code f.ip = OP_SPLIT_A ∨ u8 code f.ip = OP_SPLIT_B) → EStep code f { f with ip := f.ip + 4 }
  | splitJmp {f : Fiber} : (u8 code f.ip = OP_SPLIT_A ∨ u8 code f.ip = OP_SPLIT_B) →
      EStep code f { f with ip := addOff f.ip (i16 code (f.ip + 2)) }
  | repStartEnter {f : Fiber} : (u8 code f.ip = OP_REPEAT_START_GREEDY ∨ u8 code f.ip = OP_REPEAT_START_UNGREEDY) →
      EStep code f { f with ip := f.ip + 9, stack := 0 :: f.stack }
  | repStartSkip {f : Fiber} : (u8 code f.ip = OP_REPEAT_START_GREEDY ∨ u8 code f.ip = OP_REPEAT_START_UNGREEDY) →
      u16 code (f.ip + 1) = 0 → EStep code f { f with ip := addOff f.ip (i32 code (f.ip + 5)) }
  | repEndLoop {f : Fiber} : (u8 code f.ip = OP_REPEAT_END_GREEDY ∨ u8 code f.ip = OP_REPEAT_END_UNGREEDY) →
      (f.stack.headD 0 + 1 < u16 code (f.ip + 1) ∨ f.stack.headD 0 + 1 < u16 code (f.ip + 3)) →
      EStep code f { f with ip := addOff f.ip (i32 code (f.ip + 5)), stack := (f.stack.headD 0 + 1) :: f.stack.tail }
  | repEndExit {f : Fiber} : (u8 code f.ip = OP_REPEAT_END_GREEDY ∨ u8 code f.ip = OP_REPEAT_END_UNGREEDY) →
      ¬ (f.stack.headD 0 + 1 < u16 code (f.ip + 1)) → EStep code f { f with ip := f.ip + 9, stack := f.stack.tail }
  | jump {f : Fiber} : u8 code f.ip = OP_JUMP → EStep code f { f with ip := addOff f.ip (i16 code (f.ip + 1)) }

/-- the two transitions of a REPEAT_ANY instruction: keep spinning (the fiber then WAITS for a character) or go on -/
inductive AStep (code : Code) : Fiber → Fiber → Bool → Prop
  | spin {f : Fiber} : (u8 code f.ip = OP_REPEAT_ANY_GREEDY ∨ u8 code f.ip = OP_REPEAT_ANY_UNGREEDY) →
      ((if f.rc = -1 then 0 else f.rc) < u16 code (f.ip + 3) ∨ (if f.rc = -1 then 0 else f.rc) < u16 code (f.ip + 1)) →
      AStep code f { f with rc := (if f.rc = -1 then 0 else f.rc) + 1 } true
  | cont {f : Fiber} : (u8 code f.ip = OP_REPEAT_ANY_GREEDY ∨ u8 code f.ip = OP_REPEAT_ANY_UNGREEDY) →
      ¬ ((if f.rc = -1 then 0 else f.rc) < u16 code (f.ip + 1)) → AStep code f { f with ip := f.ip + 5, rc := -1 } false

/-- `run`: being synced / standing at an ordinary instruction; `wait`: a spinning REPEAT_ANY fiber that must consume a
    character next; `post`: a REPEAT_ANY fiber that has just consumed one and must be synced before anything else -/
inductive Mode where
  | run | wait | post
  deriving DecidableEq, Repr

/-- one call of `_yr_re_fiber_sync`, seen from one resulting fiber -/
inductive SStar (code : Code) : Fiber → Fiber → Mode → Prop
  | refl {f} : ¬ (u8 code f.ip = OP_REPEAT_ANY_GREEDY ∨ u8 code f.ip = OP_REPEAT_ANY_UNGREEDY) → SStar code f f .run
  | eps {f g h m} : EStep code f g → SStar code g h m → SStar code f h m
  | cont {f g h m} : AStep code f g false → SStar code g h m → SStar code f h m
  | spin {f g} : AStep code f g true → SStar code f g .wait

inductive CtlKind where
  | split | repStart | repEnd | jump

def ctlKind (op : Nat) : Option CtlKind :=
  if op = OP_SPLIT_A ∨ op = OP_SPLIT_B then some .split
  else if op = OP_REPEAT_START_GREEDY ∨ op = OP_REPEAT_START_UNGREEDY then some .repStart
  else if op = OP_REPEAT_END_GREEDY ∨ op = OP_REPEAT_END_UNGREEDY then some .repEnd
  else if op = OP_JUMP then some .jump else none

def isCtl (op : Nat) : Prop := ctlKind op ≠ none

theorem ctlKind_cases (op : Nat) :
    ((op = OP_SPLIT_A ∨ op = OP_SPLIT_B) ∧ ctlKind op = some .split) ∨
    ((op = OP_REPEAT_START_GREEDY ∨ op = OP_REPEAT_START_UNGREEDY) ∧ ctlKind op = some .repStart) ∨
    ((op = OP_REPEAT_END_GREEDY ∨ op = OP_REPEAT_END_UNGREEDY) ∧ ctlKind op = some .repEnd) ∨
    (op = OP_JUMP ∧ ctlKind op = some .jump) ∨
    (¬ (op = OP_SPLIT_A ∨ op = OP_SPLIT_B) ∧ ¬ (op = OP_REPEAT_START_GREEDY ∨ op = OP_REPEAT_START_UNGREEDY) ∧
      ¬ (op = OP_REPEAT_END_GREEDY ∨ op = OP_REPEAT_END_UNGREEDY) ∧ op ≠ OP_JUMP ∧ ctlKind op = none) := by
  fun_cases ctlKind op with
  | case1 h1 => exact .inl ⟨h1, rfl⟩
  | case2 h1 h2 => exact .inr (.inl ⟨h2, rfl⟩)
  | case3 h1 h2 h3 => exact .inr (.inr (.inl ⟨h3, rfl⟩))
  | case4 h1 h2 h3 h4 => exact .inr (.inr (.inr (.inl ⟨h4, rfl⟩)))
  | case5 h1 h2 h3 h4 => exact .inr (.inr (.inr (.inr ⟨h1, h2, h3, h4, rfl⟩)))

/-- the mode of a fiber as it stands in the fiber list between two syncs -/
def ModeOK (code : Code) (f : Fiber) (m : Mode) : Prop := (m = .wait ↔ isAnyOp (u8 code f.ip)) ∧ m ≠ .post

/-- a sync of `f` may stop in `x` -/
def Stops (code : Code) (f x : Fiber) : Prop := ∃ m, SStar code f x m ∧ ModeOK code x m

theorem Stops.eps {code : Code} {f g x : Fiber} (s : EStep code f g) : Stops code g x → Stops code f x
  | ⟨m, h1, h2⟩ => ⟨m, .eps s h1, h2⟩

theorem Stops.cont {code : Code} {f g x : Fiber} (s : AStep code f g false) : Stops code g x → Stops code f x
  | ⟨m, h1, h2⟩ => ⟨m, .cont s h1, h2⟩

/-- what `sync` does at a split and at an optional repeat: the preferred branch, then the other one with the split ids the
    first has executed -/
def fork (code : Code) (fuel : Nat) (ex : List Nat) (o c : Fiber) : Option (List Fiber × Bool × List Nat) :=
  match sync code fuel ex o with
  | none => none
  | some (l1, a1, ex2) =>
    match sync code fuel ex2 c with
    | none => none
    | some (l2, _, ex3) => some (l1 ++ l2, a1, ex3)

section
variable (code : Code) (F : Nat) (ex : List Nat) (f : Fiber)

theorem sync_split (h : u8 code f.ip = OP_SPLIT_A ∨ u8 code f.ip = OP_SPLIT_B) : sync code (F + 1) ex f =
    let id := u8 code (f.ip + 1)
    let nextF : Fiber := { f with ip := f.ip + 4 }
    let jmpF : Fiber := { f with ip := addOff f.ip (i16 code (f.ip + 2)) }
    if ex.contains id then some ([], false, ex)
    else fork code F (id :: ex) (if u8 code f.ip = OP_SPLIT_A then nextF else jmpF) (if u8 code f.ip = OP_SPLIT_A then jmpF else nextF) := by
  rw [sync]; exact if_pos h

theorem sync_repStart (h : u8 code f.ip = OP_REPEAT_START_GREEDY ∨ u8 code f.ip = OP_REPEAT_START_UNGREEDY) : sync code (F + 1) ex f =
    let enter : Fiber := { f with ip := f.ip + 9, stack := 0 :: f.stack }
    let skip : Fiber := { f with ip := addOff f.ip (i32 code (f.ip + 5)) }
    if u16 code (f.ip + 1) = 0 then
      fork code F ex (if u8 code f.ip = OP_REPEAT_START_GREEDY then enter else skip) (if u8 code f.ip = OP_REPEAT_START_GREEDY then skip else enter)
    else sync code F ex enter := by
  rw [sync]
  exact (if_neg (by rcases h with h | h <;> rw [h] <;> decide)).trans (if_pos h)

theorem sync_repEnd (h : u8 code f.ip = OP_REPEAT_END_GREEDY ∨ u8 code f.ip = OP_REPEAT_END_UNGREEDY) : sync code (F + 1) ex f =
    let cnt := f.stack.headD 0 + 1
    let loopF : Fiber := { f with ip := addOff f.ip (i32 code (f.ip + 5)), stack := cnt :: f.stack.tail }
    let exitF : Fiber := { f with ip := f.ip + 9, stack := f.stack.tail }
    if cnt < u16 code (f.ip + 1) then sync code F ex loopF
    else if cnt < u16 code (f.ip + 3) then
      fork code F ex (if u8 code f.ip = OP_REPEAT_END_GREEDY then loopF else exitF) (if u8 code f.ip = OP_REPEAT_END_GREEDY then exitF else loopF)
    else sync code F ex exitF := by
  rw [sync]
  exact (if_neg (by rcases h with h | h <;> rw [h] <;> decide)).trans
    ((if_neg (by rcases h with h | h <;> rw [h] <;> decide)).trans (if_pos h))

/-- the branch that goes on behind a REPEAT_ANY is synced by a recursive call of the C function: fresh executed-split set -/
theorem sync_any (h : isAnyOp (u8 code f.ip)) : sync code (F + 1) ex f =
    let r : Int := if f.rc = -1 then 0 else f.rc
    let spin : Fiber := { f with rc := r + 1 }
    let cont : Fiber := { f with ip := f.ip + 5, rc := -1 }
    if r < u16 code (f.ip + 1) then some ([spin], true, ex)
    else if r < u16 code (f.ip + 3) then
      match sync code F [] cont with
      | none => none
      | some (l, a, _) => if u8 code f.ip = OP_REPEAT_ANY_GREEDY then some (spin :: l, true, ex) else some (l ++ [spin], a, ex)
    else sync code F ex cont := by
  rw [sync]
  exact (if_neg (by rcases h with h | h <;> rw [h] <;> decide)).trans ((if_neg (by rcases h with h | h <;> rw [h] <;> decide)).trans
    ((if_neg (by rcases h with h | h <;> rw [h] <;> decide)).trans (if_pos h)))

theorem sync_jump (h : u8 code f.ip = OP_JUMP) : sync code (F + 1) ex f = sync code F ex { f with ip := addOff f.ip (i16 code (f.ip + 1)) } := by
  rw [sync]
  exact (if_neg (by rw [h]; decide)).trans ((if_neg (by rw [h]; decide)).trans ((if_neg (by rw [h]; decide)).trans
    ((if_neg (by rw [h]; decide)).trans (if_pos h))))

theorem sync_plain (h1 : ¬ isCtl (u8 code f.ip)) (h2 : ¬ isAnyOp (u8 code f.ip)) : sync code (F + 1) ex f = some ([f], true, ex) := by
  rcases ctlKind_cases (u8 code f.ip) with ⟨_, k⟩ | ⟨_, k⟩ | ⟨_, k⟩ | ⟨_, k⟩ | ⟨n1, n2, n3, n4, _⟩
  iterate 4 exact absurd (fun h' => by rw [k] at h'; cases h') h1
  rw [sync]
  exact (if_neg n1).trans ((if_neg n2).trans ((if_neg n3).trans ((if_neg h2).trans (if_neg n4))))

end

theorem op_class (op : Nat) : (op = OP_SPLIT_A ∨ op = OP_SPLIT_B) ∨ (op = OP_REPEAT_START_GREEDY ∨ op = OP_REPEAT_START_UNGREEDY) ∨
    (op = OP_REPEAT_END_GREEDY ∨ op = OP_REPEAT_END_UNGREEDY) ∨ isAnyOp op ∨ op = OP_JUMP ∨ (¬ isCtl op ∧ ¬ isAnyOp op) := by
  rcases ctlKind_cases op with ⟨h, _⟩ | ⟨h, _⟩ | ⟨h, _⟩ | ⟨h, _⟩ | ⟨_, _, _, _, k⟩
  · exact .inl h
  · exact .inr (.inl h)
  · exact .inr (.inr (.inl h))
  · exact .inr (.inr (.inr (.inr (.inl h))))
  · by_cases h4 : isAnyOp op
    · exact .inr (.inr (.inr (.inl h4)))
    · exact .inr (.inr (.inr (.inr (.inr ⟨fun h => h k, h4⟩))))

def SyncOK (code : Code) (fuel : Nat) : Prop := ∀ ex g l a ex', sync code fuel ex g = some (l, a, ex') → ∀ x, x ∈ l → Stops code g x

/-! `sync_*_inv`: the equations read backwards (users: Lemmas/ReCompleteSF.lean; `sync_split_inv`: SPLIT_A only).
    Name the fiber at a use (`(f := { ip := a })`): left to unification, `?f.ip =?= a` costs 4 k heartbeats each time. -/

theorem sync_plain_inv {code : Code} {f : Fiber} (h1 : ¬ isCtl (u8 code f.ip)) (h2 : ¬ isAnyOp (u8 code f.ip)) {F : Nat} {ex : List Nat}
    {l : List Fiber} {a : Bool} {ex' : List Nat} (h : sync code F ex f = some (l, a, ex')) : l = [f] ∧ ex' = ex := by
  cases F with
  | zero => cases h
  | succ F =>
    rw [sync_plain code F ex f h1 h2] at h
    cases h
    exact ⟨rfl, rfl⟩

theorem sync_split_inv {code : Code} {f : Fiber} (hop : u8 code f.ip = OP_SPLIT_A) {F : Nat} {ex : List Nat} {l : List Fiber}
    {b : Bool} {ex' : List Nat} (h : sync code F ex f = some (l, b, ex')) :
    (u8 code (f.ip + 1) ∈ ex → ex' = ex) ∧
    (u8 code (f.ip + 1) ∉ ex → ∃ F' l1 b1 ex2 l2 b2,
      sync code F' (u8 code (f.ip + 1) :: ex) { f with ip := f.ip + 4 } = some (l1, b1, ex2) ∧
      sync code F' ex2 { f with ip := addOff f.ip (i16 code (f.ip + 2)) } = some (l2, b2, ex') ∧ l = l1 ++ l2) := by
  cases F with
  | zero => cases h
  | succ F =>
    rw [sync_split code F ex f (.inl hop)] at h
    by_cases hc : ex.contains (u8 code (f.ip + 1)) = true
    · rw [if_pos hc] at h
      cases h
      exact ⟨fun _ => rfl, fun hh => absurd (List.contains_iff_mem.1 hc) hh⟩
    · rw [if_neg hc, if_pos hop, if_pos hop] at h
      refine ⟨fun hh => absurd (List.contains_iff_mem.2 hh) hc, fun _ => ?_⟩
      unfold fork at h
      split at h
      · cases h
      · rename_i l1 b1 ex2 h1
        split at h
        · cases h
        · rename_i l2 b2 ex3 h2
          cases h
          exact ⟨F, l1, _, ex2, l2, b2, h1, h2, rfl⟩

theorem sync_jump_inv {code : Code} {f : Fiber} (hop : u8 code f.ip = OP_JUMP) {F : Nat} {ex : List Nat} {R : List Fiber × Bool × List Nat}
    (h : sync code F ex f = some R) : ∃ F', sync code F' ex { f with ip := addOff f.ip (i16 code (f.ip + 1)) } = some R := by
  cases F with
  | zero => cases h
  | succ F => exact ⟨F, (sync_jump code F ex f hop).symm.trans h⟩

/-- `p`: the opcode is the greedy one -/
theorem fork_sound {code : Code} {fuel : Nat} (ih : SyncOK code fuel) {f x y : Fiber} (hx : EStep code f x) (hy : EStep code f y)
    {p : Prop} [Decidable p] {ex : List Nat} {l : List Fiber} {a : Bool} {ex' : List Nat}
    (h : fork code fuel ex (if p then x else y) (if p then y else x) = some (l, a, ex')) : ∀ z, z ∈ l → Stops code f z := by
  unfold fork at h
  split at h
  · cases h
  · rename_i l1 _ ex2 h1
    split at h
    · cases h
    · rename_i l2 _ _ h2
      cases h
      exact List.forall_mem_append.2 ⟨fun z hm => (ih _ _ _ _ _ h1 z hm).eps (by split <;> assumption),
        fun z hm => (ih _ _ _ _ _ h2 z hm).eps (by split <;> assumption)⟩

theorem sync_sound (code : Code) (fuel : Nat) : SyncOK code fuel := by
  induction fuel with
  | zero => intro _ _ _ _ _ h; simp [sync] at h
  | succ fuel ih =>
    intro ex f l a ex' h
    have tail : ∀ {g}, EStep code f g → sync code fuel ex g = some (l, a, ex') → ∀ x, x ∈ l → Stops code f x :=
      fun s h x hx => (ih _ _ _ _ _ h x hx).eps s
    rcases op_class (u8 code f.ip) with hS | hRS | hRE | hA | hJ | ⟨hC, hA⟩
    · rw [sync_split _ _ _ _ hS] at h
      dsimp only at h
      split at h
      · cases h; intro x hx; cases hx
      · exact fork_sound ih (.splitNext hS) (.splitJmp hS) h
    · rw [sync_repStart _ _ _ _ hRS] at h
      split at h
      · rename_i h0
        exact fork_sound ih (.repStartEnter hRS) (.repStartSkip hRS h0) h
      · exact tail (.repStartEnter hRS) h
    · rw [sync_repEnd _ _ _ _ hRE] at h
      dsimp only at h
      split at h
      · rename_i hmn
        exact tail (.repEndLoop hRE (.inl hmn)) h
      · rename_i hmn
        split at h
        · rename_i hmx
          exact fork_sound ih (.repEndLoop hRE (.inr hmx)) (.repEndExit hRE hmn) h
        · exact tail (.repEndExit hRE hmn) h
    · rw [sync_any _ _ _ _ hA] at h
      dsimp only at h
      generalize hrc : (if f.rc = -1 then (0 : Int) else f.rc) = r at h
      have spin : r < u16 code (f.ip + 3) ∨ r < u16 code (f.ip + 1) → Stops code f { f with rc := r + 1 } := by
        subst hrc
        exact fun hh => ⟨.wait, .spin (.spin hA hh), ⟨fun _ => hA, fun _ => rfl⟩, Mode.noConfusion⟩
      have cont : ¬ r < u16 code (f.ip + 1) → AStep code f { f with ip := f.ip + 5, rc := -1 } false := by
        subst hrc
        exact .cont hA
      split at h
      · rename_i hmn
        cases h
        exact List.forall_mem_singleton.2 (spin (.inr hmn))
      · rename_i hmn
        split at h
        · rename_i hmx
          split at h
          · cases h
          · rename_i l1 _ _ h1
            have hl1 : ∀ x, x ∈ l1 → Stops code f x := fun x hx => (ih _ _ _ _ _ h1 x hx).cont (cont hmn)
            split at h <;> cases h
            · exact List.forall_mem_cons.2 ⟨spin (.inl hmx), hl1⟩
            · exact List.forall_mem_append.2 ⟨hl1, List.forall_mem_singleton.2 (spin (.inl hmx))⟩
        · exact fun x hx => (ih _ _ _ _ _ h x hx).cont (cont hmn)
    · rw [sync_jump _ _ _ _ hJ] at h
      exact tail (.jump hJ) h
    · rw [sync_plain _ _ _ _ hC hA] at h
      cases h
      exact List.forall_mem_singleton.2 ⟨.run, .refl hA, ⟨fun hh => Mode.noConfusion hh, fun hh => absurd hh hA⟩, Mode.noConfusion⟩

inductive Reach (e : Env) : Fiber → Mode → Nat → Prop
  | start : Reach e { ip := e.entry } .run 0
  | scanStart (bm : Nat) : e.fl.scan = true → bm ≤ e.maxBytes → Reach e { ip := e.entry } .run bm
  | sync {f g m m' bm} : Reach e f m bm → m ≠ .wait → SStar e.code f g m' → Reach e g m' bm
  | zw {f bm} : Reach e f .run bm → isConsuming (u8 e.code f.ip) = false → u8 e.code f.ip ≠ OP_MATCH →
      zeroWidthOk e bm (u8 e.code f.ip) = true → Reach e { f with ip := f.ip + 1 } .run bm
  | cons {f m bm} : Reach e f m bm → isConsuming (u8 e.code f.ip) = true → consumeOk e bm f = true →
      (isAnyOp (u8 e.code f.ip) → m = .wait) → m ≠ .post →
      Reach e (advance e.code f) (if u8 e.code f.ip = OP_REPEAT_ANY_GREEDY ∨ u8 e.code f.ip = OP_REPEAT_ANY_UNGREEDY then .post else .run) (bm + e.cs)

theorem SStar.not_post {code : Code} {f g : Fiber} {m : Mode} (h : SStar code f g m) : m ≠ .post := by
  induction h with
  | refl _ => exact Mode.noConfusion
  | eps _ _ ih => exact ih
  | cont _ _ ih => exact ih
  | spin _ => exact Mode.noConfusion

theorem Reach.post {e : Env} {f : Fiber} {m : Mode} {bm : Nat} (h : Reach e f m bm) : m = .post → isAnyOp (u8 e.code f.ip) := by
  cases h with
  | start | scanStart _ _ _ | zw _ _ _ _ => exact fun h => Mode.noConfusion h
  | sync _ _ hs => exact fun h => absurd h hs.not_post
  | @cons f _ _ _ _ _ _ _ =>
    intro h
    by_cases ha : u8 e.code f.ip = OP_REPEAT_ANY_GREEDY ∨ u8 e.code f.ip = OP_REPEAT_ANY_UNGREEDY
    · unfold advance; rw [if_pos ha]; exact ha
    · rw [if_neg ha] at h; exact Mode.noConfusion h

/-- `Reports m c` of "a reachable fiber stands at MATCH", by unfolding -/
def Good (e : Env) (mval : Int) (calls : List Nat) : Prop :=
  (∀ L, L ∈ calls → ∃ f m, Reach e f m L ∧ u8 e.code f.ip = OP_MATCH) ∧
  (0 ≤ mval → ∃ f m, Reach e f m mval.toNat ∧ u8 e.code f.ip = OP_MATCH)

/-- every length `yr_re_exec` reports — to the callback, and in `*matches` when it is not negative — satisfies `P` -/
def Reports (m : Int) (c : List Nat) (P : Nat → Prop) : Prop := (∀ L, L ∈ c → P L) ∧ (0 ≤ m → P m.toNat)

theorem Reports.imp {m : Int} {c : List Nat} {P Q : Nat → Prop} (h : Reports m c P) (f : ∀ L, P L → Q L) : Reports m c Q :=
  ⟨fun L hL => f L (h.1 L hL), fun h0 => f _ (h.2 h0)⟩

def Stopped (e : Env) (bm : Nat) (l : List Fiber) : Prop := ∀ f, f ∈ l → ∃ m, Reach e f m bm ∧ ModeOK e.code f m

theorem stopped_of_sync {e : Env} {f : Fiber} {m : Mode} {bm : Nat} (hr : Reach e f m bm) (hm : m ≠ .wait)
    {fuel : Nat} {ex : List Nat} {l : List Fiber} {a : Bool} {ex' : List Nat} (hs : sync e.code fuel ex f = some (l, a, ex')) :
    Stopped e bm l := by
  intro x hx
  obtain ⟨m', h1, h2⟩ := sync_sound e.code _ _ _ _ _ _ hs x hx
  exact ⟨m', .sync hr hm h1, h2⟩

theorem stopped_append {e : Env} {bm : Nat} {l1 l2 : List Fiber} (h1 : Stopped e bm l1) (h2 : Stopped e bm l2) : Stopped e bm (l1 ++ l2) := by
  intro x hx
  rcases List.mem_append.1 hx with h | h
  · exact h1 x h
  · exact h2 x h

theorem Good.atMatch {e : Env} {bm : Nat} {f : Fiber} {rest : List Fiber} {mval : Int} {calls : List Nat}
    (ht : Stopped e bm (f :: rest)) (hm : u8 e.code f.ip = OP_MATCH) (hg : Good e mval calls) :
    Good e (bm : Int) (calls ++ [bm]) ∧ Good e (bm : Int) calls := by
  obtain ⟨m, hf, _⟩ := ht f List.mem_cons_self
  have w : ∃ f m, Reach e f m (bm : Int).toNat ∧ u8 e.code f.ip = OP_MATCH := ⟨f, m, by simpa using hf, hm⟩
  refine ⟨⟨fun L hL => ?_, fun _ => w⟩, hg.1, fun _ => w⟩
  rcases List.mem_append.1 hL with h1 | h1
  · exact hg.1 L h1
  · cases List.mem_singleton.1 h1; exact ⟨f, m, hf, hm⟩

theorem pass_sound (e : Env) (bm : Nat) (fuel : Nat) (todo : List Fiber) (st res : PassSt) :
    pass e bm fuel todo st = some res → Stopped e bm todo → Stopped e (bm + e.cs) st.kept →
    Good e st.mval st.calls → Stopped e (bm + e.cs) res.kept ∧ Good e res.mval res.calls := by
  have tl : ∀ {f : Fiber} {rest}, Stopped e bm (f :: rest) → Stopped e bm rest := fun ht x hx => ht x (List.mem_cons_of_mem _ hx)
  -- the branches of `pass`: 2 list empty; 4 / 5 a consuming instruction accepts / rejects; 6 / 7 MATCH in exhaustive / first-match
  -- mode; 9 / 10 a zero-width instruction holds / fails; 1, 3, 8 out of fuel
  fun_induction pass e bm fuel todo st with
  | case1 | case3 | case8 => exact fun h => nomatch h
  | case2 => intro h _ hk hg; cases h; exact ⟨hk, hg⟩
  | case4 fuel f rest st op hc hok l a ex hs ih =>
    intro h ht hk hg
    obtain ⟨m, hf, hmode⟩ := ht f List.mem_cons_self
    refine ih h (tl ht) (stopped_append hk (stopped_of_sync (Reach.cons hf hc hok (fun ha => hmode.1.2 ha) hmode.2) ?_ hs)) hg
    split <;> exact Mode.noConfusion
  | case5 fuel f rest st op _ _ ih => exact fun h ht hk hg => ih h (tl ht) hk hg
  | case6 fuel f rest st op _ hm st1 _ ih => exact fun h ht hk hg => ih h (tl ht) hk (Good.atMatch ht hm hg).1
  | case7 fuel f rest st op _ hm st1 _ => intro h ht hk hg; rw [← Option.some.inj h]; exact ⟨hk, (Good.atMatch ht hm hg).2⟩
  | case9 fuel f rest st op hc hnm hz l a ex hs ih =>
    intro h ht hk hg
    obtain ⟨m, hf, hmode⟩ := ht f List.mem_cons_self
    have hc' : isConsuming (u8 e.code f.ip) = false := by simpa using hc
    -- a zero-width instruction is not a REPEAT_ANY, so the fiber is in `run` mode
    have hnany : ¬ isAnyOp (u8 e.code f.ip) := by
      intro ha
      rcases ha with ha | ha <;> rw [ha] at hc' <;> exact absurd hc' (by decide)
    have hrun : m = .run := by
      cases m with
      | run => rfl
      | wait => exact absurd (hmode.1.1 rfl) hnany
      | post => exact absurd rfl hmode.2
    subst hrun
    exact ih h (stopped_append (stopped_of_sync (Reach.zw hf hc' hnm hz) Mode.noConfusion hs) (tl ht)) hk hg
  | case10 fuel f rest st op _ _ _ ih => exact fun h ht hk hg => ih h (tl ht) hk hg

theorem mem_dedup {x : Fiber} : ∀ (l acc : List Fiber), x ∈ dedup l acc ↔ x ∈ l ∨ x ∈ acc
  | [], acc => by simp [dedup]
  | f :: t, acc => by
    unfold dedup
    split
    · rename_i hc
      have hf : f ∈ acc := by simpa using hc
      rw [mem_dedup t acc, List.mem_cons]
      exact ⟨fun h => h.elim (fun h => .inl (.inr h)) .inr,
        fun h => h.elim (fun h => h.elim (fun h => .inr (h ▸ hf)) .inl) .inr⟩
    · rw [mem_dedup t (f :: acc), List.mem_cons, List.mem_cons, or_assoc]
      exact or_left_comm

theorem loop_sound (e : Env) (fuel : Nat) (fibers : List Fiber) (bm : Nat) (mval : Int) (calls : List Nat) (m : Int) (c : List Nat) :
    loop e fuel fibers bm mval calls = .done m c → Stopped e bm fibers → Good e mval calls → Good e m c := by
  have afterPass : ∀ {fibers bm mval calls st}, pass e bm 4000 (dedup fibers []) { kept := [], mval := mval, calls := calls } = some st →
      Stopped e bm fibers → Good e mval calls → Stopped e (bm + e.cs) st.kept ∧ Good e st.mval st.calls :=
    fun hp hr hg => pass_sound e _ 4000 _ _ _ hp (fun f hf => ((mem_dedup _ []).1 hf).elim (hr f) (fun h => nomatch h)) (fun _ h => nomatch h) hg
  -- the branches of `loop`: 2 no fiber left; 6 scan mode, a new fiber starts at the next position; 7 next position; 1, 3, 4, 5 no result
  fun_induction loop e fuel fibers bm mval calls with
  | case1 | case3 | case4 | case5 => exact fun h => nomatch h
  | case2 => intro h _ hg; cases h; exact hg
  | case6 fuel fibers bm mval calls _ _ st hp bm' hscan l a ex hs ih =>
    intro h hr hg
    obtain ⟨hk, hg'⟩ := afterPass hp hr hg
    simp only [Bool.and_eq_true, decide_eq_true_eq] at hscan
    exact ih h (stopped_append hk (stopped_of_sync (Reach.scanStart bm' hscan.1 hscan.2) Mode.noConfusion hs)) hg'
  | case7 fuel fibers bm mval calls _ _ st hp bm' _ ih =>
    intro h hr hg
    obtain ⟨hk, hg'⟩ := afterPass hp hr hg
    exact ih h hk hg'

/-- Everything `yr_re_exec` reports — the lengths handed to the callback in exhaustive mode and the value left in
    `*matches` — is the number of matched bytes of a REACHABLE fiber standing at RE_OPCODE_MATCH.  Any code, any flags. -/
theorem exec_sound (e : Env) (m : Int) (c : List Nat) (h : exec e = .done m c) : Good e m c := by
  unfold exec at h
  split at h
  · simp at h
  · rename_i l a ex hs
    apply loop_sound e _ l 0 (-1) [] m c h
    · exact stopped_of_sync Reach.start (by simp) hs
    · exact ⟨by simp, by intro h0; omega⟩

theorem ctlKind_of {op a b : Nat} {k : Option CtlKind} (h : op = a ∨ op = b) (ha : ctlKind a = k) (hb : ctlKind b = k) :
    ctlKind op = k := by
  rcases h with rfl | rfl <;> assumption

/-! ### ε-steps by kind, opcode facts (for Lemmas/ReIrStep.lean) -/

/-- `EStep` read by the kind of the instruction at `f` -/
def Succ (code : Code) (f g : Fiber) : CtlKind → Prop
  | .split => g = { f with ip := f.ip + 4 } ∨ g = { f with ip := addOff f.ip (i16 code (f.ip + 2)) }
  | .repStart => g = { f with ip := f.ip + 9, stack := 0 :: f.stack } ∨
      (u16 code (f.ip + 1) = 0 ∧ g = { f with ip := addOff f.ip (i32 code (f.ip + 5)) })
  | .repEnd => ((f.stack.headD 0 + 1 < u16 code (f.ip + 1) ∨ f.stack.headD 0 + 1 < u16 code (f.ip + 3)) ∧
        g = { f with ip := addOff f.ip (i32 code (f.ip + 5)), stack := (f.stack.headD 0 + 1) :: f.stack.tail }) ∨
      (¬ (f.stack.headD 0 + 1 < u16 code (f.ip + 1)) ∧ g = { f with ip := f.ip + 9, stack := f.stack.tail })
  | .jump => g = { f with ip := addOff f.ip (i16 code (f.ip + 1)) }

theorem estep_kind {code : Code} {f g : Fiber} (h : EStep code f g) : ∃ k, ctlKind (u8 code f.ip) = some k ∧ Succ code f g k := by
  cases h with
  | splitNext h1 => exact ⟨.split, ctlKind_of h1 rfl rfl, .inl rfl⟩
  | splitJmp h1 => exact ⟨.split, ctlKind_of h1 rfl rfl, .inr rfl⟩
  | repStartEnter h1 => exact ⟨.repStart, ctlKind_of h1 rfl rfl, .inl rfl⟩
  | repStartSkip h1 h0 => exact ⟨.repStart, ctlKind_of h1 rfl rfl, .inr ⟨h0, rfl⟩⟩
  | repEndLoop h1 hc => exact ⟨.repEnd, ctlKind_of h1 rfl rfl, .inl ⟨hc, rfl⟩⟩
  | repEndExit h1 hc => exact ⟨.repEnd, ctlKind_of h1 rfl rfl, .inr ⟨hc, rfl⟩⟩
  | jump h1 => exact ⟨.jump, by rw [h1]; rfl, rfl⟩

theorem estep_of_kind {code : Code} {f g : Fiber} (h : EStep code f g) {k : CtlKind} (hk : ctlKind (u8 code f.ip) = some k) :
    Succ code f g k := by
  obtain ⟨k', hk', hs⟩ := estep_kind h
  cases Option.some.inj (hk'.symm.trans hk)
  exact hs

theorem isCtl_of_kind {op : Nat} {k : CtlKind} (h : ctlKind op = some k) : isCtl op := fun h' => by rw [h] at h'; cases h'

theorem estep_ctl {code : Code} {f g : Fiber} (h : EStep code f g) : isCtl (u8 code f.ip) :=
  let ⟨_, hk, _⟩ := estep_kind h
  isCtl_of_kind hk

theorem zw_false (e : Env) (bm : Nat) {op : Nat} (h1 : op ≠ OP_WORD_BOUNDARY) (h2 : op ≠ OP_NON_WORD_BOUNDARY)
    (h3 : op ≠ OP_MATCH_AT_START) (h4 : op ≠ OP_MATCH_AT_END) : zeroWidthOk e bm op = false := by
  unfold zeroWidthOk
  simp only [h1, h2, h3, h4, or_self, if_false]

theorem ctl_facts {op : Nat} (h : isCtl op) :
    ¬ isAnyOp op ∧ isConsuming op = false ∧ op ≠ OP_MATCH ∧ ∀ e bm, zeroWidthOk e bm op = false := by
  unfold isAnyOp
  rcases ctlKind_cases op with ⟨h | h, _⟩ | ⟨h | h, _⟩ | ⟨h | h, _⟩ | ⟨h, _⟩ | ⟨_, _, _, _, k⟩
  iterate 7 subst h; exact ⟨by decide, by decide, by decide, fun e bm => zw_false e bm (by decide) (by decide) (by decide) (by decide)⟩
  exact absurd k h

theorem no_astep {code : Code} {f g : Fiber} {st : Bool} (h : AStep code f g st)
    (hop : ¬ isAnyOp (u8 code f.ip)) : False := by
  cases h <;> rename_i h1 _ <;> exact hop h1

theorem no_estep_any {code : Code} {f g : Fiber} (h : EStep code f g)
    (hop : isAnyOp (u8 code f.ip)) : False :=
  (ctl_facts (estep_ctl h)).1 hop

theorem no_estep_match {code : Code} {f g : Fiber} (h : EStep code f g) (hop : u8 code f.ip = OP_MATCH) : False :=
  (ctl_facts (estep_ctl h)).2.2.1 hop

theorem match_not_any {op : Nat} (h : op = OP_MATCH) : ¬ isAnyOp op := by
  subst h; unfold isAnyOp; decide

theorem zw_nonboundary (e : Env) (bm : Nat) : zeroWidthOk e bm OP_NON_WORD_BOUNDARY = !zeroWidthOk e bm OP_WORD_BOUNDARY := by
  unfold zeroWidthOk
  simp [OP_WORD_BOUNDARY, OP_NON_WORD_BOUNDARY]

theorem advance_ip {code : Code} {f : Fiber} {op : Nat} (hop : u8 code f.ip = op)
    (hn : ¬ isAnyOp op) : advance code f = { f with ip := f.ip + sizeOfInstr op } := by
  unfold advance
  rw [hop]
  exact if_neg hn

theorem advance_stack (code : Code) (f : Fiber) : (advance code f).stack = f.stack := by
  unfold advance; split <;> rfl

end YaraModel.ReVm

namespace YaraModel.ReEmit
open YaraModel.ReVm

theorem no_estep {code : Code} {f g : Fiber} (h : EStep code f g)
    (hop : u8 code f.ip = OP_LITERAL ∨ u8 code f.ip = OP_NOT_LITERAL ∨ u8 code f.ip = OP_MASKED_LITERAL ∨
      u8 code f.ip = OP_MASKED_NOT_LITERAL ∨ u8 code f.ip = OP_ANY) : False := by
  have hc := estep_ctl h
  unfold isCtl at hc
  rcases hop with k | k | k | k | k <;> rw [k] at hc <;> exact absurd hc (by decide)

theorem zw_split_false (e : Env) (bm : Nat) {op : Nat} (h : op = OP_SPLIT_A ∨ op = OP_SPLIT_B ∨ op = OP_JUMP) : zeroWidthOk e bm op = false :=
  (ctl_facts (by rcases h with rfl | rfl | rfl <;> exact isCtl_of_kind rfl)).2.2.2 e bm

end YaraModel.ReEmit
