/- A client session touching every kind of arena operation, run on the abstract machine and on the arena under two
   configurations; used by the `example`s next to the property theorems (they show that the hypotheses are satisfiable). -/
import YaraModel.Lemmas.ArenaExec
import YaraModel.Lemmas.ArenaExample
namespace YaraModel.Arena

/-- a struct with two pointer fields; a pointer stored in one of them; allocations that make both the pointed-to
    buffer and the buffer holding the slot grow before the slot is read back; a pointer written and registered in
    one step at an unaligned offset, moved again, read back; a slot registered after the fact; memcpy into raw bytes;
    a reference → pointer → reference query; a slot over raw bytes registered and filled in one step, moved, read back -/
def exOps : List Op :=
  [ .struct 0 16 [0, 8], .write 1 [1, 2, 3], .setPtr ⟨0, 0⟩ (some ⟨1, 2⟩),
    .write 1 [4, 5, 6, 7, 8, 9, 10, 11, 12, 13], .zalloc 0 40, .ref ⟨0, 0⟩,
    .ptr 1 (some ⟨0, 20⟩), .zalloc 0 100, .ref ⟨1, 13⟩, .reloc 0 24, .setPtr ⟨0, 24⟩ (some ⟨0, 0⟩),
    .poke ⟨1, 0⟩ [9, 9], .rt (some ⟨1, 5⟩), .ref ⟨0, 8⟩, .regPtr ⟨1, 3⟩ (some ⟨0, 155⟩), .write 1 [7, 7, 7, 7], .ref ⟨1, 3⟩ ]

def exBases₁ : List Nat := (List.range 17).map (fun i => 4096 * (i + 1))
def exBases₂ : List Nat := (List.range 17).map (fun i => 1048576 * (20 - i))

theorem exOps_arun : ∃ x outs, arun (aCreate 2) exOps = some (x, outs) ∧
    (∀ d ∈ x.1, d.length ≤ 2 ^ 31) ∧ RangesOk (loadedBufs exAlloc 0 x.1) := by
  have c : (match arun (aCreate 2) exOps with
      | some (x, _) => decide ((∀ d ∈ x.1, d.length ≤ 2 ^ 31) ∧ RangesOk (loadedBufs exAlloc 0 x.1))
      | none => false) = true := by decide +kernel
  cases h : arun (aCreate 2) exOps with
  | none => rw [h] at c; cases c
  | some p => rw [h] at c; exact ⟨p.1, p.2, rfl, of_decide_eq_true c⟩

theorem exOps_run₁ : ∃ a outs, runOut {} exBases₁ (create 2 1) exOps = .ok (a, outs) ∧
    AdmRun {} exBases₁ (create 2 1) exOps ∧ a.relocs.length = 5 ∧
    outs[5]? = some (.found (some ⟨1, 2⟩)) ∧ outs[8]? = some (.found (some ⟨0, 20⟩)) ∧
    (a.bufAt 0).base = 32768 ∧ (a.bufAt 0).cap = 256 := by
  have c : (admCheck {} exBases₁ (create 2 1) exOps && match runOut {} exBases₁ (create 2 1) exOps with
      | .ok (a, o) => decide (a.relocs.length = 5 ∧ o[5]? = some (.found (some ⟨1, 2⟩)) ∧
          o[8]? = some (.found (some ⟨0, 20⟩)) ∧ (a.bufAt 0).base = 32768 ∧ (a.bufAt 0).cap = 256)
      | .error _ => false) = true := by decide +kernel
  rw [Bool.and_eq_true] at c
  cases h : runOut {} exBases₁ (create 2 1) exOps with
  | error e => rw [h] at c; cases c.2
  | ok p => rw [h] at c; exact ⟨p.1, p.2, rfl, admRun_of_check _ _ _ _ c.1, of_decide_eq_true c.2⟩

theorem exOps_run₂ : ∃ a outs, runOut { alwaysMove := true } exBases₂ (create 2 64) exOps = .ok (a, outs) ∧
    AdmRun { alwaysMove := true } exBases₂ (create 2 64) exOps ∧
    (a.bufAt 0).base = 13631488 ∧ (a.bufAt 0).cap = 224 := by
  have c : (admCheck { alwaysMove := true } exBases₂ (create 2 64) exOps &&
      match runOut { alwaysMove := true } exBases₂ (create 2 64) exOps with
      | .ok (a, _) => decide ((a.bufAt 0).base = 13631488 ∧ (a.bufAt 0).cap = 224)
      | .error _ => false) = true := by decide +kernel
  rw [Bool.and_eq_true] at c
  cases h : runOut { alwaysMove := true } exBases₂ (create 2 64) exOps with
  | error e => rw [h] at c; cases c.2
  | ok p => rw [h] at c; exact ⟨p.1, p.2, rfl, admRun_of_check _ _ _ _ c.1, of_decide_eq_true c.2⟩

end YaraModel.Arena
