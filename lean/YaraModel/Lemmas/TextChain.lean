/- For the end-to-end files: `candsOf` (the candidate filter), and two rewriting lemmas that let a CONCRETE instance be evaluated
   without running the construction in the kernel — `build_map_scan` (the scan of the built automaton is `expectedScan`) and
   `build_pipeline_offs` (the chain's offsets are `acceptedAt`), under the one size test `smallAtoms`.  Composes Thm/AcBuild with
   Lemmas/TextFinal, so it stands on a Thm file. -/
import YaraModel.Thm.AcBuild
import YaraModel.Lemmas.TextFinal
namespace YaraModel.Text
open YaraModel.AC

def candsOf (T : Tables) (buf : Bytes) (i : Nat) : List (Nat × Nat) :=
  (scan T buf).filterMap fun x => if x.1 = i then some (x.2.1, x.2.2) else none

end YaraModel.Text

namespace YaraModel.AC.Build
open YaraModel.Text

/-- what the construction theorems ask of an atom list, as one test (the 32 637 atom bytes: `build_some`) -/
def smallAtoms (atoms : List (Nat × Atom)) : Bool :=
  atoms.all (fun a => a.2.bytes != []) && decide (atoms.length < 2 ^ 32) &&
    decide ((atoms.map fun a => a.2.bytes.length).sum ≤ 32637)

theorem smallAtoms_iff {atoms : List (Nat × Atom)} : smallAtoms atoms = true ↔
    (∀ a ∈ atoms, a.2.bytes ≠ []) ∧ atoms.length < 2 ^ 32 ∧ (atoms.map fun a => a.2.bytes.length).sum ≤ 32637 := by
  simp only [smallAtoms, Bool.and_eq_true, List.all_eq_true, bne_iff_ne, decide_eq_true_eq, and_assoc, ne_eq]

/-- the construction theorems ask of an empty atom only that its backtrack is 0; the atoms of text strings are never empty -/
theorem backtrack_of_ne_nil {atoms : List (Nat × Atom)} (hne : ∀ a ∈ atoms, a.2.bytes ≠ []) :
    ∀ a ∈ atoms, a.2.bytes = [] → a.2.backtrack = 0 := fun a ha h => absurd h (hne a ha)

theorem build_map_scan {α : Type} (atoms : List (Nat × Atom)) (h : smallAtoms atoms = true) (buf : Bytes)
    (f : List (Nat × Nat × Nat) → α) :
    (build atoms).map (fun T => f (scan T buf)) = some (f (expectedScan atoms buf)) := by
  obtain ⟨hne, hlen, hsum⟩ := smallAtoms_iff.mp h
  obtain ⟨T, hT⟩ := build_some atoms hsum
  rw [hT, Option.map_some, build_scan_exact atoms (backtrack_of_ne_nil hne) hlen T hT buf]

theorem build_pipeline_offs (atoms : List (Nat × Atom)) (h : smallAtoms atoms = true) (sidx w : Nat) (m : Mods) (s : Bytes)
    (hat : ∀ a, (sidx, a) ∈ atoms ↔ a ∈ atomsOf w m s) (buf : Bytes) :
    (build atoms).map (fun T => (pipeline m s buf (candsOf T buf sidx)).map (·.off)) = some (acceptedAt w m s buf) := by
  obtain ⟨hne, hlen, hsum⟩ := smallAtoms_iff.mp h
  obtain ⟨T, hT⟩ := build_some atoms hsum
  rw [hT, Option.map_some]
  exact congrArg some
    (pipeline_spec (build_candsOK atoms (backtrack_of_ne_nil hne) hlen T hT sidx w m s hat buf)).1

end YaraModel.AC.Build
