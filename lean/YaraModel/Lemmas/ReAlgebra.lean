/-
  Algebra of the specification used by the C02 / C03 theorems: counted repeats as iteration counts (`Cnt`, over `Iter` of
  Lemmas/Re.lean) and the emit-table shape `rangeShape`; jumps in byte mode with dot-all; one-hole contexts (`Ctx`) with the
  "before the hole" / "after the hole" relations, and the same two as expressions (`Ctx.before`, `Ctx.after`).
  `Cover` / `cover_complete` (one atom per way through a pattern) speak of the specification only and serve the theorem
  `decompose`; nothing ties `Cover` to the atoms the extraction model chooses — the scan theorems locate the atom of a match
  through `Tr` / `ctxAt` (Lemmas/ReAtoms, ReAtomPos) instead.
-/
import YaraModel.Lemmas.ReEval
namespace YaraModel.Re
open YaraModel.ReEmit (Iter)

section
variable {fl : Flags} {buf : Bytes}

def Cnt (fl : Flags) (buf : Bytes) (a : Re) (lo hi p q : Nat) : Prop :=
  ∃ k, lo ≤ k ∧ k ≤ hi ∧ Iter (Re.Matches fl buf a) k p q

theorem range_iff_cnt (a : Re) (lo hi : Nat) (g : Bool) (p q : Nat) :
    Re.Matches fl buf (.range a lo hi g) p q ↔ Cnt fl buf a lo hi p q :=
  range_iff_iter

theorem one_iff_cnt (a : Re) (p q : Nat) : Re.Matches fl buf a p q ↔ Cnt fl buf a 1 1 p q := by
  rw [← Iter.one_iff (R := Re.Matches fl buf a)]
  exact ⟨fun h => ⟨1, Nat.le_refl _, Nat.le_refl _, h⟩, fun ⟨k, h1, h2, hp⟩ => by rwa [Nat.le_antisymm h1 h2]⟩

theorem empty_iff_cnt (a : Re) (p q : Nat) : Re.Matches fl buf .empty p q ↔ Cnt fl buf a 0 0 p q := by
  constructor
  · intro h; cases h; exact ⟨0, Nat.le_refl _, Nat.le_refl _, .nil⟩
  · rintro ⟨k, _, h2, hp⟩
    obtain rfl := Nat.le_zero.1 h2
    rw [Iter.zero_iff.1 hp]; exact .empty

theorem cnt_cat (a : Re) (l1 h1 l2 h2 p q : Nat) (hl1 : l1 ≤ h1) (hl2 : l2 ≤ h2) :
    (∃ x, Cnt fl buf a l1 h1 p x ∧ Cnt fl buf a l2 h2 x q) ↔ Cnt fl buf a (l1 + l2) (h1 + h2) p q := by
  constructor
  · rintro ⟨x, ⟨k1, a1, b1, p1⟩, ⟨k2, a2, b2, p2⟩⟩
    exact ⟨k1 + k2, by omega, by omega, Iter.add_iff.2 ⟨x, p1, p2⟩⟩
  · rintro ⟨k, a1, b1, hp⟩
    -- the first part takes as many of the `k` iterations as it may while leaving `l2` for the second
    by_cases hc : k ≤ h1 + l2
    · obtain ⟨d, rfl⟩ := Nat.exists_eq_add_of_le a1
      rw [show l1 + l2 + d = (l1 + d) + l2 by omega] at hp
      obtain ⟨y, y1, y2⟩ := Iter.add_iff.1 hp
      exact ⟨y, ⟨_, by omega, by omega, y1⟩, ⟨_, Nat.le_refl _, hl2, y2⟩⟩
    · obtain ⟨d, rfl⟩ := Nat.exists_eq_add_of_le (Nat.le_of_not_le hc)
      rw [show h1 + l2 + d = h1 + (l2 + d) by omega] at hp
      obtain ⟨y, y1, y2⟩ := Iter.add_iff.1 hp
      exact ⟨y, ⟨_, hl1, Nat.le_refl _, y1⟩, ⟨_, by omega, by omega, y2⟩⟩

/-! ### the counted-repeat emit table of re.c (`case RE_NODE_RANGE` of `_yr_re_emit`) at the level of expressions -/

-- a copy of the where-functions `emit.emitProlog` … `emit.repMax` of the model's `emit` (Model/ReEmit.lean; equal by
-- `ReEmit.emit_table_eq`, Lemmas/ReLower.lean): written here because `rangeShape` and `lower` need the table before the emitter is in sight
def emitProlog (n : Nat) : Bool := decide (n > 0)
def emitRepeat (n m : Nat) : Bool := decide (m > n + 1) || decide (m > 2)
def emitSplit (n m : Nat) : Bool := decide (m > n)
def emitEpilog (n m : Nat) : Bool := decide (m > n) || decide (m > 1)
/-- `repeat_args.min` / `.max` after the adjustments of the C code -/
def repMin (n m : Nat) : Nat := (if emitProlog n then n - 1 else n) - (if emitSplit n m then 0 else 1)
def repMax (n m : Nat) : Nat := (if emitProlog n then m - 1 else m) - 1

/-- code shape emitted for `e{n,m}`:  prolog `e` | repeat_start/…/repeat_end = `e{min',max'}` | `split; e` = `e?` or plain epilog `e` -/
def rangeShape (a : Re) (n m : Nat) (g : Bool) : Re :=
  .cat (if emitProlog n then a else .empty)
    (.cat (if emitRepeat n m then .range a (repMin n m) (repMax n m) g else .empty)
      (if emitSplit n m then .range a 0 1 g else if emitEpilog n m then a else .empty))

theorem ite_iff_cnt {a x y : Re} {l h l' h' : Nat} (b : Bool) (hx : ∀ p q, Re.Matches fl buf x p q ↔ Cnt fl buf a l h p q)
    (hy : ∀ p q, Re.Matches fl buf y p q ↔ Cnt fl buf a l' h' p q) (p q : Nat) :
    Re.Matches fl buf (if b then x else y) p q ↔ Cnt fl buf a (if b then l else l') (if b then h else h') p q := by
  cases b
  · exact hy p q
  · exact hx p q

theorem cat_iff_cnt {a x y : Re} {l1 h1 l2 h2 : Nat} (hx : ∀ p q, Re.Matches fl buf x p q ↔ Cnt fl buf a l1 h1 p q)
    (hy : ∀ p q, Re.Matches fl buf y p q ↔ Cnt fl buf a l2 h2 p q) (hl1 : l1 ≤ h1) (hl2 : l2 ≤ h2) (p q : Nat) :
    Re.Matches fl buf (.cat x y) p q ↔ Cnt fl buf a (l1 + l2) (h1 + h2) p q := by
  rw [cat_iff, ← cnt_cat a l1 h1 l2 h2 p q hl1 hl2]
  simp only [hx, hy]

/-- the table of `_yr_re_emit`: prolog, loop and epilog together iterate the body between `n` and `m` times; when no
    loop is emitted there are no iterations left for it -/
theorem emit_table {n m : Nat} (hnm : n ≤ m) :
    (if emitProlog n then 1 else 0) + (repMin n m + (if emitSplit n m then 0 else if emitEpilog n m then 1 else 0)) = n ∧
    (if emitProlog n then 1 else 0) + (repMax n m + (if emitSplit n m then 1 else if emitEpilog n m then 1 else 0)) = m ∧
    repMin n m ≤ repMax n m ∧ (emitRepeat n m = false → repMax n m = 0) := by
  -- by the shape of the bounds — `n` zero or not, `m - n` zero, one or more — so that the truncated subtractions of
  -- `repMin` / `repMax` compute before `omega` sees them; one goal per row of the table
  obtain ⟨d, rfl⟩ := Nat.exists_eq_add_of_le hnm
  rcases n with _ | n <;> rcases d with _ | _ | d <;>
    simp only [repMin, repMax, emitProlog, emitSplit, emitEpilog, emitRepeat, gt_iff_lt, Nat.lt_irrefl, Nat.zero_lt_succ,
      Nat.not_lt_zero, Nat.lt_add_one, Nat.lt_add_left_iff_pos, Nat.lt_add_right_iff_pos, Nat.add_lt_add_iff_left,
      Nat.add_lt_add_iff_right, Nat.add_zero, Nat.zero_add, decide_true, decide_false, Bool.or_self, Bool.true_or, Bool.false_or,
      Bool.false_eq_true, Bool.true_eq_false, ↓reduceIte, Bool.or_eq_false_iff, decide_eq_false_iff_not, decide_eq_true_eq,
      true_and, and_true, implies_true, false_imp_iff]
  · omega                 -- e{0,0}: nothing is emitted
  · omega                 -- e{0,1} = e?: the split section alone
  · omega                 -- e{0,m}, m ≥ 2: loop e{0,m-1}, then e?
  · split <;> omega       -- e{n,n}, n ≥ 1: prolog e, loop e{n-2,n-2} (emitted iff n ≥ 3), epilog e iff n ≥ 2
  · omega                 -- e{n,n+1}, n ≥ 1: prolog e, loop e{n-1,n-1} (emitted iff n ≥ 2), then e?
  · omega                 -- e{n,m}, n ≥ 1, m ≥ n+2: prolog e, loop e{n-1,m-2}, then e?

/-- the three sections of the code emitted for `e{n,m}` are count intervals of `e` that add up to `[n, m]` -/
theorem range_sections (a : Re) {n m : Nat} (g : Bool) (hnm : n ≤ m) : ∃ l1 l2 h2 l3 h3 : Nat,
    (∀ p q, Re.Matches fl buf (if emitProlog n then a else .empty) p q ↔ Cnt fl buf a l1 l1 p q) ∧
    (∀ p q, Re.Matches fl buf (if emitRepeat n m then .range a (repMin n m) (repMax n m) g else .empty) p q ↔
      Cnt fl buf a l2 h2 p q) ∧
    (∀ p q, Re.Matches fl buf (if emitSplit n m then .range a 0 1 g else if emitEpilog n m then a else .empty) p q ↔
      Cnt fl buf a l3 h3 p q) ∧
    l2 ≤ h2 ∧ l3 ≤ h3 ∧ l1 + (l2 + l3) = n ∧ l1 + (h2 + h3) = m := by
  obtain ⟨hlo, hhi, hrep, hnone⟩ := emit_table hnm
  refine ⟨_, _, _, _, _, ite_iff_cnt (emitProlog n) (one_iff_cnt a) (empty_iff_cnt a), ?_,
    ite_iff_cnt (emitSplit n m) (range_iff_cnt a 0 1 g) (ite_iff_cnt (emitEpilog n m) (one_iff_cnt a) (empty_iff_cnt a)),
    hrep, ?_, hlo, hhi⟩
  · intro t u
    cases hr : emitRepeat n m
    · rw [hnone hr] at hrep ⊢
      rw [Nat.le_zero.1 hrep]; exact empty_iff_cnt a t u
    · exact range_iff_cnt a _ _ g t u
  · cases emitSplit n m <;> cases emitEpilog n m <;> decide

theorem rangeShape_iff (a : Re) (n m : Nat) (g : Bool) (hnm : n ≤ m) (p q : Nat) :
    Re.Matches fl buf (rangeShape a n m g) p q ↔ Re.Matches fl buf (.range a n m g) p q := by
  obtain ⟨l1, l2, h2, l3, h3, s1, s2, s3, hl2, hl3, hlo, hhi⟩ := range_sections (fl := fl) (buf := buf) a g hnm
  have h := cat_iff_cnt s1 (cat_iff_cnt s2 s3 hl2 hl3) (Nat.le_refl _) (Nat.add_le_add hl2 hl3) p q
  rw [hlo, hhi, ← range_iff_cnt a n m g] at h
  exact h

/-- the same sections in the order of the backward code: epilog · loop · prolog -/
theorem rangeShape_rev_iff (a : Re) (n m : Nat) (g : Bool) (hnm : n ≤ m) (p q : Nat) :
    Re.Matches fl buf (.cat (.cat (if emitSplit n m then .range a 0 1 g else if emitEpilog n m then a else .empty)
      (if emitRepeat n m then .range a (repMin n m) (repMax n m) g else .empty)) (if emitProlog n then a else .empty)) p q ↔
    Re.Matches fl buf (.range a n m g) p q := by
  obtain ⟨l1, l2, h2, l3, h3, s1, s2, s3, hl2, hl3, hlo, hhi⟩ := range_sections (fl := fl) (buf := buf) a g hnm
  have h := cat_iff_cnt (cat_iff_cnt s3 s2 hl3 hl2) s1 (Nat.add_le_add hl3 hl2) (Nat.le_refl _) p q
  rw [show l3 + l2 + l1 = n by omega, show h3 + h2 + l1 = m by omega, ← range_iff_cnt a n m g] at h
  exact h

theorem rangeAny_iff (hd : fl.dotall = true) (hw : fl.wide = false) (n m : Nat) (g : Bool) (e s : Nat) :
    Re.Matches fl buf (.rangeAny n m g) e s ↔ e + n ≤ s ∧ s ≤ e + m ∧ (s = e ∨ s ≤ buf.size) := by
  simp only [rangeAny_iff_iter, iter_any_dotall fl buf hd hw]
  exact ⟨fun ⟨k, a1, a2, a3, a4⟩ => by omega, fun ⟨a1, a2, a3⟩ => ⟨s - e, by omega⟩⟩

/-- a jump followed by `post`: the gap rule of chained strings -/
theorem jump_cat_iff (hd : fl.dotall = true) (hw : fl.wide = false) (n m : Nat) (g : Bool) (post : Re) (e q : Nat) :
    Re.Matches fl buf (.cat (.rangeAny n m g) post) e q ↔
      ∃ s, e + n ≤ s ∧ s ≤ e + m ∧ (s = e ∨ s ≤ buf.size) ∧ Re.Matches fl buf post s q := by
  simp only [cat_iff, rangeAny_iff hd hw, and_assoc]

end

-- a hole may sit under `+` but not under `*` or `{n,m}`: `Cover` places atoms under `+` alone, and the scan theorems use contexts
-- for hex strings, where no sub-pattern is repeated
inductive Ctx where
  | hole
  | catL (c : Ctx) (r : Re)
  | catR (l : Re) (c : Ctx)
  | altL (c : Ctx) (r : Re)
  | altR (l : Re) (c : Ctx)
  | plusIn (c : Ctx) (g : Bool)
  deriving Repr

def Ctx.fill : Ctx → Re → Re
  | .hole, a => a
  | .catL c r, a => .cat (c.fill a) r
  | .catR l c, a => .cat l (c.fill a)
  | .altL c r, a => .alt (c.fill a) r
  | .altR l c, a => .alt l (c.fill a)
  | .plusIn c g, a => .plus (c.fill a) g

-- `Before` and `After` take the atom `a` for the sake of `plusIn` alone: the iterations of `e+` before and after the one that
-- holds the atom are matches of the whole body, and the body is `c.fill a`.
/-- the part of the pattern BEFORE the hole matches `[p, s)` (what the backward code verifies, right to left) -/
def Ctx.Before (fl : Flags) (buf : Bytes) (a : Re) : Ctx → Nat → Nat → Prop
  | .hole, p, s => p = s
  | .catL c _, p, s => c.Before fl buf a p s
  | .catR l c, p, s => ∃ t, Re.Matches fl buf l p t ∧ c.Before fl buf a t s
  | .altL c _, p, s => c.Before fl buf a p s
  | .altR _ c, p, s => c.Before fl buf a p s
  | .plusIn c g, p, s => ∃ t, Re.Matches fl buf (.star (c.fill a) g) p t ∧ c.Before fl buf a t s

/-- the part of the pattern AFTER the hole matches `[e, q)` (what the forward code verifies after the atom) -/
def Ctx.After (fl : Flags) (buf : Bytes) (a : Re) : Ctx → Nat → Nat → Prop
  | .hole, e, q => e = q
  | .catL c r, e, q => ∃ t, c.After fl buf a e t ∧ Re.Matches fl buf r t q
  | .catR _ c, e, q => c.After fl buf a e q
  | .altL c _, e, q => c.After fl buf a e q
  | .altR _ c, e, q => c.After fl buf a e q
  | .plusIn c g, e, q => ∃ t, c.After fl buf a e t ∧ Re.Matches fl buf (.star (c.fill a) g) t q

def Ctx.Through (fl : Flags) (buf : Bytes) (c : Ctx) (a : Re) (p q : Nat) : Prop :=
  ∃ s e, c.Before fl buf a p s ∧ Re.Matches fl buf a s e ∧ c.After fl buf a e q

section
variable {fl : Flags} {buf : Bytes}

-- about `Matches` alone: `plus_iff_star` serves `through_sound` and `cover_complete` below, the `_snoc` lemmas the backward
-- reading of the code (`irm_bwd`, Lemmas/ReLower.lean)
theorem plus_iff_star {a : Re} {g : Bool} {p q : Nat} :
    Re.Matches fl buf (.plus a g) p q ↔ ∃ t1 t2, Re.Matches fl buf (.star a g) p t1 ∧ Re.Matches fl buf a t1 t2 ∧ Re.Matches fl buf (.star a g) t2 q := by
  simp only [plus_iff_iter, star_iff_iter]
  constructor
  · rintro ⟨k, hk⟩
    obtain ⟨t, h1, h2⟩ := Iter.succ_iff.1 hk
    exact ⟨p, t, ⟨0, .nil⟩, h1, k, h2⟩
  · rintro ⟨t1, t2, ⟨j, hj⟩, hm, k, hk⟩
    exact ⟨j + k, by rw [Nat.add_right_comm]; exact Iter.add_iff.2 ⟨t2, Iter.snoc_iff.2 ⟨t1, hj, hm⟩, hk⟩⟩

theorem star_snoc {a : Re} {g : Bool} {p m q : Nat} (h1 : Re.Matches fl buf (.star a g) p m) (h2 : Re.Matches fl buf a m q) :
    Re.Matches fl buf (.star a g) p q := by
  obtain ⟨k, hk⟩ := star_iff_iter.1 h1
  exact star_iff_iter.2 ⟨k + 1, Iter.snoc_iff.2 ⟨m, hk, h2⟩⟩

theorem plus_snoc {a : Re} {g : Bool} {p m q : Nat} (h1 : Re.Matches fl buf (.plus a g) p m) (h2 : Re.Matches fl buf a m q) :
    Re.Matches fl buf (.plus a g) p q := by
  obtain ⟨k, hk⟩ := plus_iff_iter.1 h1
  exact plus_iff_iter.2 ⟨k + 1, Iter.snoc_iff.2 ⟨m, hk, h2⟩⟩

theorem range_snoc {a : Re} {g : Bool} {lo hi p m q : Nat} (hpos : 0 < hi) (h1 : Re.Matches fl buf (.range a (lo - 1) (hi - 1) g) p m)
    (h2 : Re.Matches fl buf a m q) : Re.Matches fl buf (.range a lo hi g) p q := by
  obtain ⟨k, k1, k2, hk⟩ := range_iff_iter.1 h1
  exact range_iff_iter.2 ⟨k + 1, by omega, by omega, Iter.snoc_iff.2 ⟨m, hk, h2⟩⟩

def Ctx.after (a : Re) : Ctx → Re
  | .hole => .empty
  | .catL c r => .cat (c.after a) r
  | .catR _ c => c.after a
  | .altL c _ => c.after a
  | .altR _ c => c.after a
  | .plusIn c g => .cat (c.after a) (.star (c.fill a) g)

def Ctx.before (a : Re) : Ctx → Re
  | .hole => .empty
  | .catL c _ => c.before a
  | .catR l c => .cat l (c.before a)
  | .altL c _ => c.before a
  | .altR _ c => c.before a
  | .plusIn c g => .cat (.star (c.fill a) g) (c.before a)

theorem empty_iff {p q : Nat} : Re.Matches fl buf .empty p q ↔ p = q :=
  ⟨fun h => by cases h; rfl, fun h => h ▸ .empty⟩

theorem Ctx.after_iff (a : Re) : ∀ (c : Ctx) (e q : Nat), c.After fl buf a e q ↔ Re.Matches fl buf (c.after a) e q
  | .hole, _, _ => empty_iff.symm
  | .catL c r, _, _ => by simp only [Ctx.After, Ctx.after, cat_iff, Ctx.after_iff a c]
  | .catR _ c, e, q => Ctx.after_iff a c e q
  | .altL c _, e, q => Ctx.after_iff a c e q
  | .altR _ c, e, q => Ctx.after_iff a c e q
  | .plusIn c g, _, _ => by simp only [Ctx.After, Ctx.after, cat_iff, Ctx.after_iff a c]

theorem Ctx.before_iff (a : Re) : ∀ (c : Ctx) (p s : Nat), c.Before fl buf a p s ↔ Re.Matches fl buf (c.before a) p s
  | .hole, _, _ => empty_iff.symm
  | .catL c _, p, s => Ctx.before_iff a c p s
  | .catR l c, _, _ => by simp only [Ctx.Before, Ctx.before, cat_iff, Ctx.before_iff a c]
  | .altL c _, p, s => Ctx.before_iff a c p s
  | .altR _ c, p, s => Ctx.before_iff a c p s
  | .plusIn c g, _, _ => by simp only [Ctx.Before, Ctx.before, cat_iff, Ctx.before_iff a c]

theorem through_sound (c : Ctx) (a : Re) : ∀ (p q : Nat), c.Through fl buf a p q → Re.Matches fl buf (c.fill a) p q := by
  induction c with
  | hole =>
    rintro p q ⟨s, e, hb, hm, ha⟩
    subst hb; subst ha; exact hm
  | catL c r ih =>
    rintro p q ⟨s, e, hb, hm, t, ha, hr⟩
    exact .cat (ih p t ⟨s, e, hb, hm, ha⟩) hr
  | catR l c ih =>
    rintro p q ⟨s, e, ⟨t, hl, hb⟩, hm, ha⟩
    exact .cat hl (ih t q ⟨s, e, hb, hm, ha⟩)
  | altL c r ih =>
    rintro p q ⟨s, e, hb, hm, ha⟩
    exact .altL (ih p q ⟨s, e, hb, hm, ha⟩)
  | altR l c ih =>
    rintro p q ⟨s, e, hb, hm, ha⟩
    exact .altR (ih p q ⟨s, e, hb, hm, ha⟩)
  | plusIn c g ih =>
    rintro p q ⟨s, e, ⟨t, hs, hb⟩, hm, u, ha, hs2⟩
    exact plus_iff_star.2 ⟨t, u, hs, ih t u ⟨s, e, hb, hm, ha⟩, hs2⟩

def Ctx.linear : Ctx → Prop
  | .hole => True
  | .catL c _ => c.linear
  | .catR _ c => c.linear
  | .altL _ _ => False
  | .altR _ _ => False
  | .plusIn c _ => c.linear

/-- atom choice over alternations (the AND/OR atom tree of atoms.c): one atom per way through the pattern -/
inductive Cover : Re → List (Ctx × Re) → Prop
  | leaf (r : Re) : Cover r [(.hole, r)]
  | catL {a b : Re} {L : List (Ctx × Re)} : Cover a L → Cover (.cat a b) (L.map fun (c, x) => (.catL c b, x))
  | catR {a b : Re} {L : List (Ctx × Re)} : Cover b L → Cover (.cat a b) (L.map fun (c, x) => (.catR a c, x))
  | alt {a b : Re} {L1 L2 : List (Ctx × Re)} : Cover a L1 → Cover b L2 →
      Cover (.alt a b) (L1.map (fun (c, x) => (.altL c b, x)) ++ L2.map (fun (c, x) => (.altR a c, x)))
  | plus {a : Re} {g : Bool} {L : List (Ctx × Re)} : Cover a L → Cover (.plus a g) (L.map fun (c, x) => (.plusIn c g, x))

theorem cover_fill {r : Re} {L : List (Ctx × Re)} (h : Cover r L) : ∀ cx ∈ L, cx.1.fill cx.2 = r := by
  induction h with
  | leaf r => exact List.forall_mem_singleton.2 rfl
  | catL _ ih => exact List.forall_mem_map.2 fun cx h => congrArg (Re.cat · _) (ih cx h)
  | catR _ ih => exact List.forall_mem_map.2 fun cx h => congrArg (Re.cat _) (ih cx h)
  | alt _ _ ih1 ih2 =>
    exact List.forall_mem_append.2 ⟨List.forall_mem_map.2 fun cx h => congrArg (Re.alt · _) (ih1 cx h),
      List.forall_mem_map.2 fun cx h => congrArg (Re.alt _) (ih2 cx h)⟩
  | plus _ ih => exact List.forall_mem_map.2 fun cx h => congrArg (Re.plus · _) (ih cx h)

theorem cover_complete {r : Re} {L : List (Ctx × Re)} (h : Cover r L) : ∀ (p q : Nat),
    Re.Matches fl buf r p q → ∃ c x, (c, x) ∈ L ∧ c.Through fl buf x p q := by
  induction h with
  | leaf r => intro p q hm; exact ⟨.hole, r, by simp, p, q, rfl, hm, rfl⟩
  | @catL a b L hc ih =>
    intro p q hm
    cases hm with
    | cat h1 h2 =>
      obtain ⟨c, x, hin, s, e, hb, hx, ha⟩ := ih _ _ h1
      exact ⟨.catL c b, x, List.mem_map_of_mem hin, s, e, hb, hx, _, ha, h2⟩
  | @catR a b L hc ih =>
    intro p q hm
    cases hm with
    | cat h1 h2 =>
      obtain ⟨c, x, hin, s, e, hb, hx, ha⟩ := ih _ _ h2
      exact ⟨.catR a c, x, List.mem_map_of_mem hin, s, e, ⟨_, h1, hb⟩, hx, ha⟩
  | @alt a b L1 L2 _ _ ih1 ih2 =>
    intro p q hm
    cases hm with
    | altL h1 =>
      obtain ⟨c, x, hin, s, e, hb, hx, ha⟩ := ih1 _ _ h1
      exact ⟨.altL c b, x, List.mem_append_left _ (List.mem_map_of_mem hin), s, e, hb, hx, ha⟩
    | altR h1 =>
      obtain ⟨c, x, hin, s, e, hb, hx, ha⟩ := ih2 _ _ h1
      exact ⟨.altR a c, x, List.mem_append_right _ (List.mem_map_of_mem hin), s, e, hb, hx, ha⟩
  | @plus a g L hc ih =>
    intro p q hm
    obtain ⟨t1, t2, h1, hmid, h2⟩ := plus_iff_star.1 hm
    obtain ⟨c, x, hin, s, e, hb, hx, ha⟩ := ih _ _ hmid
    obtain rfl := cover_fill hc _ hin
    exact ⟨.plusIn c g, x, List.mem_map_of_mem hin, s, e, ⟨t1, h1, hb⟩, hx, t2, ha, h2⟩

theorem cover_linear (a : Re) : ∀ (c : Ctx), c.linear → Cover (c.fill a) [(c, a)]
  | .hole, _ => .leaf a
  | .catL c _, h => (cover_linear a c h).catL
  | .catR _ c, h => (cover_linear a c h).catR
  | .altL _ _, h => h.elim
  | .altR _ _, h => h.elim
  | .plusIn c _, h => (cover_linear a c h).plus

theorem through_complete (c : Ctx) (a : Re) (hl : c.linear) : ∀ (p q : Nat),
    Re.Matches fl buf (c.fill a) p q → c.Through fl buf a p q := by
  intro p q h
  obtain ⟨c', x, hin, ht⟩ := cover_complete (cover_linear a c hl) p q h
  cases List.mem_singleton.1 hin
  exact ht

end

theorem decompose_iff (fl : Flags) (buf : Bytes) (r : Re) (atoms : List (Ctx × Re)) (hc : Cover r atoms) (p q : Nat) :
    Re.Matches fl buf r p q ↔ ∃ c a, (c, a) ∈ atoms ∧ c.Through fl buf a p q := by
  constructor
  · exact cover_complete hc p q
  · rintro ⟨c, a, hin, ht⟩
    have := through_sound c a p q ht
    rwa [cover_fill hc _ hin] at this

end YaraModel.Re
