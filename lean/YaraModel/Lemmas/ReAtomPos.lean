/-
  Where an atom sits in a match and in the code (loop-free expressions: concatenations and alternatives over single nodes —
  every hex AST): an entry of a trace (`Tr`, Lemmas/ReAtoms.lean: the leaves a match passes, with their positions) splits the
  match at that leaf, and the code positions the atoms model records for the leaf (Model/ReAtoms `fwdRef`, `bwdRef` — compared
  with the real automaton entries) are the entry points `holePos` / `bwdPos` of the verification theorems (Lemmas/ReAtomEntry).
-/
import YaraModel.Lemmas.ReAtomsFinal
import YaraModel.Lemmas.ReAtomEntry
namespace YaraModel.ReAtoms
open YaraModel.Re YaraModel.ReEmit

-- no loop node (every hex AST: `HexAst.flat`), so every leaf is emitted once; `WF` gives the code layout; the lemmas on `leafPos`
-- need both
def Flat : Re → Prop
  | .cat a b => Flat a ∧ Flat b
  | .alt a b => Flat a ∧ Flat b
  | .star _ _ => False
  | .plus _ _ => False
  | .range _ _ _ _ => False
  | _ => True

/-- the one-hole context and the node of leaf number `k` (numbering of `leaves`); `none` under a loop node -/
def ctxAt : Re → Nat → Option (Ctx × Re)
  | .cat a b, k => if k < leaves a then (ctxAt a k).map (fun cx => (.catL cx.1 b, cx.2))
                   else (ctxAt b (k - leaves a)).map (fun cx => (.catR a cx.1, cx.2))
  | .alt a b, k => if k < leaves a then (ctxAt a k).map (fun cx => (.altL cx.1 b, cx.2))
                   else (ctxAt b (k - leaves a)).map (fun cx => (.altR a cx.1, cx.2))
  | .star _ _, _ => none
  | .plus _ _, _ => none
  | .range _ _ _ _, _ => none
  | r, k => if k = 0 then some (.hole, r) else none

theorem leaves_pos (r : Re) : 0 < leaves r := by
  induction r <;> simp only [leaves] <;> omega

theorem ctxAt_induct {P : Re → Nat → Ctx → Re → Prop}
    (leaf : ∀ r, P r 0 .hole r)
    (catL : ∀ a b k c x, k < leaves a → P a k c x → P (.cat a b) k (.catL c b) x)
    (catR : ∀ a b j c x, P b j c x → P (.cat a b) (leaves a + j) (.catR a c) x)
    (altL : ∀ a b k c x, k < leaves a → P a k c x → P (.alt a b) k (.altL c b) x)
    (altR : ∀ a b j c x, P b j c x → P (.alt a b) (leaves a + j) (.altR a c) x) :
    ∀ {r : Re} {k : Nat} {c : Ctx} {x : Re}, ctxAt r k = some (c, x) → P r k c x := by
  intro r k
  -- the equations of `ctxAt`: 1–4 cat left / right, alt left / right; 5–7 the loop nodes; a single node at 8 `k = 0`, 9 `k ≠ 0`
  fun_induction ctxAt r k with
  | case1 a b k hk ih =>
    intro c x h
    obtain ⟨⟨c', x'⟩, h1, h2⟩ := Option.map_eq_some_iff.1 h
    cases h2
    exact catL a b k c' x' hk (ih h1)
  | case2 a b k hk ih =>
    intro c x h
    obtain ⟨⟨c', x'⟩, h1, h2⟩ := Option.map_eq_some_iff.1 h
    cases h2
    exact Nat.add_sub_of_le (Nat.le_of_not_lt hk) ▸ catR a b _ c' x' (ih h1)
  | case3 a b k hk ih =>
    intro c x h
    obtain ⟨⟨c', x'⟩, h1, h2⟩ := Option.map_eq_some_iff.1 h
    cases h2
    exact altL a b k c' x' hk (ih h1)
  | case4 a b k hk ih =>
    intro c x h
    obtain ⟨⟨c', x'⟩, h1, h2⟩ := Option.map_eq_some_iff.1 h
    cases h2
    exact Nat.add_sub_of_le (Nat.le_of_not_lt hk) ▸ altR a b _ c' x' (ih h1)
  | case5 | case6 | case7 | case9 => exact fun h => nomatch h
  | case8 r => intro c x h; cases h; exact leaf r

theorem ctxAt_lt {r : Re} {k : Nat} {c : Ctx} {x : Re} (h : ctxAt r k = some (c, x)) : k < leaves r :=
  ctxAt_induct (P := fun r k _ _ => k < leaves r) (fun r => leaves_pos r)
    (fun _ _ _ _ _ hk _ => Nat.lt_of_lt_of_le hk (Nat.le_add_right _ _)) (fun _ _ _ _ _ ih => Nat.add_lt_add_left ih _)
    (fun _ _ _ _ _ hk _ => Nat.lt_of_lt_of_le hk (Nat.le_add_right _ _)) (fun _ _ _ _ _ ih => Nat.add_lt_add_left ih _) h

theorem ctxAt_fill {r : Re} {k : Nat} {c : Ctx} {x : Re} (h : ctxAt r k = some (c, x)) : c.fill x = r :=
  ctxAt_induct (P := fun r _ c x => c.fill x = r) (fun _ => rfl)
    (fun _ b _ _ _ _ ih => congrArg (Re.cat · b) ih) (fun a _ _ _ _ ih => congrArg (Re.cat a ·) ih)
    (fun _ b _ _ _ _ ih => congrArg (Re.alt · b) ih) (fun a _ _ _ _ ih => congrArg (Re.alt a ·) ih) h

theorem ctxAt_left {a : Re} {k : Nat} {c : Ctx} {x : Re} (h : ctxAt a k = some (c, x)) (b : Re) :
    ctxAt (.cat a b) k = some (.catL c b, x) ∧ ctxAt (.alt a b) k = some (.altL c b, x) := by
  simp [ctxAt, ctxAt_lt h, h]

theorem ctxAt_right (a : Re) {b : Re} {j : Nat} {c : Ctx} {x : Re} (h : ctxAt b j = some (c, x)) :
    ctxAt (.cat a b) (leaves a + j) = some (.catR a c, x) ∧ ctxAt (.alt a b) (leaves a + j) = some (.altR a c, x) := by
  simp [ctxAt, h]

section
variable {fl : Flags} {buf : Bytes}

theorem trace_through {r : Re} {i p q : Nat} {T : List (Nat × Nat)} (h : Tr fl buf r i p q T) : Flat r → ∀ {id s : Nat}, (id, s) ∈ T →
    ∃ k c x, id = i + k ∧ ctxAt r k = some (c, x) ∧ AtomLeaf x ∧ c.Before fl buf x p s ∧
      ∃ e, Re.Matches fl buf x s e ∧ c.After fl buf x e q := by
  induction h with
  | @lit b i p q hm =>
    intro _ id s hin
    cases List.mem_singleton.1 hin
    exact ⟨0, .hole, .lit b, rfl, rfl, .inl ⟨b, rfl⟩, rfl, q, hm, rfl⟩
  | @masked v m i p q hm =>
    intro _ id s hin
    cases List.mem_singleton.1 hin
    exact ⟨0, .hole, .masked v m, rfl, rfl, .inr (.inl ⟨v, m, rfl⟩), rfl, q, hm, rfl⟩
  | @any i p q hm =>
    intro _ id s hin
    cases List.mem_singleton.1 hin
    exact ⟨0, .hole, .any, rfl, rfl, .inr (.inr rfl), rfl, q, hm, rfl⟩
  | opq _ _ => intro _ id s hin; cases hin
  | @cat a b i p t q t1 t2 h1 h2 ih1 ih2 =>
    intro hf id s hin
    rcases List.mem_append.1 hin with hin | hin
    · obtain ⟨k, c, x, rfl, hc, hx, hb, e, hm, ha⟩ := ih1 hf.1 hin
      exact ⟨k, .catL c b, x, rfl, (ctxAt_left hc b).1, hx, hb, e, hm, t, ha, h2.matches⟩
    · obtain ⟨k, c, x, rfl, hc, hx, hb, e, hm, ha⟩ := ih2 hf.2 hin
      exact ⟨leaves a + k, .catR a c, x, Nat.add_assoc _ _ _, (ctxAt_right a hc).1, hx, ⟨t, h1.matches, hb⟩, e, hm, ha⟩
  | @altL a b i p q t1 h1 ih =>
    intro hf id s hin
    obtain ⟨k, c, x, rfl, hc, hx, hb, e, hm, ha⟩ := ih hf.1 hin
    exact ⟨k, .altL c b, x, rfl, (ctxAt_left hc b).2, hx, hb, e, hm, ha⟩
  | @altR a b i p q t1 h1 ih =>
    intro hf id s hin
    obtain ⟨k, c, x, rfl, hc, hx, hb, e, hm, ha⟩ := ih hf.2 hin
    exact ⟨leaves a + k, .altR a c, x, Nat.add_assoc _ _ _, (ctxAt_right a hc).2, hx, hb, e, hm, ha⟩
  | plusOne _ _ | plusStep _ _ _ | rangeStop | rangeStep _ _ _ _ _ => intro hf; exact hf.elim

end

theorem clen_fwd {r : Re} (h : WF r) : ReAtoms.clen false r = ReEmit.clen (lower r) := emit_len h 0
theorem clen_bwd {r : Re} (h : WF r) : ReAtoms.clen true r = ReEmit.clen (lower (rev r)) := by
  unfold ReAtoms.clen; rw [emit_rev]; exact emit_len (rev_wf h) 0

theorem leafPos_ids (back : Bool) : ∀ {r : Re}, Flat r → ∀ (i off : Nat) e, e ∈ leafPos back r i off → i ≤ e.1 ∧ e.1 < i + leaves r := by
  have left : ∀ {i n la lb : Nat}, i ≤ n ∧ n < i + la → i ≤ n ∧ n < i + (la + lb) := by omega
  have right : ∀ {i n la lb : Nat}, i + la ≤ n ∧ n < i + la + lb → i ≤ n ∧ n < i + (la + lb) := by omega
  intro r
  induction r with
  | cat a b iha ihb =>
    intro hf i off e he
    simp only [leafPos] at he
    split at he <;> rcases List.mem_append.1 he with h | h
    · exact right (ihb hf.2 _ _ _ h)
    · exact left (iha hf.1 _ _ _ h)
    · exact left (iha hf.1 _ _ _ h)
    · exact right (ihb hf.2 _ _ _ h)
  | alt a b iha ihb =>
    intro hf i off e he
    rcases List.mem_append.1 he with h | h
    · exact left (iha hf.1 _ _ _ h)
    · exact right (ihb hf.2 _ _ _ h)
  | star _ _ _ | plus _ _ _ | range _ _ _ _ _ => intro hf; exact hf.elim
  | _ => intro _ i off e he; cases List.mem_singleton.1 he; exact ⟨Nat.le_refl _, Nat.lt_succ_self _⟩

theorem find_none_of_ids {l : List (Nat × Nat × Nat)} {lo hi n : Nat} (h : ∀ e ∈ l, lo ≤ e.1 ∧ e.1 < hi) (hn : n < lo ∨ hi ≤ n) :
    l.find? (·.1 == n) = none :=
  List.find?_eq_none.2 fun e he hp => by
    have := h e he
    have : e.1 = n := by simpa using hp
    omega

theorem leafPos_find_fwd {r : Re} {k : Nat} {c : Ctx} {x : Re} (h : ctxAt r k = some (c, x)) : Flat r → WF r → AtomLeaf x → ∀ (i off : Nat),
    (leafPos false r i off).find? (·.1 == i + k) = some (i + k, holePos c off, holePos c off + leafLen x) := by
  -- `find?` goes through `++`: the operand passed by holds other ids (`leafPos_ids`), the other one is the induction hypothesis
  refine ctxAt_induct (P := fun r k c x => Flat r → WF r → AtomLeaf x → ∀ (i off : Nat),
    (leafPos false r i off).find? (·.1 == i + k) = some (i + k, holePos c off, holePos c off + leafLen x)) ?_ ?_ ?_ ?_ ?_ h
  · intro r _ _ hx i off
    rcases hx with ⟨b, rfl⟩ | ⟨v, m, rfl⟩ | rfl <;> simp [leafPos, holePos] <;> rfl
  · intro a b k c x _ ih hf hwf hx i off
    cases hwf with | cat wa wb =>
    simp only [leafPos, Bool.false_eq_true, if_false, List.find?_append, ih hf.1 wa hx i off, Option.some_or, holePos]
  · intro a b j c x ih hf hwf hx i off
    cases hwf with | cat wa wb =>
    have hnone := find_none_of_ids (n := i + (leaves a + j)) (leafPos_ids false hf.1 i off) (.inr (Nat.add_le_add_left (Nat.le_add_right _ _) i))
    have := ih hf.2 wb hx (i + leaves a) (off + ReAtoms.clen false a)
    rw [Nat.add_assoc i] at this
    simp only [leafPos, Bool.false_eq_true, if_false, List.find?_append, hnone, Option.none_or, this, holePos, ← clen_fwd wa]
  · intro a b k c x _ ih hf hwf hx i off
    cases hwf with | alt wa wb =>
    simp only [leafPos, List.find?_append, ih hf.1 wa hx i (off + 4), Option.some_or, holePos]
  · intro a b j c x ih hf hwf hx i off
    cases hwf with | alt wa wb =>
    have hnone := find_none_of_ids (n := i + (leaves a + j)) (leafPos_ids false hf.1 i (off + 4)) (.inr (Nat.add_le_add_left (Nat.le_add_right _ _) i))
    have := ih hf.2 wb hx (i + leaves a) (off + 4 + ReAtoms.clen false a + 3)
    rw [Nat.add_assoc i] at this
    simp only [leafPos, List.find?_append, hnone, Option.none_or, this, holePos, ← clen_fwd wa]

theorem fwdRef_eq {r : Re} {k : Nat} {c : Ctx} {x : Re} (h : ctxAt r k = some (c, x)) (hf : Flat r) (hwf : WF r) (hx : AtomLeaf x) :
    fwdRef r k = some (holePos c 0) := by
  have := leafPos_find_fwd h hf hwf hx 0 0
  rw [Nat.zero_add] at this
  unfold fwdRef
  rw [this]; rfl

theorem leafPos_find_bwd {r : Re} {k : Nat} {c : Ctx} {x : Re} (h : ctxAt r k = some (c, x)) : Flat r → WF r → AtomLeaf x → ∀ (i off : Nat),
    ∃ st, (leafPos true r i off).reverse.find? (·.1 == i + k) = some (i + k, st, bwdPos x c off) := by
  refine ctxAt_induct (P := fun r k c x => Flat r → WF r → AtomLeaf x → ∀ (i off : Nat),
    ∃ st, (leafPos true r i off).reverse.find? (·.1 == i + k) = some (i + k, st, bwdPos x c off)) ?_ ?_ ?_ ?_ ?_ h
  · intro r _ _ hx i off
    rcases hx with ⟨b, rfl⟩ | ⟨v, m, rfl⟩ | rfl <;> exact ⟨off, by simp [leafPos, bwdPos]; rfl⟩
  · intro a b k c x _ ih hf hwf hx i off
    cases hwf with | cat wa wb =>
    obtain ⟨st, hst⟩ := ih hf.1 wa hx i (off + ReAtoms.clen true b)
    exact ⟨st, by simp only [leafPos, if_true, List.reverse_append, List.find?_append, hst, Option.some_or, bwdPos, ← clen_bwd wb]⟩
  · intro a b j c x ih hf hwf hx i off
    cases hwf with | cat wa wb =>
    have hnone := find_none_of_ids (n := i + (leaves a + j)) (l := (leafPos true a i (off + ReAtoms.clen true b)).reverse)
      (fun e he => leafPos_ids true hf.1 i _ e (List.mem_reverse.1 he)) (.inr (Nat.add_le_add_left (Nat.le_add_right _ _) i))
    obtain ⟨st, hst⟩ := ih hf.2 wb hx (i + leaves a) off
    rw [Nat.add_assoc i] at hst
    exact ⟨st, by simp only [leafPos, if_true, List.reverse_append, List.find?_append, hnone, Option.none_or, hst, bwdPos]⟩
  · intro a b k c x hk ih hf hwf hx i off
    cases hwf with | alt wa wb =>
    have hnone := find_none_of_ids (n := i + k) (l := (leafPos true b (i + leaves a) (off + 4 + ReAtoms.clen true a + 3)).reverse)
      (fun e he => leafPos_ids true hf.2 _ _ e (List.mem_reverse.1 he)) (.inl (Nat.add_lt_add_left hk i))
    obtain ⟨st, hst⟩ := ih hf.1 wa hx i (off + 4)
    exact ⟨st, by simp only [leafPos, List.reverse_append, List.find?_append, hnone, Option.none_or, hst, bwdPos]⟩
  · intro a b j c x ih hf hwf hx i off
    cases hwf with | alt wa wb =>
    obtain ⟨st, hst⟩ := ih hf.2 wb hx (i + leaves a) (off + 4 + ReAtoms.clen true a + 3)
    rw [Nat.add_assoc i] at hst
    exact ⟨st, by simp only [leafPos, List.reverse_append, List.find?_append, hst, Option.some_or, bwdPos, ← clen_bwd wa]⟩

/-- `bwdRef` is the entry point of the backward verification theorem (behind the forward code and its MATCH) -/
theorem bwdRef_eq {r : Re} {k : Nat} {c : Ctx} {x : Re} (h : ctxAt r k = some (c, x)) (hf : Flat r) (hwf : WF r) (hx : AtomLeaf x) :
    bwdRef r k = some (bwdPos x c 0 + ReAtoms.clen false r + 1) := by
  obtain ⟨st, hm⟩ := leafPos_find_bwd h hf hwf hx 0 0
  rw [Nat.zero_add] at hm
  unfold bwdRef
  rw [hm]; rfl


theorem HexAst.flat {r : Re} (h : HexAst r) : Flat r := by
  induction h with
  | seq _ _ ih1 ih2 => exact ⟨ih1, ih2⟩
  | alt _ _ ih1 ih2 => exact ⟨ih1, ih2⟩
  | _ => trivial

theorem hexAst_refs {r : Re} (hh : HexAst r) {k : Nat} {c : Ctx} {y : Re} (h : ctxAt r k = some (c, y)) (hy : AtomLeaf y) :
    fwdRef r k = some (holePos c 0) ∧ bwdRef r k = some (bwdPos y c 0 + ReAtoms.clen false r + 1) :=
  ⟨fwdRef_eq h (HexAst.flat hh) hh.wf hy, bwdRef_eq h (HexAst.flat hh) hh.wf hy⟩

/-- **Cover with positions (loop-free expressions).**  Along every match [p, q') one of the final atoms occurs literally at a
    position `s` where the match splits: the part of the pattern before the atom's first node matches [p, s), the node
    matches at s, the rest matches up to q'. -/
theorem flat_cover (q : Atom → Int) (m : Mods) (fl : Flags) (buf : Bytes) (hw1 : fl.wide = true → m.wide = true)
    (hw0 : fl.wide = false → (m.wide = false ∨ m.ascii = true)) (hn : m.nocase = fl.nocase) (r : Re) (hf : Flat r)
    (hmk : MaskOK r) {p q' : Nat} (hm : Re.Matches fl buf r p q') :
    ∃ x ∈ atomsOf q m r, ∃ s, p ≤ s ∧ s + x.1.length ≤ q' ∧ BytesAt buf x.1 s ∧
      (x.1 = [] ∨ ∃ c y, ctxAt r x.2 = some (c, y) ∧ AtomLeaf y ∧ c.fill y = r ∧
        c.Before fl buf y p s ∧ ∃ e, Re.Matches fl buf y s e ∧ c.After fl buf y e q') := by
  obtain ⟨T, hT⟩ := tr_of_matches hm 0
  obtain ⟨x, hx, s, h1, h2, h3, h4⟩ := atomsOf_cover q m fl buf hw1 hw0 hn r hmk hT
  refine ⟨x, hx, s, h1, h2, h3, ?_⟩
  rcases h4 with h4 | h4
  · exact .inl h4
  · right
    obtain ⟨k, c, y, hk, hc, hy, hrest⟩ := trace_through hT hf h4
    rw [Nat.zero_add] at hk
    exact ⟨c, y, hk ▸ hc, hy, ctxAt_fill hc, hrest⟩

end YaraModel.ReAtoms
