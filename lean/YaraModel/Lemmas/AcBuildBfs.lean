/- Aho-Corasick construction, the queue traversal shared by the three passes: it visits every non-root state exactly once, by depth
   (`OrderOK`); a pass is an induction over that order (`bfs_pass`), its body being told what the order guarantees (`Visit`);
   `bfs_invariant` for what every step keeps, whatever the order -/
import YaraModel.Lemmas.AcBuildTrie
namespace YaraModel.AC.Build

/-- the order in which the queue loop pops the states -/
def order (k : Nat → List Nat) : Nat → List Nat → List Nat
  | 0, _ => []
  | _ + 1, [] => []
  | fuel + 1, c :: q => c :: order k fuel (q ++ k c)

/-- the first `n` levels below (and including) `q`, one after the other: what the queue loop pops (`order_eq_levels`) -/
def levelsFrom (k : Nat → List Nat) : Nat → List Nat → List Nat
  | 0, _ => []
  | n + 1, q => q ++ levelsFrom k n (q.flatMap k)

def iter (k : Nat → List Nat) : Nat → List Nat → List Nat
  | 0, q => q
  | n + 1, q => iter k n (q.flatMap k)

theorem levelsFrom_eq_flatMap (k : Nat → List Nat) : ∀ (n : Nat) (q : List Nat),
    levelsFrom k n q = (List.range n).flatMap fun j => iter k j q
  | 0, _ => rfl
  | n + 1, q => by
    rw [levelsFrom, levelsFrom_eq_flatMap k n, List.range_succ_eq_map, List.flatMap_cons, List.flatMap_map]; rfl

theorem order_append (k : Nat → List Nat) (q : List Nat) : ∀ (fuel : Nat) (r : List Nat), q.length ≤ fuel →
    order k fuel (q ++ r) = q ++ order k (fuel - q.length) (r ++ q.flatMap k) := by
  induction q with
  | nil => intro fuel r _; simp
  | cons a q ih =>
    intro fuel r h
    cases fuel with
    | zero => simp at h
    | succ f =>
      simp only [List.length_cons] at h
      simp only [List.cons_append, order]
      rw [List.append_assoc, ih f (r ++ k a) (by omega)]
      simp

theorem order_nil (k : Nat → List Nat) (fuel : Nat) : order k fuel [] = [] := by
  cases fuel <;> rfl

theorem order_eq_levels (k : Nat → List Nat) : ∀ (n fuel : Nat) (q : List Nat), (levelsFrom k n q).length ≤ fuel →
    iter k n q = [] → order k fuel q = levelsFrom k n q := by
  intro n
  induction n with
  | zero => intro fuel q _ h; subst h; simp [order_nil, levelsFrom]
  | succ n ih =>
    intro fuel q hl hi
    simp only [levelsFrom, List.length_append] at hl
    have := order_append k q fuel [] (by omega)
    simp only [List.append_nil, List.nil_append] at this
    rw [this, levelsFrom, ih (fuel - q.length) (q.flatMap k) (by omega) hi]

theorem mem_levelsFrom (k : Nat → List Nat) {x : Nat} (n : Nat) (q : List Nat) :
    x ∈ levelsFrom k n q ↔ ∃ j, j < n ∧ x ∈ iter k j q := by
  simp [levelsFrom_eq_flatMap]

theorem iter_succ' (k : Nat → List Nat) : ∀ (n : Nat) (q : List Nat), iter k (n + 1) q = (iter k n q).flatMap k := by
  intro n
  induction n with
  | zero => intro q; rfl
  | succ n ih => intro q; rw [iter, ih]; rfl

theorem nodup_length_le (n : Nat) (l : List Nat) (hn : l.Nodup) (hb : ∀ x ∈ l, x < n) : l.length ≤ n :=
  List.length_range (n := n) ▸ hn.length_le_of_subset fun x hx => List.mem_range.mpr (hb x hx)

theorem Trie.depth_root {A : Auto} (hT : Trie A) : (A.st 0).depth = 0 := by
  rw [hT.depth_eq 0 hT.size_pos, hT.root_path]; rfl

theorem Trie.depth_child {A : Auto} (hT : Trie A) {s c : Nat} (hs : s < A.states.size) (hc : c ∈ (A.st s).children) :
    (A.st c).depth = (A.st s).depth + 1 := by
  have h1 := hT.child_lt s hs c hc
  rw [hT.depth_eq c h1.2, hT.depth_eq s hs, hT.child_path s hs c hc]
  simp

theorem Trie.parent_of_depth {A : Auto} (hT : Trie A) {x d : Nat} (hx : x < A.states.size) (hd : (A.st x).depth = d + 1) :
    ∃ p, p < A.states.size ∧ x ∈ kids A p ∧ (A.st p).depth = d := by
  have h0 : 0 < x := by
    rcases Nat.eq_zero_or_pos x with h | h
    · subst h; rw [hT.depth_root] at hd; cases hd
    · exact h
  obtain ⟨p, hp1, hp2⟩ := hT.has_parent x h0 hx
  exact ⟨p, hp1, hp2, by have := hT.depth_child hp1 hp2; omega⟩

theorem Trie.depth_le_id {A : Auto} (hT : Trie A) : ∀ (x : Nat), x < A.states.size → (A.st x).depth ≤ x := by
  intro x
  induction x using Nat.strongRecOn with
  | _ x ih =>
    intro hx
    rcases Nat.eq_zero_or_pos x with h | h
    · subst h; rw [hT.depth_root]; exact Nat.le_refl 0
    · obtain ⟨p, hp1, hp2⟩ := hT.has_parent x h hx
      have hlt := hT.child_lt p hp1 x hp2
      have := ih p hlt.1 hp1
      rw [hT.depth_child hp1 hp2]
      omega

theorem Trie.depth_pos {A : Auto} (hT : Trie A) {x : Nat} (hx : x < A.states.size) (h0 : 0 < x) : 0 < (A.st x).depth := by
  obtain ⟨p, hp1, hp2⟩ := hT.has_parent x h0 hx
  rw [hT.depth_child hp1 hp2]; omega

theorem Trie.depth_zero {A : Auto} (hT : Trie A) {x : Nat} (hx : x < A.states.size) (h0 : (A.st x).depth = 0) : x = 0 := by
  rcases Nat.eq_zero_or_pos x with h | h
  · exact h
  · have := hT.depth_pos hx h; omega

theorem Trie.kids_nodup {A : Auto} (hT : Trie A) {s : Nat} (hs : s < A.states.size) : (kids A s).Nodup := by
  refine (hT.inputs_nodup s hs).imp ?_
  intro a b h e
  exact h (by rw [e])

def AtDepth (A : Auto) (d : Nat) (l : List Nat) : Prop := ∀ x ∈ l, x < A.states.size ∧ (A.st x).depth = d

theorem AtDepth.flatMap {A : Auto} (hT : Trie A) {d : Nat} {l : List Nat} (h : AtDepth A d l) :
    AtDepth A (d + 1) (l.flatMap (kids A)) := by
  intro x hx
  obtain ⟨p, hp, hxp⟩ := List.mem_flatMap.mp hx
  have := h p hp
  exact ⟨(hT.child_lt p this.1 x hxp).2, by rw [hT.depth_child this.1 hxp, this.2]⟩

theorem nodup_flatMap_kids {A : Auto} (hT : Trie A) {d : Nat} {l : List Nat} (h : AtDepth A d l) (hn : l.Nodup) :
    (l.flatMap (kids A)).Nodup := by
  unfold List.Nodup
  rw [List.pairwise_flatMap]
  refine ⟨fun a ha => hT.kids_nodup (h a ha).1, ?_⟩
  refine List.Pairwise.imp_of_mem ?_ hn
  intro a b ha hb hab x hx y hy e
  subst e
  exact hab (hT.parent_unique hx hy)

theorem iter_atDepth {A : Auto} (hT : Trie A) : ∀ (j d : Nat) (q : List Nat), AtDepth A d q → AtDepth A (d + j) (iter (kids A) j q) := by
  intro j
  induction j with
  | zero => intro d q h; exact h
  | succ j ih =>
    intro d q h
    rw [iter, show d + (j + 1) = d + 1 + j by omega]
    exact ih (d + 1) _ (h.flatMap hT)

theorem iter_nodup {A : Auto} (hT : Trie A) : ∀ (j d : Nat) (q : List Nat), AtDepth A d q → q.Nodup → (iter (kids A) j q).Nodup := by
  intro j
  induction j with
  | zero => intro d q _ hn; exact hn
  | succ j ih =>
    intro d q h hn
    rw [iter]
    exact ih (d + 1) _ (h.flatMap hT) (nodup_flatMap_kids hT h hn)

theorem levels_props {A : Auto} (hT : Trie A) (n : Nat) {d : Nat} {q : List Nat} (h : AtDepth A d q) (hn : q.Nodup) :
    (levelsFrom (kids A) n q).Pairwise (fun a b => a ≠ b ∧ (A.st a).depth ≤ (A.st b).depth) := by
  rw [levelsFrom_eq_flatMap, List.pairwise_flatMap]
  refine ⟨fun j _ => ?_, List.pairwise_lt_range.imp fun {i j} hij x hx y hy => ?_⟩
  · have hd := iter_atDepth hT j d q h
    exact (iter_nodup hT j d q h hn).imp_of_mem fun ha hb hne => ⟨hne, by rw [(hd _ ha).2, (hd _ hb).2]; exact Nat.le_refl _⟩
  · have := (iter_atDepth hT i d q h x hx).2
    have := (iter_atDepth hT j d q h y hy).2
    exact ⟨fun e => by subst e; omega, by omega⟩

theorem kids0_atDepth {A : Auto} (hT : Trie A) : AtDepth A 1 (kids A 0) := by
  intro x hx
  have h := hT.child_lt 0 hT.size_pos x hx
  refine ⟨h.2, ?_⟩
  rw [hT.depth_child hT.size_pos hx, hT.depth_root]

theorem mem_iter_of_depth {A : Auto} (hT : Trie A) : ∀ (j x : Nat), x < A.states.size → (A.st x).depth = j + 1 →
    x ∈ iter (kids A) j (kids A 0) := by
  intro j
  induction j with
  | zero =>
    intro x hx hd
    obtain ⟨p, hp1, hp2, hdp⟩ := hT.parent_of_depth hx hd
    have := hT.depth_zero hp1 hdp
    subst this
    exact hp2
  | succ j ih =>
    intro x hx hd
    obtain ⟨p, hp1, hp2, hdp⟩ := hT.parent_of_depth hx hd
    rw [iter_succ']
    exact List.mem_flatMap.mpr ⟨p, ih p hp1 hdp, hp2⟩

/-- a state is at most as deep as its number (`depth_le_id`), and an order that holds every non-root state is at least that long -/
theorem long_of_complete {A : Auto} (hT : Trie A) {ord : List Nat} (hc : ∀ x, 0 < x → x < A.states.size → x ∈ ord)
    (x : Nat) (hx : x < A.states.size) : (A.st x).depth ≤ ord.length := by
  have h1 := hT.depth_le_id x hx
  have h2 : (List.range' 1 (A.states.size - 1)).length ≤ ord.length :=
    List.Nodup.length_le_of_subset List.nodup_range' fun y hy => by
      rw [List.mem_range'_1] at hy; exact hc y (by omega) (by omega)
  rw [List.length_range'] at h2
  omega

/-- `long`: no state is deeper than the order is long (the fuel of the scanner's lookup loop rests on it) -/
structure OrderOK (A : Auto) (ord : List Nat) : Prop where
  nodup : ord.Nodup
  sorted : ord.Pairwise (fun a b => (A.st a).depth ≤ (A.st b).depth)
  range : ∀ x ∈ ord, 0 < x ∧ x < A.states.size
  complete : ∀ x, 0 < x → x < A.states.size → x ∈ ord
  long : ∀ x, x < A.states.size → (A.st x).depth ≤ ord.length

theorem order_ok {A : Auto} (hT : Trie A) : OrderOK A (order (kids A) A.states.size (kids A 0)) := by
  have hk := kids0_atDepth hT
  have hp := levels_props hT A.states.size hk (hT.kids_nodup hT.size_pos)
  have hr : ∀ x ∈ levelsFrom (kids A) A.states.size (kids A 0), 0 < x ∧ x < A.states.size := by
    intro x hx
    obtain ⟨j, _, hj⟩ := (mem_levelsFrom _ _ _).mp hx
    have := iter_atDepth hT j 1 _ hk x hj
    exact ⟨Nat.pos_of_ne_zero fun e => by have := hT.depth_root; subst e; omega, this.1⟩
  have hempty : iter (kids A) A.states.size (kids A 0) = [] := by
    apply List.eq_nil_iff_forall_not_mem.mpr
    intro x hx
    have := iter_atDepth hT A.states.size 1 _ hk x hx
    have := hT.depth_le_id x this.1
    omega
  rw [order_eq_levels (kids A) A.states.size A.states.size _
    (nodup_length_le _ _ (hp.imp And.left) fun x hx => (hr x hx).2) hempty]
  have hmem : ∀ x, 0 < x → x < A.states.size → x ∈ levelsFrom (kids A) A.states.size (kids A 0) := by
    intro x h0 hx
    have hd := hT.depth_pos hx h0
    rw [mem_levelsFrom]
    refine ⟨(A.st x).depth - 1, ?_, mem_iter_of_depth hT _ x hx (by omega)⟩
    have := hT.depth_le_id x hx
    omega
  exact ⟨hp.imp And.left, hp.imp And.right, hr, hmem, long_of_complete hT hmem⟩

/-- the parent of `x` is the root or one of the states `pre` popped so far. In the link pass these are the states linked to their failure
    state's list (`lk` of `MS`), in the packing pass the states whose entry stands in a placed row -/
def lkOf (A : Auto) (pre : List Nat) (x : Nat) : Prop := ∃ p ∈ 0 :: pre, x ∈ kids A p

theorem lkOf_nil (A : Auto) (x : Nat) : lkOf A [] x ↔ x ∈ kids A 0 := by
  simp only [lkOf, List.mem_singleton, exists_eq_left]

theorem lkOf_append (A : Auto) (pre : List Nat) (cur x : Nat) : lkOf A pre x ∨ x ∈ kids A cur ↔ lkOf A (pre ++ [cur]) x := by
  unfold lkOf
  simp only [← List.cons_append, List.mem_append, List.mem_singleton, or_and_right, exists_or, exists_eq_left]

/-- every non-root state of depth `< d` satisfies `p` -/
def Below (A : Auto) (p : Nat → Prop) (d : Nat) : Prop := ∀ g, 0 < g → g < A.states.size → (A.st g).depth < d → p g

theorem before_of_depth_lt {A : Auto} {ord pre post : List Nat} {cur : Nat} (ho : OrderOK A ord) (hl : ord = pre ++ cur :: post) :
    Below A (· ∈ pre) (A.st cur).depth := by
  intro g h0 hg hd
  have hgo : g ∈ ord := ho.complete g h0 hg
  rw [hl] at hgo
  rcases List.mem_append.mp hgo with h | h
  · exact h
  · exfalso
    rcases List.mem_cons.mp h with h | h
    · subst h; omega
    · have hs := ho.sorted
      rw [hl, List.pairwise_append] at hs
      have := (List.pairwise_cons.mp hs.2.1).1 g h
      omega

theorem parent_before {A : Auto} (hT : Trie A) {ord pre post : List Nat} {cur : Nat} (ho : OrderOK A ord) (hl : ord = pre ++ cur :: post) :
    Below A (lkOf A pre) ((A.st cur).depth + 1) := by
  intro g h0 hg hd
  obtain ⟨p, hp1, hp2⟩ := hT.has_parent g h0 hg
  have hdp := hT.depth_child hp1 hp2
  exact ⟨p, List.mem_cons.mpr ((Nat.eq_zero_or_pos p).imp id fun hp0 => before_of_depth_lt ho hl p hp0 hp1 (by omega)), hp2⟩

/-- what the traversal order guarantees at the moment `cur` is popped, `pre` being the states popped before it -/
structure Visit (A : Auto) (pre : List Nat) (cur : Nat) : Prop where
  range : 0 < cur ∧ cur < A.states.size
  fresh : cur ∉ pre
  pre_depth : ∀ p ∈ pre, (A.st p).depth ≤ (A.st cur).depth
  before : Below A (· ∈ pre) (A.st cur).depth
  parent : Below A (lkOf A pre) ((A.st cur).depth + 1)

theorem OrderOK.visit {A : Auto} (hT : Trie A) {ord pre post : List Nat} {cur : Nat} (ho : OrderOK A ord)
    (hl : ord = pre ++ cur :: post) : Visit A pre cur := by
  have hnd := ho.nodup
  have hs := ho.sorted
  rw [hl, List.nodup_append] at hnd
  rw [hl, List.pairwise_append] at hs
  exact ⟨ho.range cur (by rw [hl]; simp), fun hh => hnd.2.2 cur hh cur List.mem_cons_self rfl,
    fun p hp => hs.2.2 p hp cur List.mem_cons_self,
    before_of_depth_lt ho hl, parent_before hT ho hl⟩

theorem Visit.linked {A : Auto} {pre : List Nat} {cur : Nat} (v : Visit A pre cur) : lkOf A pre cur :=
  v.parent cur v.range.1 v.range.2 (Nat.lt_succ_self _)

theorem Visit.kid_fresh {A : Auto} (hT : Trie A) {pre : List Nat} {cur : Nat} (v : Visit A pre cur) {y : Nat}
    (hy : y ∈ (A.st cur).children) : y ∉ pre := by
  intro hyp
  have := v.pre_depth y hyp
  rw [hT.depth_child v.range.2 hy] at this
  omega

theorem Visit.kid_not_linked {A : Auto} (hT : Trie A) {pre : List Nat} {cur : Nat} (v : Visit A pre cur) {y : Nat}
    (hy : y ∈ kids A cur) : ¬ lkOf A pre y := by
  rintro ⟨p, hp, hh⟩
  have := hT.parent_unique hh hy
  subst this
  exact (List.mem_cons.mp hp).elim (Nat.ne_of_gt v.range.1) v.fresh

theorem OrderOK.lkOf_iff {A : Auto} (hT : Trie A) {ord : List Nat} (ho : OrderOK A ord) (x : Nat) :
    lkOf A ord x ↔ 0 < x ∧ x < A.states.size := by
  constructor
  · rintro ⟨p, -, h⟩
    have := hT.child_lt p (mem_children_lt h) x h; omega
  · intro hx
    obtain ⟨p, hp1, hp2⟩ := hT.has_parent x hx.1 hx.2
    exact ⟨p, List.mem_cons.mpr ((Nat.eq_zero_or_pos p).imp id fun hp0 => ho.complete p hp0 hp1), hp2⟩

theorem bfs_invariant {σ : Type} (children : σ → Nat → List Nat) (body : σ → Nat → σ) (I : σ → Prop)
    (hb : ∀ x s, I x → I (body x s)) (fuel : Nat) (q : List Nat) (x : σ) : I x → I (bfs children body fuel q x) := by
  fun_induction bfs children body fuel q x with
  | case1 => exact id
  | case2 => exact id
  | case3 fuel cur q x x1 ih => exact fun h => ih (hb x cur h)

/-- the loop `bfs` started with the children of the root is an induction over the traversal order. `J pre x`: the invariant after
    the states `pre` have been popped; it must say that the body has not changed the children lists (`hch`). -/
theorem bfs_pass {σ : Type} {A : Auto} (hT : Trie A) (ch : σ → Nat → List Nat) (body : σ → Nat → σ) (J : List Nat → σ → Prop)
    (hch : ∀ pre x, J pre x → ch x = kids A) (x0 : σ) (h0 : J [] x0)
    (hstep : ∀ pre cur x, Visit A pre cur → J pre x → J (pre ++ [cur]) (body x cur)) :
    ∃ ord, OrderOK A ord ∧ J ord (bfs ch body A.states.size (kids A 0) x0) := by
  have ho := order_ok hT
  generalize hord : order (kids A) A.states.size (kids A 0) = ord at ho
  refine ⟨ord, ho, ?_⟩
  -- `pre` popped, the rest of the order still to come
  have key : ∀ (fuel : Nat) (q pre : List Nat) (x : σ), J pre x → pre ++ order (kids A) fuel q = ord →
      J ord (bfs ch body fuel q x) := by
    intro fuel
    induction fuel with
    | zero => intro q pre x hJ he; simpa [order, bfs, ← he] using hJ
    | succ f ih =>
      intro q pre x hJ he
      cases q with
      | nil => simpa [order, bfs, ← he] using hJ
      | cons c q =>
        have h1 := hstep pre c x (ho.visit hT he.symm) hJ
        simp only [bfs]
        rw [hch _ _ h1]
        exact ih (q ++ kids A c) (pre ++ [c]) (body x c) h1 (by rw [← he]; simp [order])
  exact key _ _ [] x0 h0 hord

end YaraModel.AC.Build
