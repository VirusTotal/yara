/- C15 — invariants and exact results of the limit models of Model/Limits.lean, for every sound guard implementation `G`.
   The models are independent of each other, and so are the parts of this file, which follow the order of the model (counters of §3 and §5
   together; §7b, §10–12 are settled in Thm/C15). -/
import YaraModel.Model.Limits

/-! The operator of a translated guard is a variable, so an equivalent rewrite of a guard in the source still proves while a
  weakened one (`>` for `==`, `<=` for `<`) does not. -/

namespace YaraModel.Gen.Limits

theorem Cmp.eval_atLimit {op : Cmp} (hop : op = .eq ∨ op = .ge) {n M : Nat} (h : n ≤ M) :
    op.eval n M = true ↔ n = M := by
  rcases hop with rfl | rfl
  · exact beq_iff_eq
  · exact decide_eq_true_iff.trans ⟨Nat.le_antisymm h, fun e => e ▸ Nat.le_refl _⟩

theorem Cmp.eval_below {op : Cmp} (hop : op = .lt ∨ op = .ne) {n M : Nat} (h : n ≤ M) :
    op.eval n M = true ↔ n < M := by
  rcases hop with rfl | rfl
  · exact decide_eq_true_iff
  · exact bne_iff_ne.trans ⟨Nat.lt_of_le_of_ne h, Nat.ne_of_lt⟩

theorem Cmp.eval_over {op : Cmp} (hop : op = .gt) {n M : Nat} : op.eval n M = true ↔ n > M :=
  hop ▸ decide_eq_true_iff

end YaraModel.Gen.Limits

namespace YaraModel.Limits

theorem insertDesc_length (m : Match) (rep : Bool) (l : List Match) :
    (insertDesc m rep l).1.length = l.length + (if (insertDesc m rep l).2 then 1 else 0) := by
  -- cases: 1 empty list, 2 same offset, 3 in front, 4 further down (`r`: the recursive result)
  fun_induction insertDesc m rep l with
  | case1 | case2 | case3 => rfl
  | case4 _ _ _ _ _ ih => exact (congrArg (· + 1) ih).trans (Nat.add_right_comm ..)

/-- strictly descending offsets (tail first) -/
def Desc : List Match → Prop
  | [] => True
  | [_] => True
  | a :: b :: t => a.off > b.off ∧ Desc (b :: t)

theorem Desc_cons_iff {a : Match} {t : List Match} :
    Desc (a :: t) ↔ (∀ x ∈ t.head?, x.off < a.off) ∧ Desc t := by
  cases t with
  | nil => exact ⟨fun _ => ⟨nofun, trivial⟩, fun _ => trivial⟩
  | cons b t => exact ⟨fun h => ⟨fun x hx => Option.some.inj hx ▸ h.1, h.2⟩, fun h => ⟨h.1 b rfl, h.2⟩⟩

theorem insertDesc_desc_cons (m : Match) (rep : Bool) (l : List Match) (a : Match) (hm : m.off < a.off)
    (h : Desc (a :: l)) : Desc (a :: (insertDesc m rep l).1) := by
  fun_induction insertDesc m rep l generalizing a with
  | case1 => exact ⟨hm, trivial⟩
  | case2 =>
    -- same offset: only the length of y may change
    have hy := Desc_cons_iff.1 h.2
    exact ⟨by split <;> exact h.1, Desc_cons_iff.2 ⟨fun x hx => by split <;> exact hy.1 x hx, hy.2⟩⟩
  | case3 _ _ _ hgt => exact ⟨hm, hgt, h.2⟩
  | case4 y _ _ _ _ ih => exact ⟨h.1, ih y (by omega) h.2⟩

theorem insertDesc_desc (m : Match) (rep : Bool) (l : List Match) (h : Desc l) : Desc (insertDesc m rep l).1 := by
  fun_cases insertDesc m rep l with
  | case1 => trivial
  | case2 => exact Desc_cons_iff.2 ⟨fun x hx => by split <;> exact (Desc_cons_iff.1 h).1 x hx, (Desc_cons_iff.1 h).2⟩
  | case3 _ _ _ hgt => exact ⟨hgt, h⟩
  | case4 y ys => exact insertDesc_desc_cons m rep ys y (by omega) h

theorem insertDesc_offsets (m : Match) (rep : Bool) (l : List Match) (o : Nat) :
    o ∈ (insertDesc m rep l).1.map (·.off) ↔ o = m.off ∨ o ∈ l.map (·.off) := by
  fun_induction insertDesc m rep l with
  | case1 => exact List.mem_singleton.trans (or_iff_left List.not_mem_nil).symm
  | case2 y _ heq =>
    -- same offset: the node stays (only its length may change), and `m.off` is already there
    have hoff : (if rep = true then { y with len := m.len } else y).off = y.off := by split <;> rfl
    simp only [List.map_cons, List.mem_cons, hoff, heq]
    rw [← or_assoc, or_self]
  | case3 => exact List.mem_cons
  | case4 _ _ _ _ r ih =>
    simp only [List.map_cons, List.mem_cons, r, ih]
    exact or_left_comm

section Scan

structure SInv (MAX : Nat) (s : SState) : Prop where
  bounded : ∀ j, (s.lists j).count ≤ MAX
  warnedMuted : ∀ j, j ∈ s.warned → s.disabled j = true
  nodup : s.warned.Nodup

theorem SInv_init (MAX : Nat) : SInv MAX SState.init :=
  ⟨fun _ => Nat.zero_le _, nofun, List.nodup_nil⟩

/-- What is left of the invariant when the scan is aborted. -/
def SWeak (MAX : Nat) (s : SState) : Prop := (∀ j, (s.lists j).count ≤ MAX) ∧ s.warned.Nodup

theorem SInv.weak {MAX : Nat} {s : SState} (h : SInv MAX s) : SWeak MAX s :=
  ⟨h.bounded, h.nodup⟩

/-- `P` after a run that did not abort, `Q` after any run -/
def Ends (P Q : SState → Prop) (r : SState × Option Err) : Prop := (r.2 = none → P r.1) ∧ Q r.1

theorem scanEvents_cons {G : Guards} (MAX : Nat) (cont : Nat → Bool) (s : SState) (e : Ev) (es : List Ev) :
    scanEvents G MAX cont s (e :: es) =
      if (verifyStep G MAX cont s e).2 = none then scanEvents G MAX cont (verifyStep G MAX cont s e).1 es
      else verifyStep G MAX cont s e := by
  rw [scanEvents]
  cases verifyStep G MAX cont s e with
  | mk s' r => cases r <;> rfl

theorem scanEvents_ind {G : Guards} {P Q : SState → Prop} (MAX : Nat) (cont : Nat → Bool) (hPQ : ∀ s, P s → Q s)
    (hstep : ∀ s e, P s → Ends P Q (verifyStep G MAX cont s e))
    (evs : List Ev) (s : SState) (h : P s) : Ends P Q (scanEvents G MAX cont s evs) := by
  induction evs generalizing s with
  | nil => exact ⟨fun _ => h, hPQ s h⟩
  | cons e es ih =>
    rw [scanEvents_cons]
    split
    · exact ih _ ((hstep s e h).1 ‹_›)
    · exact ⟨fun hn => absurd hn ‹_›, (hstep s e h).2⟩

variable {G : Guards}

def SameOn (j : Nat) (s t : SState) : Prop := s.lists j = t.lists j ∧ s.disabled j = t.disabled j

theorem verifyStep_other (MAX : Nat) (cont : Nat → Bool) (s : SState) (e : Ev) (j : Nat) (hne : e.sid ≠ j) :
    SameOn j (verifyStep G MAX cont s e).1 s := by
  have hu {α} (f : Nat → α) (v : α) : upd f e.sid v j = f j := if_neg (Ne.symm hne)
  -- muted / added to the list of `e.sid` / warned and muted / warned and aborted
  fun_cases verifyStep G MAX cont s e
  · exact ⟨rfl, rfl⟩
  · exact ⟨hu .., rfl⟩
  · exact ⟨rfl, hu ..⟩
  · exact ⟨rfl, rfl⟩

theorem verifyStep_same (MAX : Nat) (cont : Nat → Bool) (s t : SState) (e : Ev) (h : SameOn e.sid s t) :
    SameOn e.sid (verifyStep G MAX cont s e).1 (verifyStep G MAX cont t e).1 ∧
    (verifyStep G MAX cont s e).2 = (verifyStep G MAX cont t e).2 := by
  obtain ⟨hl, hd⟩ := h
  unfold verifyStep
  rw [← hd, ← hl]
  split
  · exact ⟨⟨hl, hd⟩, rfl⟩
  · split
    · exact ⟨⟨by simp [upd], hd⟩, rfl⟩
    · simp only
      split
      · exact ⟨⟨hl, by simp [upd]⟩, rfl⟩
      · exact ⟨⟨hl, hd⟩, rfl⟩

theorem scanEvents_frame (MAX : Nat) (cont : Nat → Bool) (evs : List Ev) (j : Nat) (s t : SState) (h : SameOn j s t)
    (hok : (scanEvents G MAX cont s evs).2 = none) :
    SameOn j (scanEvents G MAX cont s evs).1 (scanEvents G MAX cont t (evs.filter (·.sid = j))).1 ∧
    (scanEvents G MAX cont t (evs.filter (·.sid = j))).2 = none := by
  induction evs generalizing s t with
  | nil => exact ⟨h, rfl⟩
  | cons e es ih =>
    rw [scanEvents_cons] at hok ⊢
    split at hok
    case isFalse hne => exact absurd hok hne
    rename_i hstep
    rw [if_pos hstep]
    by_cases hj : e.sid = j
    · -- a candidate of `j`: both scans take the same step on `j`
      subst hj
      obtain ⟨h1, h3⟩ := verifyStep_same (G := G) MAX cont s t e h
      rw [List.filter_cons_of_pos (by simp), scanEvents_cons, if_pos (h3 ▸ hstep)]
      exact ih _ _ h1 hok
    · -- a candidate of another string leaves `j` alone and is not seen by the solo scan
      obtain ⟨h1, h2⟩ := verifyStep_other (G := G) MAX cont s e j hj
      rw [List.filter_cons_of_neg (by simpa using hj)]
      exact ih _ t ⟨h1.trans h.1, h2.trans h.2⟩ hok

variable (hG : G.Sound)
include hG

theorem addMatch_count_le (MAX : Nat) (m : Match) (rep : Bool) (l : MList) (h : l.count ≤ MAX) :
    (addMatch G MAX m rep l).1.count ≤ MAX := by
  unfold addMatch
  split
  · exact h
  · rename_i hc
    have : l.count ≠ MAX := fun e => hc ((hG.cap _ _ h).2 e)
    simp only
    split <;> omega

/-- A step that aborts the scan (callback did not answer CONTINUE) has warned without muting, but counts stay bounded and no
    string is warned twice. -/
theorem verifyStep_spec (MAX : Nat) (cont : Nat → Bool) (s : SState) (e : Ev) (h : SInv MAX s) :
    Ends (SInv MAX) (SWeak MAX) (verifyStep G MAX cont s e) := by
  have keep : ∀ t, SInv MAX t → Ends (SInv MAX) (SWeak MAX) (t, none) := fun t h => ⟨fun _ => h, h.weak⟩
  -- the string is warned for the first time: it was not muted, and every warned string is
  have hnd (hdis : ¬ s.disabled e.sid = true) : (e.sid :: s.warned).Nodup :=
    List.nodup_cons.2 ⟨fun hmem => hdis (h.warnedMuted _ hmem), h.nodup⟩
  fun_cases verifyStep G MAX cont s e
  · exact keep _ h
  · rename_i l' heq
    have hle := addMatch_count_le hG MAX e.m false (s.lists e.sid) (h.bounded _)
    rw [heq] at hle
    refine keep _ ⟨fun j => ?_, h.warnedMuted, h.nodup⟩
    show (if j = e.sid then l' else s.lists j).count ≤ MAX
    split
    · exact hle
    · exact h.bounded j
  · refine keep _ ⟨h.bounded, fun j hj => ?_, hnd ‹_›⟩
    show (if j = e.sid then true else s.disabled j) = true
    split
    · rfl
    · exact h.warnedMuted j ((List.mem_cons.1 hj).resolve_left ‹_›)
  · exact ⟨nofun, h.bounded, hnd ‹_›⟩

theorem scanEvents_inv (MAX : Nat) (cont : Nat → Bool) (evs : List Ev) (s : SState) (h : SInv MAX s)
    (hok : (scanEvents G MAX cont s evs).2 = none) : SInv MAX (scanEvents G MAX cont s evs).1 :=
  (scanEvents_ind MAX cont (fun _ => SInv.weak) (verifyStep_spec hG MAX cont) evs s h).1 hok

theorem scanEvents_weak (MAX : Nat) (cont : Nat → Bool) (evs : List Ev) (s : SState) (h : SInv MAX s) :
    SWeak MAX (scanEvents G MAX cont s evs).1 :=
  (scanEvents_ind MAX cont (fun _ => SInv.weak) (verifyStep_spec hG MAX cont) evs s h).2

end Scan

section Counters

theorem loopPeak_enters_exits (k m d : Nat) :
    loopPeak d (List.replicate k .enter ++ List.replicate m .exit) = d + k := by
  induction k generalizing d with
  | zero =>
    show loopPeak d (List.replicate m .exit) = d
    induction m generalizing d with
    | zero => rfl
    | succ m ih => rw [List.replicate_succ, loopPeak, ih]; omega
  | succ k ih => rw [List.replicate_succ, List.cons_append, loopPeak, ih]; omega

variable {G : Guards} (hG : G.Sound)
include hG

theorem vmRun_spec (cap : Nat) (ops : List StkOp) (sp : Nat) (h : sp ≤ cap) :
    (vmRun G cap sp ops = none ↔ peak sp ops > cap) ∧ ∀ sp', vmRun G cap sp ops = some sp' → sp' ≤ cap := by
  -- the four paths of `vmRun`: no operation left / push with room / push at the limit / pop
  fun_induction vmRun G cap sp ops <;> rw [peak]
  case case1 => exact ⟨⟨nofun, fun hp => absurd h (Nat.not_le_of_gt hp)⟩, fun sp' e => Option.some.inj e ▸ h⟩
  case case2 hok ih =>
    have hlt := (hG.push _ cap h).1 hok
    exact ⟨(ih hlt).1.trans (by omega), (ih hlt).2⟩
  case case3 hfull =>
    have := mt (hG.push _ cap h).2 hfull
    exact ⟨⟨fun _ => by omega, fun _ => rfl⟩, nofun⟩
  case case4 ih => exact ⟨(ih (by omega)).1.trans (by omega), (ih (by omega)).2⟩

/- The same machine as `vmRun` (enter / exit for push / pop, the guard written `d = MAX` instead of `sp < cap`); no property asks
   where an accepted run ends, so only the `none` half of `vmRun_spec` is stated. -/
theorem loopRun_none_iff (MAX : Nat) (evs : List LoopEv) (d : Nat) (h : d ≤ MAX) :
    loopRun G MAX d evs = none ↔ loopPeak d evs > MAX := by
  -- cases: no event left / enter at the limit / enter with room / exit
  fun_induction loopRun G MAX d evs <;> rw [loopPeak]
  case case1 => exact ⟨nofun, fun hp => absurd h (Nat.not_le_of_gt hp)⟩
  case case2 hfull => exact ⟨fun _ => by have := (hG.loop _ MAX h).1 hfull; omega, fun _ => rfl⟩
  case case3 hfree ih =>
    have hlt := Nat.lt_of_le_of_ne h (mt (hG.loop _ MAX h).2 hfree)
    exact (ih hlt).trans (by omega)
  case case4 ih => exact (ih (by omega)).trans (by omega)

theorem countStrings_none_iff (M k cnt : Nat) (h : cnt ≤ M) : countStrings G M cnt k = none ↔ cnt + k > M := by
  -- cases: no string left / over the limit / fits
  fun_induction countStrings G M cnt k
  case case1 => exact ⟨nofun, fun hp => absurd h (Nat.not_le_of_gt hp)⟩
  case case2 hover => exact ⟨fun _ => by have := (hG.strings _ M).1 hover; omega, fun _ => rfl⟩
  case case3 hfits ih => exact (ih (by have := mt (hG.strings _ M).2 hfits; omega)).trans (by omega)

end Counters

section Include
variable {G : Guards} (hG : G.Sound)
include hG

theorem pushFile_fresh (MAX : Nat) (stack : List String) (n : String) (hlen : stack.length ≤ MAX) (hn : n ∉ stack) :
    pushFile G MAX stack n = if stack.length = MAX then .error .includeDepth else .ok (n :: stack) := by
  have : stack.contains n = false := by simpa using hn
  simp only [pushFile, this, Bool.false_eq_true, if_false, hG.incl _ _ hlen]

theorem pushChain_fresh (MAX : Nat) (names stack : List String) (hlen : stack.length ≤ MAX)
    (hnd : names.Nodup) (hdisj : ∀ n ∈ names, ¬ n ∈ stack) :
    pushChain G MAX stack names =
      if stack.length + names.length ≤ MAX then .ok (names.reverse ++ stack) else .error .includeDepth := by
  induction names generalizing stack with
  | nil => exact (if_pos (show stack.length + 0 ≤ MAX from hlen)).symm
  | cons n ns ih =>
    obtain ⟨hn, hnd⟩ := List.nodup_cons.1 hnd
    rw [pushChain, pushFile_fresh hG MAX stack n hlen (hdisj n List.mem_cons_self), List.length_cons]
    by_cases hfull : stack.length = MAX
    · rw [if_pos hfull, if_neg (by omega)]
    · have hdisj' : ∀ x ∈ ns, ¬ x ∈ n :: stack := fun x hx hmem =>
        (List.mem_cons.1 hmem).elim (fun e => hn (e ▸ hx)) (hdisj x (List.mem_cons_of_mem _ hx))
      rw [if_neg hfull]
      show pushChain G MAX (n :: stack) ns = _
      rw [ih (n :: stack) (Nat.lt_of_le_of_ne hlen hfull) hnd hdisj', List.length_cons, List.reverse_cons,
        List.append_assoc, List.singleton_append, Nat.add_right_comm, Nat.add_assoc]

theorem pushFile_ok {MAX : Nat} {stack st : List String} {n : String} (hlen : stack.length ≤ MAX)
    (h : pushFile G MAX stack n = .ok st) : st = n :: stack ∧ stack.length < MAX := by
  revert h
  -- cases of `pushFile`: circular / stack full / pushed
  fun_cases pushFile G MAX stack n
  · nofun
  · nofun
  · exact fun h => ⟨(Except.ok.inj h).symm, Nat.lt_of_le_of_ne hlen (mt (hG.incl _ _ hlen).2 ‹_›)⟩

theorem pushChain_len_le (MAX : Nat) (names stack st : List String) (hlen : stack.length ≤ MAX)
    (h : pushChain G MAX stack names = .ok st) : st.length ≤ MAX := by
  -- cases: no name left / pushed / push failed
  fun_induction pushChain G MAX stack names with
  | case1 => cases h; exact hlen
  | case2 _ _ _ _ heq ih =>
    obtain ⟨rfl, hlt⟩ := pushFile_ok hG hlen heq
    exact ih hlt h
  | case3 => cases h

end Include

/-- The common shape of the `.kb` and `.mb` branches of `intLiteral`, which read different fields of `Guards` (so `over` and
    `k` are variables here). -/
theorem scaledLiteral_ok_iff {over : Bool} {n k v : Nat} (hk : 0 < k) (ho : over = true ↔ n * k > int64Max) :
    (if n > int64Max then .error .intOverflow else if over = true then .error .intOverflow else .ok (n * k) : Except Err Nat) = .ok v ↔
      n * k ≤ int64Max ∧ v = n * k := by
  have hnk : n ≤ n * k := Nat.le_mul_of_pos_right n hk
  by_cases h : n * k ≤ int64Max
  · rw [if_neg (by omega), if_neg (by rw [ho]; omega)]
    exact ⟨fun e => ⟨h, (Except.ok.inj e).symm⟩, fun e => e.2 ▸ rfl⟩
  · refine ⟨fun e => ?_, fun e => absurd e.1 h⟩
    split at e
    · cases e
    · rw [if_pos (ho.2 (by omega))] at e
      cases e

section Emit

theorem wrap16_eq_self_iff (x : Int) : wrap16 x = x ↔ -32768 ≤ x ∧ x ≤ 32767 := by
  unfold wrap16
  simp only
  split <;> omega

theorem storedOffset_eq_iff (i d : Nat) :
    storedOffset i d = (if sizeBackward i then -(d : Int) else (d : Int)) ↔ d ≤ sizeBound i := by
  unfold storedOffset sizeBound
  rw [wrap16_eq_self_iff]
  split <;> omega

/-- What a (sub)emission that needs `n` split ids may do from context `c`. -/
def EmitSpec (MAX n : Nat) (c : Emit) : Except Err Emit → Prop
  | .ok c' => c'.split = c.split + n ∧ c'.split ≤ MAX
  | .error e => e = .reTooLarge ∨ (e = .reTooComplex ∧ c.split + n > MAX)

theorem EmitSpec.pure {MAX : Nat} {c c' : Emit} (hc : c.split ≤ MAX) (h : c'.split = c.split) :
    EmitSpec MAX 0 c (.ok c') :=
  ⟨h, h ▸ hc⟩

theorem EmitSpec.bind {MAX n n1 n2 : Nat} {c : Emit} {ra : Except Err Emit} {f : Emit → Except Err Emit}
    (hn : n = n1 + n2) (h1 : EmitSpec MAX n1 c ra)
    (h2 : ∀ c1, c1.split ≤ MAX → c1.split = c.split + n1 → EmitSpec MAX n2 c1 (f c1)) :
    EmitSpec MAX n c (ra >>= f) := by
  subst hn
  cases ra with
  | error e => exact Or.imp id (fun h => ⟨h.1, by omega⟩) h1
  | ok c1 =>
    obtain ⟨hs, hle⟩ := h1
    have h := h2 c1 hle hs
    show EmitSpec MAX (n1 + n2) c (f c1)
    cases hf : f c1 with
    | ok c2 => rw [hf] at h; exact ⟨by have := h.1; omega, h.2⟩
    | error e => rw [hf] at h; exact Or.imp id (fun h => ⟨h.1, by omega⟩) h

theorem EmitSpec.guard {MAX n : Nat} {c : Emit} {p : Prop} [Decidable p] {x : Except Err Emit}
    (h : EmitSpec MAX n c x) : EmitSpec MAX n c (if p then .error .reTooLarge else x) := by
  split
  · exact .inl rfl
  · exact h

theorem EmitSpec.whenE {MAX n : Nat} {c : Emit} {p : Prop} [Decidable p] {f : Emit → Except Err Emit}
    (hc : c.split ≤ MAX) (hx : p → EmitSpec MAX n c (f c)) :
    EmitSpec MAX (if p then n else 0) c (whenE p f c) := by
  unfold YaraModel.Limits.whenE
  split
  · rename_i hp; exact hx hp
  · exact .pure hc rfl

variable {G : Guards} (hG : G.Sound)
include hG

theorem EmitSpec.split {MAX : Nat} {c : Emit} (hc : c.split ≤ MAX) : EmitSpec MAX 1 c (emitSplit G MAX c) := by
  unfold emitSplit
  by_cases hf : c.split = MAX
  · rw [if_pos ((hG.split _ _ hc).2 hf)]
    exact .inr ⟨rfl, by omega⟩
  · rw [if_neg (fun hp => hf ((hG.split _ _ hc).1 hp))]
    exact ⟨rfl, by show c.split + 1 ≤ MAX; omega⟩

theorem emitSplit_full (MAX : Nat) (c : Emit) (hc : c.split = MAX) : emitSplit G MAX c = .error .reTooComplex := by
  unfold emitSplit
  rw [if_pos ((hG.split _ _ (by omega)).2 hc)]

theorem emit_spec (MAX : Nat) (r : Re) (c : Emit) (hc : c.split ≤ MAX) : EmitSpec MAX (splits r) c (emit G MAX r c) := by
  induction r generalizing c with
  | lit => exact .pure hc rfl
  | any => exact .pure hc rfl
  | cls => exact .pure hc rfl
  | cat a b iha ihb =>
    exact .bind rfl (iha c hc) fun c1 h1 _ => ihb c1 h1
  | plus a iha =>
    exact .bind rfl (iha c hc) fun c1 h1 _ => .guard (.split hG h1)
  | star a iha =>
    exact .bind rfl (.split hG hc) fun c1 h1 _ => .bind (n2 := 0) rfl (iha c1 h1) fun c2 h2 _ =>
      .guard (.guard (.pure h2 rfl))
  | alt a b iha ihb =>
    exact .bind (Nat.add_assoc ..) (.split hG hc) fun c1 h1 _ => .bind rfl (iha c1 h1) fun c2 h2 _ =>
      .guard (.bind (n2 := 0) rfl (ihb { c2 with size := c2.size + 3 } h2) fun c4 h4 _ => .guard (.pure h4 rfl))
  | range lo hi a iha =>
    -- prolog, repeat section, split, epilog: each present under its own condition
    exact .bind (by rw [splits]; omega) (.whenE hc fun _ => iha c hc) fun c1 h1 _ =>
      .bind rfl (.whenE (n := splits a) h1 fun _ => .bind (n2 := 0) rfl (iha _ h1) fun c22 h22 _ => .pure h22 rfl) fun c2 h2 _ =>
      .bind rfl (.whenE h2 fun _ => .split hG h2) fun c3 h3 _ =>
      .bind (n2 := 0) rfl (.whenE h3 fun _ => iha c3 h3) fun c4 h4 _ => .guard (.pure h4 rfl)
end Emit

section Fibers

/-- Invariant of the fiber pool (re.c `RE_FIBER_POOL`): `fiber_count` never exceeds the limit, and every allocated fiber is
    either on the free list or handed out. -/
structure PoolInv (MAX : Nat) (p : Pool) : Prop where
  bound : p.allocated ≤ MAX
  conserve : p.allocated = p.free + p.live

theorem PoolInv.releaseAll {MAX : Nat} {p : Pool} (h : PoolInv MAX p) : PoolInv MAX (releaseAll p) :=
  ⟨h.bound, h.conserve⟩

variable {G : Guards} (hG : G.Sound)
include hG

theorem fibStep_create_ok (MAX : Nat) (p : Pool) (h : PoolInv MAX p) (hl : p.live < MAX) :
    ∃ p', fibStep G MAX p .create = (p', none) ∧ PoolInv MAX p' ∧ p'.live = p.live + 1 := by
  have hb := h.bound; have hc := h.conserve
  by_cases hfree : p.free > 0
  · exact ⟨⟨p.allocated, p.free - 1, p.live + 1⟩, if_pos hfree,
      ⟨hb, by show p.allocated = p.free - 1 + (p.live + 1); omega⟩, rfl⟩
  · have hfull : ¬ G.fiberFull p.allocated MAX = true := fun hf => by have := (hG.fiber _ _ hb).1 hf; omega
    exact ⟨⟨p.allocated + 1, p.free, p.live + 1⟩, (if_neg hfree).trans (if_neg hfull),
      ⟨by show p.allocated + 1 ≤ MAX; omega, by show p.allocated + 1 = p.free + (p.live + 1); omega⟩, rfl⟩

theorem fibStep_create_full (MAX : Nat) (p : Pool) (h : PoolInv MAX p) (hl : p.live = MAX) :
    fibStep G MAX p .create = (p, some .tooManyFibers) := by
  have hb := h.bound; have hc := h.conserve
  exact (if_neg (by omega)).trans (if_pos ((hG.fiber _ _ hb).2 (by omega)))

theorem fibStep_inv (MAX : Nat) (p : Pool) (o : FibOp) (h : PoolInv MAX p) : PoolInv MAX (fibStep G MAX p o).1 := by
  have hb := h.bound; have hc := h.conserve
  cases o with
  | create =>
    by_cases hl : p.live < MAX
    · obtain ⟨p', hv, h', _⟩ := fibStep_create_ok hG MAX p h hl
      rw [hv]; exact h'
    · rw [fibStep_create_full hG MAX p h (by omega)]; exact h
  | release =>
    show PoolInv MAX (if p.live > 0 then (⟨p.allocated, p.free + 1, p.live - 1⟩, none) else (p, none)).1
    split
    · exact ⟨hb, by show p.allocated = p.free + 1 + (p.live - 1); omega⟩
    · exact h

theorem fibRun_inv (MAX : Nat) (ops : List FibOp) (p : Pool) (h : PoolInv MAX p) : PoolInv MAX (fibRun G MAX p ops).1 := by
  induction ops generalizing p with
  | nil => exact h
  | cons o os ih => exact ih _ (fibStep_inv hG MAX p o h)

theorem reExec_spec (MAX need : Nat) (p : Pool) (hp : PoolInv MAX p) :
    PoolInv MAX (reExec G MAX need p).1 ∧ (reExec G MAX need p).1.live = 0 ∧
      (reExec G MAX need p).2 = if p.live + need ≤ MAX then none else some .tooManyFibers := by
  have hb := hp.bound; have hc := hp.conserve
  induction need generalizing p with
  | zero => exact ⟨hp.releaseAll, rfl, (if_pos (by show p.live + 0 ≤ MAX; omega)).symm⟩
  | succ n ih =>
    rw [reExec]
    by_cases hl : p.live < MAX
    · obtain ⟨p', hv, h2, h3⟩ := fibStep_create_ok hG MAX p hp hl
      have := ih p' h2 h2.bound h2.conserve
      rw [h3, Nat.add_right_comm, Nat.add_assoc] at this
      rw [hv]; exact this
    · rw [fibStep_create_full hG MAX p hp (by omega), if_neg (by omega)]
      exact ⟨hp.releaseAll, rfl, rfl⟩

end Fibers

section Timeouts

theorem blockReads_add (S a m n : Nat) : blockReads S a (m + n) = blockReads S a m + blockReads S (a + m) n := by
  induction m generalizing a with
  | zero => rw [Nat.zero_add, blockReads, Nat.zero_add, Nat.add_zero]
  | succ m ih => rw [Nat.add_right_comm, blockReads, blockReads, ih, Nat.add_assoc, Nat.add_assoc, Nat.add_comm 1 m]

theorem blockReads_pos (S a k x : Nat) (ha : a ≤ x) (hx : x < a + k) (h0 : x % S = 0) : 1 ≤ blockReads S a k := by
  induction k generalizing a with
  | zero => omega
  | succ k ih =>
    rw [blockReads]
    by_cases hax : a = x
    · rw [if_pos (hax ▸ h0)]; omega
    · have := ih (a + 1) (by omega) (by omega); omega

variable {G : Guards} (hG : G.Sound)
include hG

theorem vmReads_eq (N : Nat) (hN : N ≥ 1) (k cycle : Nat) (h : cycle < N) :
    vmReads G N cycle k = (cycle + k) / N := by
  induction k generalizing cycle with
  | zero => exact (Nat.div_eq_of_lt h).symm
  | succ k ih =>
    simp only [vmReads, vmTick, hG.cycle cycle N h]
    split
    · rename_i he
      rw [if_pos rfl, ih 0 (by omega), show cycle + (k + 1) = 0 + k + N by omega, Nat.add_div_right _ (by omega)]
      omega
    · rw [if_neg (by simp), ih (cycle + 1) (by omega), Nat.zero_add, Nat.add_right_comm, Nat.add_assoc]

end Timeouts

end YaraModel.Limits
