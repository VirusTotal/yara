/- For Thm/C12: the two shapes of a guarded grammar action of `Gen.Fold.foldBin`; what an action can return as a value when an
   operand is not known at compile time; the VM's shifts by a count of 64 or more. -/
import YaraModel.Model.FoldVm
namespace YaraModel.FoldVm
open YaraModel.C YaraModel.Gen.Fold YaraModel.Gen.VmOps

/-- A value under a guard whose failure is a compile-time error (the shape of the shift actions): whatever the VM does when
    the guard fails, it computes that value. -/
theorem val_of_guarded {c : Prop} [Decidable c] {e : String} {x u v : Int}
    (h : (if c then FoldRes.val x else .err e) = .val v) : (if c then x else u) = v := by
  split at h
  · rw [if_pos ‹c›]
    exact FoldRes.val.inj h
  · cases h

theorem err_iff_guard {c : Prop} [Decidable c] {e : String} {x : Int} :
    (if c then FoldRes.err e else .val x) = .err e ↔ c := by
  split
  · exact iff_of_true rfl ‹c›
  · exact iff_of_false FoldRes.noConfusion ‹¬c›

/-- With an operand unknown, an action that yields a value yields UNDEF — except (the second disjunct) a shift by a known count
    of 64 or more, which folds to 0 whatever is shifted (`vmBin_shift_ge` is what the VM does then). -/
theorem foldBin_unknown (op : FBin) (a b v : Int) (hu : isUndef a = true ∨ isUndef b = true)
    (h : foldBin op a b = .val v) :
    v = UNDEF ∨ (v = 0 ∧ isUndef b = false ∧ 64 ≤ b ∧ (op = .SHL ∨ op = .SHR)) := by
  have hor : (isUndef a || isUndef b) = true := by simpa using hu
  -- every overflow guard starts with `!isUndef a && !isUndef b`, every computed value with `isUndef a || isUndef b`
  cases op <;> dsimp only [foldBin] at h <;>
    simp only [← Bool.not_or, hor, ↓reduceIte, Bool.not_true, Bool.false_and, Bool.false_eq_true, ite_self, ne_eq,
      Int.reduceEq, not_false_eq_true, decide_true, Bool.and_self] at h
  case DIV | MOD =>
    split at h
    · exact .inl (FoldRes.val.inj h).symm
    · cases h
  case SHL | SHR =>
    split at h
    · cases h
    · split at h
      · rename_i h64
        simp only [Bool.and_eq_true, Bool.not_eq_eq_eq_not, Bool.not_true, decide_eq_true_eq] at h64
        exact .inr ⟨(FoldRes.val.inj h).symm, h64.1, h64.2, by simp⟩
      · exact .inl (FoldRes.val.inj h).symm
  all_goals exact .inl (FoldRes.val.inj h).symm

theorem vmBin_shift_ge (prim : String → List Int → Int) (op : FBin) (hop : op = .SHL ∨ op = .SHR) (a b : Int)
    (hb : isUndef b = false) (h64 : 64 ≤ b) :
    vmBin prim (toVm op) a b = if isUndef a then UNDEF else 0 := by
  have h0 : ¬ b < 0 := by omega
  have h1 : ¬ b < 64 := by omega
  rcases hop with rfl | rfl <;> dsimp only [toVm, vmBin] <;>
    simp only [hb, h0, h1, Bool.false_eq_true, decide_false, ↓reduceIte]

end YaraModel.FoldVm
