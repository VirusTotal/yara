/- Compiled-rule images as byte lists: overwriting a field (`patch`), the buffer table as a list of raw (offset, size)
   entries, the image assembled from buffer bodies and a relocation stream (`image`; `save a` is one), and the loader's
   header, table and bodies phases computed on them. -/
import YaraModel.Lemmas.ArenaLoad
namespace YaraModel.Arena
open YaraModel.Gen.ArenaLayout

theorem patch_mid (x : Bytes) {y : Bytes} (w : Bytes) {k : Nat} {bs : Bytes} (h : k + bs.length ≤ y.length) :
    patch (x ++ (y ++ w)) (x.length + k) bs = x ++ (patch y k bs ++ w) := by
  unfold patch
  rw [List.take_length_add_append, Nat.add_assoc, List.drop_length_add_append,
    List.take_append_of_le_length (by omega), List.drop_append_of_le_length h]
  simp only [List.append_assoc]

theorem patch_head (x y bs : Bytes) (h : bs.length = x.length) : patch (x ++ y) 0 bs = bs ++ y := by
  unfold patch
  simp [h]

theorem patch_tail (x y bs : Bytes) (h : bs.length = y.length) : patch (x ++ y) x.length bs = x ++ bs := by
  unfold patch
  simp [h]

theorem getElem?_patch_left (img : Bytes) {off : Nat} (bs : Bytes) (h : off ≤ img.length) {j : Nat} (hj : j < off) :
    (patch img off bs)[j]? = img[j]? := by
  unfold patch
  rw [List.append_assoc, List.getElem?_append_left (by rw [List.length_take_of_le h]; exact hj), List.getElem?_take, if_pos hj]

theorem getElem?_patch_at (img : Bytes) {off : Nat} {bs : Bytes} (h : off ≤ img.length) {t : Nat} (ht : t < bs.length) :
    (patch img off bs)[off + t]? = bs[t]? := by
  unfold patch
  rw [List.append_assoc, List.getElem?_append_right (by rw [List.length_take_of_le h]; omega), List.length_take_of_le h,
    Nat.add_sub_cancel_left, List.getElem?_append_left ht]

theorem rdLE_patch_same (img : Bytes) {off : Nat} (bs : Bytes) (h : off ≤ img.length) :
    rdLE bs.length (patch img off bs) off = leVal bs := by
  unfold rdLE patch
  rw [List.append_assoc, List.drop_left' (List.length_take_of_le h), List.take_left' rfl]

theorem rdLE_patch_before (k : Nat) (img : Bytes) {off : Nat} (bs : Bytes) (h : off ≤ img.length) {o : Nat} (ho : o + k ≤ off) :
    rdLE k (patch img off bs) o = rdLE k img o := by
  unfold rdLE patch
  rw [List.append_assoc, List.drop_append_of_le_length (by rw [List.length_take_of_le h]; omega),
    List.take_append_of_le_length (by rw [List.length_drop, List.length_take_of_le h]; omega), List.drop_take, List.take_take,
    Nat.min_eq_left (by omega)]

theorem rdLE_patch_after (k : Nat) (img : Bytes) {off : Nat} (bs : Bytes) (h : off ≤ img.length) {o : Nat} (ho : off + bs.length ≤ o) :
    rdLE k (patch img off bs) o = rdLE k img o := by
  unfold rdLE patch
  obtain ⟨j, rfl⟩ := Nat.exists_eq_add_of_le ho
  have hl : (img.take off ++ bs).length = off + bs.length := by rw [List.length_append, List.length_take_of_le h]
  rw [← hl, List.drop_length_add_append, List.drop_drop]

theorem parseHeader_bad_magic {s : Bytes} (h : s.take 4 ≠ magic) : parseHeader s = .error .invalidFile := by
  simp only [parseHeader, if_pos h, ite_self]

theorem load_header_error {cfg : LoaderCfg} {alloc : Nat → Nat} {s : Bytes} {e : Err} (h : parseHeader s = .error e) :
    load cfg alloc s = .error e := by
  rw [load_eq, h]

def rawTable (es : List (Nat × Nat)) : Bytes := es.flatMap (fun e => tableEntry e.1 e.2)

/-- the entries `save` writes -/
def entries : Nat → List Nat → List (Nat × Nat)
  | _, [] => []
  | o, u :: us => (o, u) :: entries (o + u % 2 ^ 32) us

@[simp] theorem rawTable_nil : rawTable [] = [] := rfl
theorem rawTable_cons (e : Nat × Nat) (t : List (Nat × Nat)) : rawTable (e :: t) = tableEntry e.1 e.2 ++ rawTable t := by
  simp [rawTable]
theorem rawTable_append (l1 l2 : List (Nat × Nat)) : rawTable (l1 ++ l2) = rawTable l1 ++ rawTable l2 := by
  simp [rawTable]

theorem length_rawTable (es : List (Nat × Nat)) : (rawTable es).length = tableEntrySize * es.length := by
  induction es with
  | nil => rfl
  | cons e t ih =>
    rw [rawTable_cons, List.length_append, length_tableEntry, ih, List.length_cons]
    simp only [tableEntrySize]; omega

theorem table_eq_raw (o : Nat) (us : List Nat) : table o us = rawTable (entries o us) := by
  induction us generalizing o with
  | nil => rfl
  | cons u t ih => simp only [table, entries, rawTable_cons, ih]

theorem entries_append (o : Nat) (l1 l2 : List Nat) :
    entries o (l1 ++ l2) = entries o l1 ++ entries (o + (l1.map (· % 2 ^ 32)).sum) l2 := by
  induction l1 generalizing o with
  | nil => simp [entries]
  | cons u t ih => simp only [List.cons_append, entries, ih, List.map_cons, List.sum_cons, Nat.add_assoc]

theorem entries_length (o : Nat) (us : List Nat) : (entries o us).length = us.length := by
  induction us generalizing o with
  | nil => rfl
  | cons u t ih => simp [entries, ih]

theorem entries_sizes (o : Nat) (us : List Nat) : (entries o us).map (·.2 % 2 ^ 32) = us.map (· % 2 ^ 32) := by
  induction us generalizing o with
  | nil => rfl
  | cons u t ih => simp [entries, ih]

theorem split_at {α : Type} (l : List α) (i : Nat) (hi : i < l.length) :
    ∃ pre u post, l = pre ++ u :: post ∧ pre.length = i :=
  ⟨l.take i, l[i], l.drop (i + 1), by rw [← List.drop_eq_getElem_cons hi, List.take_append_drop], List.length_take_of_le (by omega)⟩

theorem rdLE_entry (k : Nat) (pre : List (Nat × Nat)) (e : Nat × Nat) (post : List (Nat × Nat)) (rest : Bytes) (j : Nat) :
    rdLE k (rawTable (pre ++ e :: post) ++ rest) (tableEntrySize * pre.length + j) =
      rdLE k (tableEntry e.1 e.2 ++ (rawTable post ++ rest)) j := by
  unfold rdLE
  rw [rawTable_append, rawTable_cons, List.append_assoc, List.append_assoc, ← length_rawTable pre, List.drop_length_add_append]

theorem rdLE_offset_head (o u : Nat) (x : Bytes) : rdLE tblOffsetSize (tableEntry o u ++ x) tblOffsetOff = o % 2 ^ 64 := by
  simp only [tableEntry, tblOffsetSize, tblOffsetOff, rdLE, List.drop_zero, List.append_assoc]
  rw [List.take_left' (length_leBytes 8 o), leVal_leBytes8]

theorem rdLE_size_head (o u : Nat) (x : Bytes) : rdLE tblSizeSize (tableEntry o u ++ x) tblSizeOff = u % 2 ^ 32 := by
  simp only [tableEntry, tblOffsetSize, tblSizeSize, tblSizeOff, rdLE, List.append_assoc]
  rw [List.drop_left' (length_leBytes 8 o), List.take_left' (length_leBytes 4 u), leVal_leBytes4]

theorem rdLE_shift (k : Nat) (o u : Nat) (x : Bytes) (j : Nat) :
    rdLE k (tableEntry o u ++ x) (tableEntrySize + j) = rdLE k x j := by
  simp only [rdLE]
  rw [← length_tableEntry o u, List.drop_length_add_append]

theorem entry_index (i j : Nat) : tableEntrySize * (i + 1) + j = tableEntrySize + (tableEntrySize * i + j) := by
  simp only [tableEntrySize]; omega

theorem rdLE_size_table (o : Nat) (us : List Nat) (rest : Bytes) (i : Nat) (hi : i < us.length) :
    rdLE tblSizeSize (table o us ++ rest) (tableEntrySize * i + tblSizeOff) = us.getD i 0 % 2 ^ 32 := by
  obtain ⟨pre, u, post, rfl, rfl⟩ := split_at us i hi
  rw [table_eq_raw, entries_append, entries, ← entries_length o pre, rdLE_entry, rdLE_size_head]
  simp [entries_length]

theorem parseTable_raw (es : List (Nat × Nat)) (rest : Bytes) :
    parseTable es.length (rawTable es ++ rest) = .ok (es.map (·.2 % 2 ^ 32), rest) := by
  unfold parseTable
  have hl := length_rawTable es
  rw [Nat.min_eq_left (by rw [List.length_append]; omega), Nat.mul_div_cancel_left _ (by decide), if_neg (fun h => h rfl),
    List.drop_left' hl]
  congr 2
  clear hl
  induction es with
  | nil => rfl
  | cons e t ih =>
    rw [List.length_cons, List.range_succ_eq_map, List.map_cons, List.map_map, List.map_cons, ← ih, rawTable_cons,
      List.append_assoc, Nat.mul_zero, Nat.zero_add, rdLE_size_head]
    refine congrArg _ (List.map_congr_left fun i _ => ?_)
    show rdLE _ _ (tableEntrySize * (i + 1) + tblSizeOff) = _
    rw [entry_index, rdLE_shift]

/-- the loader's cross-check of the table, on entries -/
def entriesOk : Nat → List (Nat × Nat) → Bool
  | _, [] => true
  | e, (o, s) :: t => (o % 2 ^ 64 == e % 2 ^ 64) && entriesOk (e + s % 2 ^ 32) t

theorem offsetsOk_shift (o u : Nat) (x : Bytes) (sizes : List Nat) : ∀ (i e : Nat),
    offsetsOk (tableEntry o u ++ x) (i + 1) e sizes = offsetsOk x i e sizes := by
  induction sizes with
  | nil => intro i e; rfl
  | cons z t ih =>
    intro i e
    simp only [offsetsOk]
    rw [entry_index, rdLE_shift, ih]

theorem offsetsOk_raw (es : List (Nat × Nat)) (rest : Bytes) : ∀ e : Nat,
    offsetsOk (rawTable es ++ rest) 0 e (es.map (·.2 % 2 ^ 32)) = entriesOk e es := by
  induction es with
  | nil => intro e; rfl
  | cons x t ih =>
    intro e
    rw [rawTable_cons, List.append_assoc]
    simp only [List.map_cons, offsetsOk, entriesOk, Nat.mul_zero, Nat.zero_add]
    rw [rdLE_offset_head, offsetsOk_shift, ih]

theorem entriesOk_append (l1 l2 : List (Nat × Nat)) : ∀ e : Nat,
    entriesOk e (l1 ++ l2) = (entriesOk e l1 && entriesOk (e + (l1.map (·.2 % 2 ^ 32)).sum) l2) := by
  induction l1 with
  | nil => intro e; simp [entriesOk]
  | cons x t ih =>
    intro e
    simp only [List.cons_append, entriesOk, ih, List.map_cons, List.sum_cons, Bool.and_assoc, Nat.add_assoc]

theorem entriesOk_entries (o : Nat) (us : List Nat) : entriesOk o (entries o us) = true := by
  induction us generalizing o with
  | nil => rfl
  | cons u t ih => simp [entries, entriesOk, ih]

theorem add_mod_inj {x a b : Nat} (ha : a < 2 ^ 32) (hb : b < 2 ^ 32) (h : (x + a) % 2 ^ 64 = (x + b) % 2 ^ 64) : a = b := by
  omega

theorem entriesOk_set_offset {e : Nat} {pre : List (Nat × Nat)} {o u : Nat} {post : List (Nat × Nat)}
    (h : entriesOk e (pre ++ (o, u) :: post) = true) {v : Nat} (hv : v % 2 ^ 64 ≠ o % 2 ^ 64) :
    entriesOk e (pre ++ (v, u) :: post) = false := by
  rw [entriesOk_append] at h ⊢
  simp only [entriesOk, Bool.and_eq_true, beq_iff_eq] at h
  simp only [entriesOk, Bool.and_eq_false_imp, beq_iff_eq]
  intro _ hv'
  exact absurd (hv'.trans h.2.1.symm) hv

/-- a size other than the last is changed: the next entry's offset is no longer the running sum -/
theorem entriesOk_set_size {e : Nat} {pre : List (Nat × Nat)} {o u : Nat} {next : Nat × Nat} {post : List (Nat × Nat)}
    (h : entriesOk e (pre ++ (o, u) :: next :: post) = true) {z : Nat} (hz : z % 2 ^ 32 ≠ u % 2 ^ 32) :
    entriesOk e (pre ++ (o, z) :: next :: post) = false := by
  rw [entriesOk_append] at h ⊢
  simp only [entriesOk, Bool.and_eq_true, beq_iff_eq] at h
  simp only [entriesOk, Bool.and_eq_false_imp, beq_iff_eq]
  intro _ _ h'
  exact absurd (add_mod_inj (Nat.mod_lt _ (by decide)) (Nat.mod_lt _ (by decide)) (h'.symm.trans h.2.2.1)) hz

theorem load_raw (cfg : LoaderCfg) (alloc : Nat → Nat) {n : Nat} {es : List (Nat × Nat)} (hl : es.length = n) (hn : n ≤ maxBuffers)
    (rest : Bytes) :
    load cfg alloc (header n ++ (rawTable es ++ rest)) =
      if cfg.checksOffsets && !entriesOk (headerSize + tableEntrySize * n) es then .error .corruptFile
      else
        match readBodies alloc 0 (es.map (·.2 % 2 ^ 32)) rest with
        | .error e => .error e
        | .ok (bufs, s3) => applyRelocs cfg { bufs := bufs, relocs := [], init := loadInitialSize } s3 := by
  subst hl
  rw [load_eq, parseHeader_header _ hn]
  simp only
  rw [parseTable_raw]
  simp only
  rw [offsetsOk_raw]
  rfl

theorem patch_entry (n : Nat) (pre : List (Nat × Nat)) (e : Nat × Nat) (post : List (Nat × Nat)) (rest : Bytes) {k : Nat}
    {bs : Bytes} (h : k + bs.length ≤ tableEntrySize) :
    patch (header n ++ (rawTable (pre ++ e :: post) ++ rest)) (headerSize + tableEntrySize * pre.length + k) bs =
      header n ++ (rawTable pre ++ (patch (tableEntry e.1 e.2) k bs ++ (rawTable post ++ rest))) := by
  have hx : (header n ++ rawTable pre).length = headerSize + tableEntrySize * pre.length := by
    rw [List.length_append, length_header, length_rawTable]
  rw [rawTable_append, rawTable_cons, ← hx, List.append_assoc, List.append_assoc, ← List.append_assoc (header n),
    patch_mid _ _ (by rw [length_tableEntry]; exact h), List.append_assoc]

theorem patch_entry_offset (n : Nat) (pre : List (Nat × Nat)) (o u : Nat) (post : List (Nat × Nat)) (rest : Bytes) (v : Nat) :
    patch (header n ++ (rawTable (pre ++ (o, u) :: post) ++ rest)) (offsetFieldAt pre.length) (leBytes 8 v) =
      header n ++ (rawTable (pre ++ (v, u) :: post) ++ rest) := by
  unfold offsetFieldAt
  rw [patch_entry _ _ _ _ _ (by rw [length_leBytes]; decide), rawTable_append, rawTable_cons]
  simp only [tableEntry, tblOffsetOff, tblOffsetSize, List.append_assoc]
  rw [patch_head _ _ _ (by rw [length_leBytes, length_leBytes]), List.append_assoc]

theorem patch_entry_size (n : Nat) (pre : List (Nat × Nat)) (o u : Nat) (post : List (Nat × Nat)) (rest : Bytes) (z : Nat) :
    patch (header n ++ (rawTable (pre ++ (o, u) :: post) ++ rest)) (sizeFieldAt pre.length) (leBytes 4 z) =
      header n ++ (rawTable (pre ++ (o, z) :: post) ++ rest) := by
  unfold sizeFieldAt
  rw [patch_entry _ _ _ _ _ (by rw [length_leBytes]; decide), rawTable_append, rawTable_cons]
  simp only [tableEntry, tblSizeSize, List.append_assoc]
  rw [show tblSizeOff = (leBytes tblOffsetSize o).length from (length_leBytes ..).symm,
    patch_tail _ _ _ (by rw [length_leBytes, length_leBytes]), List.append_assoc]

/-- the file `save` writes for buffers with contents `ds`, with `tail` where the relocation entries go -/
def image (ds : List Bytes) (tail : Bytes) : Bytes :=
  header ds.length ++ (table (headerSize + tableEntrySize * ds.length) (ds.map (·.length)) ++ (ds.flatten ++ tail))

theorem length_image (ds : List Bytes) (tail : Bytes) :
    (image ds tail).length = headerSize + tableEntrySize * ds.length + (ds.flatten.length + tail.length) := by
  simp only [image, List.length_append, length_header, length_table, List.length_map, Nat.add_assoc]

theorem take_image (ds : List Bytes) (tail : Bytes) (m : Nat) :
    (image ds tail).take (headerSize + tableEntrySize * ds.length + m) =
      header ds.length ++ (table (headerSize + tableEntrySize * ds.length) (ds.map (·.length)) ++ (ds.flatten ++ tail).take m) := by
  have h : headerSize + tableEntrySize * ds.length + m = (header ds.length).length +
      ((table (headerSize + tableEntrySize * ds.length) (ds.map (·.length))).length + m) := by
    rw [length_header, length_table, List.length_map, Nat.add_assoc]
  rw [image, h, List.take_length_add_append, List.take_length_add_append]

theorem take_image_tail (ds : List Bytes) (tail : Bytes) (m : Nat) :
    (image ds tail).take (headerSize + tableEntrySize * ds.length + (ds.flatten.length + m)) = image ds (tail.take m) := by
  rw [take_image, List.take_length_add_append, image]

theorem length_le_of_mem_bodies_toRefs {a : Arena} {B : Nat} (hs : ∀ b ∈ a.bufs, b.data.length ≤ B) :
    ∀ d ∈ bodies (toRefs a), d.length ≤ B := by
  intro d hd
  have : d.length ∈ (bodies (toRefs a)).map (·.length) := List.mem_map.2 ⟨d, hd, rfl⟩
  rw [bodies_toRefs_lengths] at this
  simp only [bodies, List.mem_map] at this
  obtain ⟨_, ⟨b, hb, rfl⟩, he⟩ := this
  exact he ▸ hs b hb

theorem save_eq_image (a : Arena) : save a = image (bodies (toRefs a)) (relocBytes a.relocs) := by
  rw [save_split, image, length_bodies_toRefs, bodies_toRefs_lengths]

theorem bodiesStart_eq (a : Arena) : bodiesStart a = headerSize + tableEntrySize * (bodies (toRefs a)).length := by
  rw [bodiesStart, length_bodies_toRefs]

theorem bodiesEnd_eq (a : Arena) :
    bodiesEnd a = headerSize + tableEntrySize * (bodies (toRefs a)).length + (bodies (toRefs a)).flatten.length := by
  rw [bodiesEnd, bodiesStart_eq, List.length_flatten, bodies_toRefs_lengths]

/-- the loader's own allocation of a buffer of `len` bytes succeeds (capacity 10485·2^k ≥ len stays within 4 GB) -/
def CapOk (len : Nat) : Prop := ¬ newCap loadInitialSize 0 0 len > 2 ^ maxBufferSizeLog2

instance (len : Nat) : Decidable (CapOk len) := by unfold CapOk; exact inferInstance

theorem capOk_of_le {len : Nat} (h : len ≤ 2 ^ 31) : CapOk len := newCap_load_ok h

theorem capOk_lt {len : Nat} (h : CapOk len) : len ≤ 2 ^ 32 := by
  unfold CapOk at h
  have := newCap_ge (init := loadInitialSize) (cap := 0) (used := 0) (size := len) (by decide)
  simp only [maxBufferSizeLog2] at h
  omega

theorem loadable_of_small {ds : List Bytes} (hs : ∀ d ∈ ds, d.length ≤ 2 ^ 31) : ∀ d ∈ ds, d.length < 2 ^ 32 ∧ CapOk d.length :=
  fun d hd => ⟨Nat.lt_of_le_of_lt (hs d hd) (by decide), capOk_of_le (hs d hd)⟩

theorem readBodies_append (alloc : Nat → Nat) (ds : List Bytes) (hs : ∀ d ∈ ds, CapOk d.length) (more : List Nat) (tail : Bytes) :
    ∀ i : Nat, readBodies alloc i (ds.map (·.length) ++ more) (ds.flatten ++ tail) =
      match readBodies alloc (i + ds.length) more tail with
      | .error e => .error e
      | .ok (bs, s') => .ok (loadedBufs alloc i ds ++ bs, s') := by
  induction ds with
  | nil =>
    intro i
    simp only [List.map_nil, List.nil_append, List.flatten_nil, List.length_nil, Nat.add_zero, loadedBufs]
    cases readBodies alloc i more tail <;> rfl
  | cons d t ih =>
    intro i
    rw [List.length_cons, Nat.add_comm t.length, ← Nat.add_assoc]
    simp only [List.map_cons, List.cons_append, List.flatten_cons, List.append_assoc, readBodies, loadedBufs]
    split
    · rw [List.eq_nil_of_length_eq_zero ‹d.length = 0›, List.nil_append, ih (fun x hx => hs x (List.mem_cons_of_mem _ hx))]
      cases readBodies alloc (i + 1 + t.length) more tail <;> rfl
    · rw [if_neg (hs d List.mem_cons_self), if_neg (by rw [List.length_append]; omega), List.drop_left' rfl, List.take_left' rfl,
        ih (fun x hx => hs x (List.mem_cons_of_mem _ hx))]
      cases readBodies alloc (i + 1 + t.length) more tail <;> rfl

theorem loadedBufs_append (alloc : Nat → Nat) (l1 l2 : List Bytes) : ∀ i : Nat,
    loadedBufs alloc i (l1 ++ l2) = loadedBufs alloc i l1 ++ loadedBufs alloc (i + l1.length) l2 := by
  induction l1 with
  | nil => intro i; rfl
  | cons d t ih =>
    intro i
    simp only [List.cons_append, loadedBufs, ih, List.length_cons]
    rw [Nat.add_comm t.length, Nat.add_assoc]

theorem readBodies_one (alloc : Nat → Nat) (i z : Nat) (w : Bytes) :
    readBodies alloc i [z] w =
      if ¬ CapOk z then .error .insufficientMemory
      else if w.length < z then .error .corruptFile
      else .ok (loadedBufs alloc i [w.take z], w.drop z) := by
  by_cases hz : z = 0
  · subst hz
    rfl
  · rw [readBodies, if_neg hz]
    refine ite_congr (propext Decidable.not_not.symm) (fun _ => rfl) fun _ => ite_congr rfl (fun _ => rfl) fun hl => ?_
    rw [loadedBufs, List.length_take_of_le (by omega), if_neg hz]
    rfl

theorem load_table (cfg : LoaderCfg) (alloc : Nat → Nat) {n : Nat} (us : List Nat) (hl : us.length = n) (hn : n ≤ maxBuffers)
    (hs : ∀ u ∈ us, u < 2 ^ 32) (rest : Bytes) :
    load cfg alloc (header n ++ (table (headerSize + tableEntrySize * n) us ++ rest)) =
      match readBodies alloc 0 us rest with
      | .error e => .error e
      | .ok (bufs, s3) => applyRelocs cfg { bufs := bufs, relocs := [], init := loadInitialSize } s3 := by
  rw [table_eq_raw, load_raw cfg alloc ((entries_length _ _).trans hl) hn, entriesOk_entries, entries_sizes,
    List.map_congr_left fun u hu => Nat.mod_eq_of_lt (hs u hu), List.map_id']
  simp only [Bool.not_true, Bool.and_false, Bool.false_eq_true, if_false]

/-- the offsets `save` writes do not depend on the last size: overwriting that field gives the table of the other size list -/
theorem patch_image_size_last (dpre : List Bytes) (dlast tail : Bytes) (z : Nat) :
    patch (image (dpre ++ [dlast]) tail) (sizeFieldAt dpre.length) (leBytes 4 z) =
      header (dpre.length + 1) ++ (table (headerSize + tableEntrySize * (dpre.length + 1)) (dpre.map (·.length) ++ [z]) ++
        (dpre.flatten ++ (dlast ++ tail))) := by
  have hp := patch_entry_size (dpre.length + 1) (entries (headerSize + tableEntrySize * (dpre.length + 1)) (dpre.map (·.length)))
    (headerSize + tableEntrySize * (dpre.length + 1) + ((dpre.map (·.length)).map (· % 2 ^ 32)).sum) dlast.length []
    (dpre.flatten ++ (dlast ++ tail)) z
  rw [entries_length, List.length_map] at hp
  simp only [image, table_eq_raw, List.map_append, entries_append, List.length_append, List.length_cons, List.length_nil,
    List.map_cons, List.map_nil, entries, List.flatten_append, List.flatten_cons, List.flatten_nil, List.append_nil, List.append_assoc,
    Nat.zero_add]
  exact hp

theorem load_image (cfg : LoaderCfg) (alloc : Nat → Nat) (ds : List Bytes) (hn : ds.length ≤ maxBuffers)
    (hs : ∀ d ∈ ds, d.length < 2 ^ 32 ∧ CapOk d.length) (tail : Bytes) :
    load cfg alloc (image ds tail) =
      applyRelocs cfg { bufs := loadedBufs alloc 0 ds, relocs := [], init := loadInitialSize } tail := by
  have hb := readBodies_append alloc ds (fun d hd => (hs d hd).2) [] tail 0
  rw [List.append_nil] at hb
  rw [image, load_table cfg alloc _ (List.length_map _) hn (List.forall_mem_map.2 fun d hd => (hs d hd).1), hb]
  simp only [readBodies, List.append_nil]

theorem length_refBytes (r : Ref) : (refBytes r).length = 8 := length_leBytes 8 _

theorem relocBytes_cons (r : Ref) (rs : List Ref) : relocBytes (r :: rs) = refBytes r ++ relocBytes rs := by
  simp [relocBytes]

theorem relocBytes_append (l1 l2 : List Ref) : relocBytes (l1 ++ l2) = relocBytes l1 ++ relocBytes l2 := by
  simp [relocBytes]

theorem length_relocBytes (l : List Ref) : (relocBytes l).length = 8 * l.length := by
  induction l with
  | nil => rfl
  | cons r t ih =>
    rw [relocBytes_cons, List.length_append, List.length_cons, length_refBytes]
    omega

theorem take_relocBytes (rs : List Ref) (k : Nat) : (relocBytes rs).take (8 * k) = relocBytes (rs.take k) := by
  induction rs generalizing k with
  | nil => simp [relocBytes]
  | cons r t ih =>
    cases k with
    | zero => simp [relocBytes]
    | succ k =>
      have : 8 * (k + 1) = (refBytes r).length + 8 * k := by rw [length_refBytes]; omega
      rw [relocBytes_cons, List.take_succ_cons, relocBytes_cons, this, List.take_length_add_append, ih]

end YaraModel.Arena
