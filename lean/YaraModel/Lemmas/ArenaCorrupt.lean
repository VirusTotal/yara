/- The loader's verdict on an image with one field overwritten: the relocation loop of the fully checked loader, the
   header bytes, the fields of a table entry, and the size of the last entry (which moves the border between the last
   body and the relocation entries). -/
import YaraModel.Lemmas.ArenaRoundTrip
namespace YaraModel.Arena
open YaraModel.Gen.ArenaLayout

theorem header_cons (n : Nat) (rest : Bytes) :
    header n ++ rest = 89 :: 65 :: 82 :: 65 :: UInt8.ofNat fileVersion :: UInt8.ofNat n :: rest := by
  simp [header, magic]

/- Cases of `applyRelocs.induct`, in the order of the definition: 1 the entry is the null reference, 2 entry rejected,
   3 slot outside the used bytes, 4 stored reference refused, 5 `refToPtr` asserts, 6 entry applied (the recursive case),
   7 stream exhausted, 8 trailing partial entry refused, 9 trailing partial entry dropped. -/
theorem applyRelocs_keys (cfg : LoaderCfg) (A : Arena) (s : Bytes) :
    ∀ A', applyRelocs cfg A s = .ok A' → A'.bufs.map key = A.bufs.map key := by
  fun_induction applyRelocs cfg A s with
  | case6 =>
    rename_i r _ _ _ _ p _ ih
    exact fun A' h => (ih A' h).trans (keys_setSlot _ r p)
  | case7 | case9 => intro A' h; cases h; rfl
  | case1 | case2 | case3 | case4 | case5 | case8 => intro A' h; cases h

theorem inB_of_not_rejected {cfg : LoaderCfg} (hg : cfg.relocGuarded = true) {A : Arena} {r : Ref}
    (h : ¬ relocRejected cfg A r = true) : InB A r := by
  unfold relocRejected at h
  simp only [hg, if_true, Bool.or_eq_true, decide_eq_true_eq, not_or] at h
  unfold InB
  omega

theorem refToPtr_ok_of_not_refused {cfg : LoaderCfg} (hs : cfg.refStrict = true) {A : Arena} {x : Option Ref}
    (h : refRefused cfg A x = false) : ∃ p, refToPtr A.bufs x = .ok p := by
  cases x with
  | none => exact ⟨0, rfl⟩
  | some t =>
    simp only [refRefused, hs, if_true, Bool.or_eq_false_iff, decide_eq_false_iff_not] at h
    exact ⟨_, refToPtr_some (by omega) (by have := h.2; unfold Arena.bufAt at this; omega)⟩

/-- the guarded bounds test leaves no out-of-bounds slot, the reference test no failing assert, and a trailing partial
    entry is refused -/
theorem applyRelocs_cases (cfg : LoaderCfg) (hh : Hardened cfg) (A : Arena) (s : Bytes) :
    (∃ A', applyRelocs cfg A s = .ok A' ∧ s.length % 8 = 0) ∨ applyRelocs cfg A s = .error .corruptFile := by
  fun_induction applyRelocs cfg A s with
  | case1 | case2 | case4 | case8 => exact Or.inr rfl
  | case3 =>
    rename_i hrej hin
    exact absurd (inB_of_not_rejected hh.guarded hrej) hin
  | case5 =>
    rename_i href e he
    rw [hh.refs, Bool.true_and, Bool.not_eq_true] at href
    obtain ⟨p, hp⟩ := refToPtr_ok_of_not_refused hh.strict href
    rw [hp] at he
    cases he
  | case6 =>
    rename_i ih
    rcases ih with ⟨A', h1, h2⟩ | h1
    · exact Or.inl ⟨A', h1, by simp only [List.length_cons]; omega⟩
    · exact Or.inr h1
  | case7 A => exact Or.inl ⟨A, rfl, rfl⟩
  | case9 => exact absurd hh.part ‹_›

theorem applyRelocs_nobufs (cfg : LoaderCfg) (A : Arena) (hA : A.bufs = []) (o u : Nat) (x : Bytes) :
    applyRelocs cfg A (tableEntry o u ++ x) = .error .corruptFile := by
  have : tableEntry o u ++ x = byteAt o 0 :: byteAt o 1 :: byteAt o 2 :: byteAt o 3 :: byteAt o 4 :: byteAt o 5 :: byteAt o 6 ::
      byteAt o 7 :: (leBytes 4 u ++ x) := by
    simp [tableEntry, tblOffsetSize, tblSizeSize, leBytes8]
  rw [this, applyRelocs]
  cases decRef (leVal [byteAt o 0, byteAt o 1, byteAt o 2, byteAt o 3, byteAt o 4, byteAt o 5, byteAt o 6, byteAt o 7]) with
  | none => rfl
  | some r =>
    have : relocRejected cfg A r = true := by simp [relocRejected, hA]
    simp only [this, if_true]

theorem load_patch_magic (cfg : LoaderCfg) (alloc : Nat → Nat) (img : Bytes) (hm : img.take 4 = magic) (i : Nat) (hi : i < 4) (v : UInt8)
    (hv : v ≠ img.getD i 0) : load cfg alloc (patch img i [v]) = .error .invalidFile := by
  refine load_header_error (parseHeader_bad_magic fun heq => hv ?_)
  have hl : 4 ≤ img.length := by
    have := congrArg List.length hm
    rw [List.length_take] at this
    exact Nat.le_trans (Nat.le_of_eq this.symm) (Nat.min_le_right ..)
  have h := congrArg (·[i]?) (heq.trans hm.symm)
  simp only [List.getElem?_take, if_pos hi] at h
  have hv' : (patch img i [v])[i]? = some v := getElem?_patch_at img (by omega) (t := 0) Nat.zero_lt_one
  rw [List.getD_eq_getElem?_getD, ← h, hv']
  rfl

theorem load_patch_version (cfg : LoaderCfg) (alloc : Nat → Nat) (img : Bytes) (hm : img.take 4 = magic) (hl : headerSize ≤ img.length)
    (hver : (img.getD hdrVersionOff 0).toNat = fileVersion) (v : UInt8) (hv : v ≠ img.getD hdrVersionOff 0) :
    load cfg alloc (patch img hdrVersionOff [v]) = .error .unsupportedFileVersion := by
  apply load_header_error
  obtain hs | ⟨m0, m1, m2, m3, ver, nb, rest, rfl⟩ := short_or_cons6 img
  · omega
  · have hp : patch (m0 :: m1 :: m2 :: m3 :: ver :: nb :: rest) hdrVersionOff [v] = m0 :: m1 :: m2 :: m3 :: v :: nb :: rest := rfl
    rw [hp, parseHeader_cons6, if_neg (not_not_intro (show [m0, m1, m2, m3] = magic from hm)), if_pos]
    exact fun h => hv (UInt8.toNat_inj.1 (h.trans hver.symm))

theorem patch_numbufs (n : Nat) (rest : Bytes) (v : UInt8) : patch (header n ++ rest) hdrNumBuffersOff [v] = header v.toNat ++ rest := by
  rw [header_cons, header_cons, UInt8.ofNat_toNat]
  rfl

theorem parseTable_cases (n : Nat) (s : Bytes) :
    parseTable n s = .error .corruptFile ∨
      parseTable n s = .ok ((List.range n).map (fun i => rdLE tblSizeSize s (tableEntrySize * i + tblSizeOff)), s.drop (tableEntrySize * n)) := by
  unfold parseTable
  split
  · exact Or.inl rfl
  · exact Or.inr rfl

theorem offsetsOk_first_bad {s : Bytes} {e : Nat} {sizes : List Nat} (hne : sizes ≠ [])
    (h : rdLE tblOffsetSize s tblOffsetOff ≠ e % 2 ^ 64) : offsetsOk s 0 e sizes = false := by
  cases sizes with
  | nil => exact absurd rfl hne
  | cons z t =>
    simp only [offsetsOk, Nat.mul_zero, Nat.zero_add, Bool.and_eq_false_imp, beq_iff_eq]
    intro h'; exact absurd h' h

/-- num_buffers overwritten: a larger count makes the table read come back short or the first offset differ from the
    table's end; a smaller non-zero count moves the table's end too; zero leaves the table to the relocation loop of an
    arena without buffers (`htail`: no buffers, no relocation entries: `relocs_nil_of_no_bufs`) -/
theorem load_patch_numbufs (cfg : LoaderCfg) (hoffs : cfg.checksOffsets = true) (alloc : Nat → Nat) (ds : List Bytes)
    (hn : ds.length ≤ maxBuffers) (tail : Bytes) (htail : ds = [] → tail = []) (v : UInt8) (hv : v.toNat ≠ ds.length) :
    load cfg alloc (patch (image ds tail) hdrNumBuffersOff [v]) =
      .error (if v.toNat > maxBuffers then .invalidFile else .corruptFile) := by
  rw [image, table_eq_raw, patch_numbufs, load_eq, parseHeader_header_any _ (UInt8.toNat_lt v)]
  by_cases hbig : v.toNat > maxBuffers
  · rw [if_pos hbig, if_pos hbig]
  · rw [if_neg hbig, if_neg hbig]
    simp only
    simp only [maxBuffers] at hbig hn
    cases ds with
    | nil =>
      have hv0 : v.toNat ≠ 0 := hv
      rw [htail rfl, parseTable_short (by show 0 < tableEntrySize * v.toNat; simp only [tableEntrySize]; omega)]
    | cons d t =>
      simp only [List.map_cons, entries, rawTable_cons, List.append_assoc]
      by_cases hz : v.toNat = 0
      · rw [hz]
        have hpt : ∀ s : Bytes, parseTable 0 s = .ok ([], s) := fun s => by simp [parseTable]
        rw [hpt]
        simp only [offsetsOk, Bool.not_true, Bool.and_false, Bool.false_eq_true, if_false, readBodies]
        exact applyRelocs_nobufs cfg _ rfl _ _ _
      · rcases parseTable_cases v.toNat (tableEntry (headerSize + tableEntrySize * (d :: t).length) d.length ++
          (rawTable (entries (headerSize + tableEntrySize * (d :: t).length + d.length % 2 ^ 32) (t.map (·.length))) ++
            ((d :: t).flatten ++ tail))) with he | hp
        · rw [he]
        · -- the first offset is the end of the original table, not of the announced one
          rw [hp]
          simp only
          rw [offsetsOk_first_bad (by intro h; exact hz (by simpa using congrArg List.length h)), hoffs]
          · rfl
          · rw [rdLE_offset_head]
            simp only [headerSize, tableEntrySize, List.length_cons] at hn hv ⊢
            rw [Nat.mod_eq_of_lt (by omega), Nat.mod_eq_of_lt (by omega)]
            omega

theorem rdLE_after_header (k n : Nat) (x : Bytes) (j : Nat) : rdLE k (header n ++ x) (headerSize + j) = rdLE k x j := by
  simp only [rdLE]
  rw [← length_header n, List.drop_length_add_append]

theorem rdLE_offset_raw (n : Nat) (pre : List (Nat × Nat)) (o u : Nat) (post : List (Nat × Nat)) (rest : Bytes) :
    rdLE tblOffsetSize (header n ++ (rawTable (pre ++ (o, u) :: post) ++ rest)) (offsetFieldAt pre.length) = o % 2 ^ 64 := by
  rw [offsetFieldAt, Nat.add_assoc, rdLE_after_header, rdLE_entry]
  exact rdLE_offset_head o u _

theorem rdLE_size_raw (n : Nat) (pre : List (Nat × Nat)) (o u : Nat) (post : List (Nat × Nat)) (rest : Bytes) :
    rdLE tblSizeSize (header n ++ (rawTable (pre ++ (o, u) :: post) ++ rest)) (sizeFieldAt pre.length) = u % 2 ^ 32 := by
  rw [sizeFieldAt, Nat.add_assoc, rdLE_after_header, rdLE_entry]
  exact rdLE_size_head o u _

theorem load_patch_offset (cfg : LoaderCfg) (hoffs : cfg.checksOffsets = true) (alloc : Nat → Nat) {n : Nat} {pre : List (Nat × Nat)}
    {o u : Nat} {post : List (Nat × Nat)} (hl : (pre ++ (o, u) :: post).length = n) (hn : n ≤ maxBuffers)
    (hok : entriesOk (headerSize + tableEntrySize * n) (pre ++ (o, u) :: post) = true) (rest : Bytes) {v : Nat}
    (hv : v % 2 ^ 64 ≠ o % 2 ^ 64) :
    load cfg alloc (patch (header n ++ (rawTable (pre ++ (o, u) :: post) ++ rest)) (offsetFieldAt pre.length) (leBytes 8 v)) =
      .error .corruptFile := by
  rw [patch_entry_offset, load_raw cfg alloc (by simpa using hl) hn, entriesOk_set_offset hok hv, hoffs]
  rfl

theorem load_patch_size (cfg : LoaderCfg) (hoffs : cfg.checksOffsets = true) (alloc : Nat → Nat) {n : Nat} {pre : List (Nat × Nat)}
    {o u : Nat} {next : Nat × Nat} {post : List (Nat × Nat)} (hl : (pre ++ (o, u) :: next :: post).length = n) (hn : n ≤ maxBuffers)
    (hok : entriesOk (headerSize + tableEntrySize * n) (pre ++ (o, u) :: next :: post) = true) (rest : Bytes) {z : Nat}
    (hz : z % 2 ^ 32 ≠ u % 2 ^ 32) :
    load cfg alloc (patch (header n ++ (rawTable (pre ++ (o, u) :: next :: post) ++ rest)) (sizeFieldAt pre.length) (leBytes 4 z)) =
      .error .corruptFile := by
  rw [patch_entry_size, load_raw cfg alloc (by simpa using hl) hn, entriesOk_set_size hok hz, hoffs]
  rfl

theorem relocs_nil_of_no_bufs {a : Arena} (h : WF a) (hb : a.bufs.length = 0) : a.relocs = [] := by
  cases hrel : a.relocs with
  | nil => rfl
  | cons r t =>
    have := (h.slots.2 r (by rw [hrel]; exact List.mem_cons_self)).2
    omega

theorem save_split_entry (a : Arena) (i : Nat) (hi : i < a.bufs.length) :
    ∃ pre o u post rest, save a = header a.bufs.length ++ (rawTable (pre ++ (o, u) :: post) ++ rest) ∧ pre.length = i ∧
      (pre ++ (o, u) :: post).length = a.bufs.length ∧
      entriesOk (headerSize + tableEntrySize * a.bufs.length) (pre ++ (o, u) :: post) = true := by
  have hl : (entries (headerSize + tableEntrySize * a.bufs.length) ((bodies a).map (·.length))).length = a.bufs.length := by
    simp [entries_length, bodies]
  obtain ⟨pre, ⟨o, u⟩, post, hes, hpre⟩ := split_at _ i (hl ▸ hi)
  exact ⟨pre, o, u, post, _, by rw [save_split, table_eq_raw, hes], hpre, hes ▸ hl, hes ▸ entriesOk_entries _ _⟩

theorem load_patch_size_last (cfg : LoaderCfg) (alloc : Nat → Nat) (dpre : List Bytes) (dlast : Bytes) {m : Nat} (hm : dpre.length = m)
    (hn : m + 1 ≤ maxBuffers) (hs : ∀ d ∈ dpre, d.length < 2 ^ 32 ∧ CapOk d.length) (tail : Bytes) (z : Nat) (hz : z < 2 ^ 32) :
    load cfg alloc (patch (image (dpre ++ [dlast]) tail) (sizeFieldAt m) (leBytes 4 z)) =
      if ¬ CapOk z then .error .insufficientMemory
      else if (dlast ++ tail).length < z then .error .corruptFile
      else applyRelocs cfg { bufs := loadedBufs alloc 0 (dpre ++ [(dlast ++ tail).take z]), relocs := [], init := loadInitialSize }
        ((dlast ++ tail).drop z) := by
  subst hm
  rw [patch_image_size_last, load_table cfg alloc _ (by simp) hn
      (List.forall_mem_append.2 ⟨List.forall_mem_map.2 fun d hd => (hs d hd).1, by simpa using hz⟩),
    readBodies_append alloc dpre (fun d hd => (hs d hd).2), readBodies_one, loadedBufs_append]
  by_cases hc : CapOk z
  · rw [if_neg (not_not_intro hc), if_neg (not_not_intro hc)]
    by_cases hl : (dlast ++ tail).length < z
    · rw [if_pos hl, if_pos hl]
    · rw [if_neg hl, if_neg hl]
  · rw [if_pos hc, if_pos hc]

/-- `ds'`: `ds` with bytes appended to each body -/
def Extends (ds ds' : List Bytes) : Prop := ds'.length = ds.length ∧ ∀ j, ∃ e, ds'.getD j [] = ds.getD j [] ++ e

theorem extends_snoc (dpre : List Bytes) (dlast extra : Bytes) : Extends (dpre ++ [dlast]) (dpre ++ [dlast ++ extra]) := by
  refine ⟨by simp, fun j => ?_⟩
  simp only [List.getD_eq_getElem?_getD, List.getElem?_append]
  split
  · exact ⟨[], by simp⟩
  · by_cases h : j - dpre.length = 0
    · rw [h]; exact ⟨extra, by simp⟩
    · refine ⟨[], ?_⟩
      have : ∀ (x : Bytes), [x][j - dpre.length]? = none := by intro x; simp; omega
      rw [this, this]; simp

theorem GoodD.extends {ds ds' : List Bytes} (h : Extends ds ds') {x : Option Ref} (g : GoodD ds x) : GoodD ds' x := by
  rcases g with rfl | ⟨t, rfl, hb, ho⟩
  · exact Or.inl rfl
  · obtain ⟨e, he⟩ := h.2 t.buf
    exact Or.inr ⟨t, rfl, by rw [h.1]; exact hb, by rw [he, List.length_append]; omega⟩

theorem AGood.extends {ds ds' : List Bytes} {rs : List Ref} (g : AGood ds rs) (h : Extends ds ds') : AGood ds' rs := by
  refine ⟨g.apart, fun r hr => ?_, fun r hr => ?_⟩
  · obtain ⟨e, he⟩ := h.2 r.buf
    exact ⟨h.1 ▸ (g.inside r hr).1, by rw [he, List.length_append]; have := (g.inside r hr).2; omega⟩
  · obtain ⟨x, hx, hg⟩ := g.refs r hr
    obtain ⟨e, he⟩ := h.2 r.buf
    exact ⟨x, by rw [he, rd64_append e (g.inside r hr).2]; exact hx, hg.extends h⟩

/-- raising the last size from `dlast.length` to `z` swallows a whole number of the `R.length` relocation entries into the last buffer,
    and the enlarged buffer can be allocated -/
theorem load_patch_size_raised (cfg : LoaderCfg) (hh : Hardened cfg) (alloc : Nat → Nat) (hnz : ∀ i, alloc i ≠ 0) (dpre : List Bytes)
    (dlast : Bytes) {m : Nat} (hm : dpre.length = m) (hn : m + 1 ≤ maxBuffers) (hs : ∀ d ∈ dpre, d.length ≤ 2 ^ 31) {R : List Ref}
    (g : AGood (dpre ++ [dlast]) R) (z : Nat) (hz : z < 2 ^ 32) (hgt : dlast.length < z) :
    ((z - dlast.length) % 8 = 0 ∧ z - dlast.length ≤ 8 * R.length ∧ CapOk z →
      ∃ A, load cfg alloc (patch (image (dpre ++ [dlast]) (relocBytes R)) (sizeFieldAt m) (leBytes 4 z)) = .ok A ∧
        A.relocs = R.drop ((z - dlast.length) / 8)) ∧
    (¬ ((z - dlast.length) % 8 = 0 ∧ z - dlast.length ≤ 8 * R.length ∧ CapOk z) →
      load cfg alloc (patch (image (dpre ++ [dlast]) (relocBytes R)) (sizeFieldAt m) (leBytes 4 z)) =
        .error (if CapOk z then .corruptFile else .insufficientMemory)) := by
  have hlast := load_patch_size_last cfg alloc dpre dlast hm hn (loadable_of_small hs) (relocBytes R) z hz
  refine ⟨?_, fun hbad => ?_⟩
  · rintro ⟨h8, hle, hcap⟩
    obtain ⟨j, hj⟩ : ∃ j, j = (z - dlast.length) / 8 := ⟨_, rfl⟩
    rw [← hj]
    -- the stream after the earlier bodies is the enlarged last body followed by the entries that remain
    have hl : (dlast ++ relocBytes (R.take j)).length = z := by
      rw [List.length_append, length_relocBytes, List.length_take, Nat.min_eq_left (by omega)]; omega
    have hw : dlast ++ relocBytes R = (dlast ++ relocBytes (R.take j)) ++ relocBytes (R.drop j) := by
      rw [List.append_assoc, ← relocBytes_append, List.take_append_drop]
    rw [hlast, if_neg (not_not_intro hcap), hw, if_neg (by rw [List.length_append, hl]; omega), List.take_left' hl,
      List.drop_left' hl]
    have hs32 : ∀ d ∈ dpre ++ [dlast ++ relocBytes (R.take j)], d.length < 2 ^ 32 := by
      intro d hd
      rcases List.mem_append.1 hd with h | h
      · exact Nat.lt_of_le_of_lt (hs d h) (by decide)
      · rw [List.mem_singleton.1 h, hl]; exact hz
    obtain ⟨A, hA, hr, _⟩ := applyRelocs_good cfg alloc hnz (by simpa [hm] using hn) hs32
      ((g.sublist (List.drop_sublist j R)).extends (extends_snoc dpre dlast _))
    exact ⟨A, hA, hr⟩
  · rw [hlast]
    by_cases hcap : CapOk z
    · rw [if_neg (not_not_intro hcap), if_pos hcap]
      split
      · rfl
      · -- the loop ends well only on a whole number of entries
        rcases applyRelocs_cases cfg hh
          { bufs := loadedBufs alloc 0 (dpre ++ [(dlast ++ relocBytes R).take z]), relocs := [], init := loadInitialSize }
          ((dlast ++ relocBytes R).drop z) with ⟨A', _, h2⟩ | h1
        · have hl : (dlast ++ relocBytes R).length = dlast.length + 8 * R.length := by rw [List.length_append, length_relocBytes]
          rw [List.length_drop] at h2
          exact absurd ⟨by omega, by omega, hcap⟩ hbad
        · exact h1
    · rw [if_pos hcap, if_neg hcap]

theorem load_patch_size_lowered (cfg : LoaderCfg) (alloc : Nat → Nat) (dpre : List Bytes) (dlast : Bytes) {m : Nat} (hm : dpre.length = m)
    (hn : m + 1 ≤ maxBuffers) (hs : ∀ d ∈ dpre, d.length ≤ 2 ^ 31) (hd : dlast.length ≤ 2 ^ 31) (tail : Bytes) (z : Nat)
    (hlt : z < dlast.length) :
    load cfg alloc (patch (image (dpre ++ [dlast]) tail) (sizeFieldAt m) (leBytes 4 z)) =
      applyRelocs cfg { bufs := loadedBufs alloc 0 (dpre ++ [dlast.take z]), relocs := [], init := loadInitialSize }
        (dlast.drop z ++ tail) := by
  rw [load_patch_size_last cfg alloc dpre dlast hm hn (loadable_of_small hs) tail z (by omega),
    if_neg (not_not_intro (capOk_of_le (by omega))), if_neg (by rw [List.length_append]; omega),
    List.take_append_of_le_length (by omega), List.drop_append_of_le_length (by omega)]

theorem load_patch_size_lowered_dvd (cfg : LoaderCfg) (hh : Hardened cfg) (alloc : Nat → Nat) (dpre : List Bytes) (dlast : Bytes)
    {m : Nat} (hm : dpre.length = m) (hn : m + 1 ≤ maxBuffers) (hs : ∀ d ∈ dpre, d.length ≤ 2 ^ 31) (hd : dlast.length ≤ 2 ^ 31)
    (R : List Ref) (z : Nat) (hlt : z < dlast.length) :
    (∃ A', load cfg alloc (patch (image (dpre ++ [dlast]) (relocBytes R)) (sizeFieldAt m) (leBytes 4 z)) = .ok A' ∧
      (dlast.length - z) % 8 = 0) ∨
    load cfg alloc (patch (image (dpre ++ [dlast]) (relocBytes R)) (sizeFieldAt m) (leBytes 4 z)) = .error .corruptFile := by
  rw [load_patch_size_lowered cfg alloc dpre dlast hm hn hs hd (relocBytes R) z hlt]
  rcases applyRelocs_cases cfg hh
    { bufs := loadedBufs alloc 0 (dpre ++ [dlast.take z]), relocs := [], init := loadInitialSize }
    (dlast.drop z ++ relocBytes R) with ⟨A', h1, h2⟩ | h1
  · rw [List.length_append, List.length_drop, length_relocBytes] at h2
    exact Or.inl ⟨A', h1, by omega⟩
  · exact Or.inr h1

theorem split_last {α : Type} (l : List α) (m : Nat) (hm : l.length = m + 1) (dflt : α) :
    l = l.take m ++ [l.getD m dflt] := by
  have h : m < l.length := by omega
  rw [← List.getElem_eq_getD (h := h) dflt, ← List.take_succ_eq_append_getElem h, ← hm, List.take_length]

theorem save_eq_image_last (a : Arena) (m : Nat) (hm : a.bufs.length = m + 1) :
    save a = image ((bodies (toRefs a)).take m ++ [(bodies (toRefs a)).getD m []]) (relocBytes a.relocs) := by
  rw [← split_last _ m (by rw [length_bodies_toRefs, hm]) []]
  exact save_eq_image a

theorem saved_last_small {a : Arena} (hn : a.bufs.length ≤ maxBuffers) (hs2 : ∀ b ∈ a.bufs, b.data.length ≤ 2 ^ 31) {m : Nat}
    (hm : a.bufs.length = m + 1) :
    ((bodies (toRefs a)).take m).length = m ∧ m + 1 ≤ maxBuffers ∧ (∀ d ∈ (bodies (toRefs a)).take m, d.length ≤ 2 ^ 31) ∧
      ((bodies (toRefs a)).getD m []).length ≤ 2 ^ 31 := by
  refine ⟨by rw [List.length_take, length_bodies_toRefs]; omega, hm ▸ hn,
    fun d hd => length_le_of_mem_bodies_toRefs hs2 d (List.mem_of_mem_take hd), ?_⟩
  rw [length_getD_bodies_toRefs]
  exact hs2 _ (getD_mem m (by omega))

end YaraModel.Arena
