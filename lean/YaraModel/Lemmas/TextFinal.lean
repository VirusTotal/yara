/- Text strings, third part: `anyKey m` (the specification with every xor key admitted: its variants are the findings), the
   candidate fold of `pipeline` (ordered insertion without duplicates), verification of one candidate against the
   specification (exact at every offset that is neither an F19 nor an F20 offset:
   `accepted_iff_admissible`), and the two together: what the engine reports for a candidate stage that delivers exactly the
   occurrences of the indexed atoms (`CandsOK`). -/
import YaraModel.Base.List
import YaraModel.Lemmas.TextVerify
namespace YaraModel.Text

/-- what the verifier, which does not know the xor range, works with -/
def anyKey (m : Mods) : Mods := { m with xor := m.xor.map fun _ => (0, 255) }

theorem occurrencesAnyKey_eq (m : Mods) (s buf : Bytes) : occurrencesAnyKey m s buf = occurrences (anyKey m) s buf := rfl

theorem inRange_full (k : UInt8) : inRange (0, 255) k = true := by
  have := k.toNat_lt
  simp only [inRange, UInt8.le_iff_toNat_le, Bool.and_eq_true, decide_eq_true_eq]
  exact ⟨Nat.zero_le _, by show k.toNat ≤ 255; omega⟩

theorem mem_variantsAt_anyKey {m : Mods} {s buf : Bytes} {o n : Nat} {k : UInt8} {wide : Bool} :
    (n, k, wide) ∈ variantsAt (anyKey m) s buf o ↔ s ≠ [] ∧ n = scale wide s.length ∧ Found m s buf o wide k := by
  have hf : Found (anyKey m) s buf o wide k ↔ Found m s buf o wide k := by
    simp only [Found, anyKey, Option.isSome_map]; cases wide <;> rfl
  rw [mem_variantsAt, hf]
  refine and_congr_right fun _ => and_congr_right fun _ => and_iff_left_of_imp fun h => ?_
  -- the key of a finding is 0 or found with `xor` present: both in the range 0–255, and 0 is the key allowed without `xor`
  unfold keyOK anyKey
  obtain ⟨_, ⟨rfl, _⟩ | ⟨_, hx, _⟩⟩ := h
  · cases m.xor <;> simp [inRange_full]
  · obtain ⟨r, hr⟩ := Option.isSome_iff_exists.mp hx
    simp [hr, inRange_full]

def Asc (l : List Match) : Prop := List.Pairwise (fun a b => a.off < b.off) l

theorem insertMatch_eq (x : Match) : ∀ l, insertMatch x l = List.insertKey Match.off x l
  | [] => rfl
  | y :: t => by
    simp only [insertMatch, List.insertKey, insertMatch_eq x t, beq_iff_eq]
    by_cases h1 : x.off < y.off
    · rw [if_pos h1, if_neg (Nat.ne_of_lt h1), if_pos h1]
    · rw [if_neg h1, if_neg h1]

theorem mem_insertMatch {x y : Match} {l : List Match} (h : y ∈ insertMatch x l) : y ∈ l ∨ y = x :=
  (List.insertKey_spec Match.off x l).2.1 y (insertMatch_eq x l ▸ h)

theorem offs_insertMatch (x : Match) (l : List Match) (o : Nat) :
    o ∈ (insertMatch x l).map (·.off) ↔ o ∈ l.map (·.off) ∨ o = x.off := by
  obtain ⟨h1, h2, z, hz, hk⟩ := List.insertKey_spec Match.off x l
  rw [insertMatch_eq]
  simp only [List.mem_map]
  constructor
  · rintro ⟨y, hy, rfl⟩
    exact (h2 y hy).imp (fun h => ⟨y, h, rfl⟩) (fun h => congrArg Match.off h)
  · rintro (⟨y, hy, rfl⟩ | rfl)
    · exact ⟨y, h1 y hy, rfl⟩
    · exact ⟨z, hz, hk⟩

theorem asc_insertMatch (x : Match) (l : List Match) (h : Asc l) : Asc (insertMatch x l) :=
  insertMatch_eq x l ▸ List.pairwise_insertKey Match.off x h

theorem occurrences_offs (m : Mods) (s buf : Bytes) :
    (occurrences m s buf).map (·.1) = (List.range (buf.length + 1)).filter (fun o => !(admissibleAt m s buf o).isEmpty) := by
  unfold occurrences
  generalize List.range (buf.length + 1) = L
  induction L with
  | nil => rfl
  | cons o t ih =>
    simp only [List.filterMap_cons, List.filter_cons]
    cases h : admissibleAt m s buf o with
    | nil => simpa using ih
    | cons x xs => simpa using ih

theorem flag_of_variant {m : Mods} {s buf : Bytes} {o : Nat} {v : Nat × UInt8 × Bool} (hv : v ∈ variantsAt m s buf o) :
    v.2.2 = (v.1 == 2 * s.length) := by
  obtain ⟨n, k, wide⟩ := v
  obtain ⟨hs, rfl, _⟩ := mem_variantsAt.mp hv
  exact (scale_beq wide hs).symm

theorem variant_inbounds {m : Mods} {s buf : Bytes} {o : Nat} {v : Nat × UInt8 × Bool} (hv : v ∈ variantsAt m s buf o) :
    o + v.1 ≤ buf.length := by
  obtain ⟨n, k, wide⟩ := v
  obtain ⟨_, rfl, hocc, _⟩ := mem_variantsAt.mp hv
  rw [← enc_length]
  exact hocc.inbounds

/-- no F19 at `o` -/
def KeysAllowedAt (m : Mods) (s buf : Bytes) (o : Nat) : Prop :=
  ∀ v ∈ variantsAt (anyKey m) s buf o, v ∈ variantsAt m s buf o

/-- finding F20's situation at `o` -/
def MixedAt (m : Mods) (s buf : Bytes) (o : Nat) : Prop :=
  m.fullword = true ∧ (∃ v ∈ variantsAt m s buf o, fullwordOK buf o v.1 v.2.2 = true) ∧
    (∃ v ∈ variantsAt m s buf o, fullwordOK buf o v.1 v.2.2 = false)

theorem mem_admissible {m : Mods} {s buf : Bytes} {o : Nat} {p : Nat × UInt8} :
    p ∈ admissibleAt m s buf o ↔
      ∃ v ∈ variantsAt m s buf o, (m.fullword = true → fullwordOK buf o v.1 v.2.2 = true) ∧ p = (v.1, v.2.1) := by
  unfold admissibleAt
  simp only [List.mem_map, List.mem_filter, Bool.or_eq_true, Bool.not_eq_true']
  constructor
  · rintro ⟨v, ⟨hv, hf⟩, rfl⟩
    exact ⟨v, hv, fun hfw => hf.resolve_left (by simp [hfw]), rfl⟩
  · rintro ⟨v, hv, hf, rfl⟩
    refine ⟨v, ⟨hv, ?_⟩, rfl⟩
    cases hfw : m.fullword
    · exact Or.inl rfl
    · exact Or.inr (hf hfw)

theorem verifyCandidate_eq_some {m : Mods} {s buf : Bytes} {bt o : Nat} {x : Match} :
    verifyCandidate m s bt buf o = some x ↔
      ∃ fm k, forwardMatches m s bt buf o = (fm, k) ∧ fm ≠ 0 ∧ o + fm ≤ buf.length ∧
        (m.fullword = true → fullwordOK buf o fm (fm == 2 * s.length) = true) ∧ x = ⟨o, fm, k⟩ := by
  unfold verifyCandidate
  cases forwardMatches m s bt buf o with
  | mk fm k =>
    simp only [Option.ite_none_left_eq_some, Option.some.injEq, Prod.mk.injEq, beq_iff_eq, gt_iff_lt, Nat.not_lt, Bool.and_eq_true,
      Bool.not_eq_true', not_and, Bool.not_eq_false]
    constructor
    · rintro ⟨h0, h1, h2, rfl⟩; exact ⟨fm, k, ⟨rfl, rfl⟩, h0, h1, h2, rfl⟩
    · rintro ⟨_, _, ⟨rfl, rfl⟩, h0, h1, h2, rfl⟩; exact ⟨h0, h1, h2, rfl⟩

/-- Two backtracks: `o` is the offset at which the string would start; `bt` is the backtrack of the automaton's match entry
    (`YR_AC_MATCH.backtrack`, third component of `AC.scan`'s reports), which counts back from the END of the atom, so
    `bt = a.bytes.length + a.backtrack`, where `Atom.backtrack` is the position of the atom inside the (encoded) string. -/
abbrev RaisedAt (w : Nat) (m : Mods) (s buf : Bytes) (o bt : Nat) : Prop :=
  ∃ a ∈ atomsOf w m s, atomAt a buf o ∧ bt = a.bytes.length + a.backtrack

/-- `hpos`: only a string that does not fit its atom needs to be told that the comparison found something; for one that fits,
    `fm ≠ 0` follows from the candidate (soundness has `fm ≠ 0` in both cases, completeness has it for non-fitting strings only) -/
theorem forwardMatches_occurs {w : Nat} {m : Mods} {s buf : Bytes} {bt o fm : Nat} {k : UInt8} (hleg : m.legal = true) (hs : s ≠ [])
    (hw : ValidWindow w s) (hc : RaisedAt w m s buf o bt)
    (h : forwardMatches m s bt buf o = (fm, k)) (hpos : fitsInAtom m s = false → fm ≠ 0) :
    fm ≠ 0 ∧ (fm, k, fm == 2 * s.length) ∈ variantsAt (anyKey m) s buf o := by
  have key : ∃ wide, fm = scale wide s.length ∧ Found m s buf o wide k := by
    cases hf : fitsInAtom m s with
    | true =>
      obtain ⟨a, ha, hat, rfl⟩ := hc
      obtain ⟨wide, k', hfm, hocc⟩ := forwardMatches_fits_sound hleg hs hw hf ha hat
      obtain ⟨rfl, rfl⟩ := Prod.mk.inj (h.symm.trans hfm)
      exact ⟨wide, rfl, hocc⟩
    | false => exact forwardMatches_nonfits_sound hleg hf h (hpos hf)
  obtain ⟨wide, rfl, hocc⟩ := key
  rw [scale_beq wide hs]
  exact ⟨scale_ne_zero wide hs, mem_variantsAt_anyKey.mpr ⟨hs, rfl, hocc⟩⟩

theorem verify_sound {w : Nat} {m : Mods} {s buf : Bytes} {bt o : Nat} {x : Match}
    (hleg : m.legal = true) (hs : s ≠ []) (hw : ValidWindow w s) (hc : RaisedAt w m s buf o bt)
    (h : verifyCandidate m s bt buf o = some x) :
    x.off = o ∧ (x.len, x.key, x.len == 2 * s.length) ∈ variantsAt (anyKey m) s buf o ∧
    (m.fullword = true → fullwordOK buf o x.len (x.len == 2 * s.length) = true) := by
  obtain ⟨fm, k, hfm, hpos, _, hfw, rfl⟩ := verifyCandidate_eq_some.mp h
  exact ⟨rfl, (forwardMatches_occurs hleg hs hw hc hfm fun _ => hpos).2, hfw⟩

theorem verify_complete {w : Nat} {m : Mods} {s buf : Bytes} {bt o : Nat}
    (hleg : m.legal = true) (hw : ValidWindow w s) (hc : RaisedAt w m s buf o bt)
    (h19 : KeysAllowedAt m s buf o)
    (h20 : ¬ MixedAt m s buf o)
    (hadm : admissibleAt m s buf o ≠ []) : (verifyCandidate m s bt buf o).isSome = true := by
  obtain ⟨p, hp⟩ := List.exists_mem_of_ne_nil _ hadm
  obtain ⟨⟨n, k0, wide⟩, hv, hvf, _⟩ := mem_admissible.mp hp
  obtain ⟨hs, _, hocc, _⟩ := mem_variantsAt.mp hv
  cases hfm : forwardMatches m s bt buf o with
  | mk fm k =>
    have hnf : fitsInAtom m s = false → fm ≠ 0 := fun hf => by
      have := forwardMatches_nonfits_complete (bt := bt) hleg hs hf hocc
      rwa [hfm] at this
    obtain ⟨hpos, hmem⟩ := forwardMatches_occurs hleg hs hw hc hfm hnf
    have hmem := h19 _ hmem
    refine Option.isSome_iff_exists.mpr ⟨_, verifyCandidate_eq_some.mpr ⟨fm, k, hfm, hpos, variant_inbounds hmem, ?_, rfl⟩⟩
    intro hfw
    cases hok : fullwordOK buf o fm (fm == 2 * s.length) with
    | true => rfl
    | false => exact absurd ⟨hfw, ⟨_, hv, hvf hfw⟩, ⟨_, hmem, hok⟩⟩ h20

theorem verify_admissible {w : Nat} {m : Mods} {s buf : Bytes} {bt o : Nat} {x : Match}
    (hleg : m.legal = true) (hs : s ≠ []) (hw : ValidWindow w s) (hc : RaisedAt w m s buf o bt)
    (h19 : KeysAllowedAt m s buf o)
    (h : verifyCandidate m s bt buf o = some x) : x.off = o ∧ (x.len, x.key) ∈ admissibleAt m s buf o := by
  obtain ⟨h1, h2, h3⟩ := verify_sound hleg hs hw hc h
  exact ⟨h1, mem_admissible.mpr ⟨_, h19 _ h2, h3, rfl⟩⟩

theorem accepted_iff_admissible {w : Nat} {m : Mods} {s buf : Bytes} (hleg : m.legal = true) (hs : s ≠ []) (hw : ValidWindow w s)
    (o : Nat) (h19 : KeysAllowedAt m s buf o) (h20 : ¬ MixedAt m s buf o) :
    (∃ a ∈ atomsOf w m s, atomAt a buf o ∧ (verifyCandidate m s (a.bytes.length + a.backtrack) buf o).isSome = true) ↔
      admissibleAt m s buf o ≠ [] := by
  constructor
  · rintro ⟨a, ha, hat, hsome⟩
    obtain ⟨x, hx⟩ := Option.isSome_iff_exists.mp hsome
    exact List.ne_nil_of_mem (verify_admissible hleg hs hw ⟨a, ha, hat, rfl⟩ h19 hx).2
  · intro hne
    obtain ⟨p, hp⟩ := List.exists_mem_of_ne_nil _ hne
    obtain ⟨⟨n, k, wide⟩, hv, _, _⟩ := mem_admissible.mp hp
    obtain ⟨_, _, hocc⟩ := mem_variantsAt.mp hv
    obtain ⟨a, ha, hat⟩ := atomAt_of_found hleg hs hw hocc
    exact ⟨a, ha, hat, verify_complete hleg hw ⟨a, ha, hat, rfl⟩ h19 h20 hne⟩

/-- hypotheses on the candidate stage: exactly the occurrences of the indexed atoms.  A candidate is `(o, bt)` as at `RaisedAt`. -/
structure CandsOK (w : Nat) (m : Mods) (s buf : Bytes) (C : List (Nat × Nat)) : Prop where
  exact : ∀ c ∈ C, ∃ a ∈ atomsOf w m s, atomAt a buf c.1 ∧ c.2 = a.bytes.length + a.backtrack
  complete : ∀ a ∈ atomsOf w m s, ∀ o, atomAt a buf o → (o, a.bytes.length + a.backtrack) ∈ C

/-- the offsets where some indexed atom occurs and its candidate is verified (`accepted_iff_admissible`'s left side) -/
def acceptedAt (w : Nat) (m : Mods) (s buf : Bytes) : List Nat :=
  (List.range (buf.length + 1)).filter fun o => (atomsOf w m s).any fun a =>
    window buf (o + a.backtrack) a.bytes.length == some a.bytes &&
      (verifyCandidate m s (a.bytes.length + a.backtrack) buf o).isSome

theorem acceptedAt_eq_occurrences {w : Nat} {m : Mods} {s buf : Bytes} (hleg : m.legal = true) (hs : s ≠ []) (hw : ValidWindow w s)
    (h19 : ∀ o, KeysAllowedAt m s buf o) (h20 : ∀ o, ¬ MixedAt m s buf o) :
    acceptedAt w m s buf = (occurrences m s buf).map (·.1) := by
  rw [occurrences_offs]
  apply List.filter_congr
  intro o _
  rw [Bool.eq_iff_iff]
  simpa [atomAt, List.isEmpty_iff] using accepted_iff_admissible hleg hs hw o (h19 o) (h20 o)

theorem pipeline_fold (m : Mods) (s buf : Bytes) (C : List (Nat × Nat)) :
    Asc (pipeline m s buf C) ∧
    (∀ o, o ∈ (pipeline m s buf C).map (·.off) ↔ ∃ c ∈ C, c.1 = o ∧ (verifyCandidate m s c.2 buf c.1).isSome = true) ∧
    (∀ x ∈ pipeline m s buf C, ∃ c ∈ C, verifyCandidate m s c.2 buf c.1 = some x) := by
  refine List.foldl_prefix_inv (fun pre acc => Asc acc ∧
    (∀ o, o ∈ acc.map (·.off) ↔ ∃ c ∈ pre, c.1 = o ∧ (verifyCandidate m s c.2 buf c.1).isSome = true) ∧
    (∀ x ∈ acc, ∃ c ∈ pre, verifyCandidate m s c.2 buf c.1 = some x)) C ⟨List.Pairwise.nil, by simp, by simp⟩ ?_
  rintro pre c _ acc _ ⟨h1, h2, h3⟩
  cases hv : verifyCandidate m s c.2 buf c.1 with
  | none =>
    refine ⟨h1, fun o => ?_, fun x hx => ?_⟩
    · simp [h2 o, hv, or_and_right, exists_or]
    · obtain ⟨c', hc', h⟩ := h3 x hx
      exact ⟨c', List.mem_append_left _ hc', h⟩
  | some y =>
    have hy : y.off = c.1 := by obtain ⟨_, _, _, _, _, _, rfl⟩ := verifyCandidate_eq_some.mp hv; rfl
    refine ⟨asc_insertMatch y acc h1, fun o => ?_, fun x hx => ?_⟩
    · simp [offs_insertMatch, h2 o, hv, hy, or_and_right, exists_or, eq_comm (a := o)]
    · rcases mem_insertMatch hx with h | rfl
      · obtain ⟨c', hc', h⟩ := h3 x h
        exact ⟨c', List.mem_append_left _ hc', h⟩
      · exact ⟨c, by simp, hv⟩

theorem pipeline_spec {w : Nat} {m : Mods} {s buf : Bytes} {C : List (Nat × Nat)} (hC : CandsOK w m s buf C) :
    (pipeline m s buf C).map (·.off) = acceptedAt w m s buf ∧ Asc (pipeline m s buf C) ∧
    ∀ x ∈ pipeline m s buf C, ∃ c ∈ C, verifyCandidate m s c.2 buf c.1 = some x := by
  obtain ⟨hasc, hoffs, hmem⟩ := pipeline_fold m s buf C
  refine ⟨?_, hasc, hmem⟩
  -- two strictly ascending lists with the same members are equal
  have hl := (List.pairwise_map (f := Match.off) (R := (· < ·))).mpr hasc
  have hr : (acceptedAt w m s buf).Pairwise (· < ·) := List.Pairwise.filter _ List.pairwise_lt_range
  refine List.Perm.eq_of_pairwise (fun _ _ _ _ hab hba => absurd hab (Nat.lt_asymm hba)) hl hr
    ((List.perm_ext_iff_of_nodup (hl.imp Nat.ne_of_lt) (hr.imp Nat.ne_of_lt)).mpr fun o => ?_)
  unfold acceptedAt
  simp only [hoffs o, List.mem_filter, List.mem_range, List.any_eq_true, Bool.and_eq_true, beq_iff_eq]
  constructor
  · rintro ⟨c, hc, rfl, hsome⟩
    obtain ⟨a, ha, hat, hbt⟩ := hC.exact c hc
    have := (window_eq_some.mp hat).1
    exact ⟨by omega, a, ha, hat, hbt ▸ hsome⟩
  · rintro ⟨_, a, ha, hat, hsome⟩
    exact ⟨_, hC.complete a ha o hat, rfl, hsome⟩

end YaraModel.Text
