/- C11: what the message lists of the specification (Spec/Callback.lean) contain — kinds of messages in each part of the
   protocol, order and multiplicity, what `specMatching` means, and which count comparisons cannot see the match limit. -/
import YaraModel.Spec.Callback
import YaraModel.Base.List
namespace YaraModel.Cb

theorem Msg.isRule_excl {m : Msg} (h : m.isRule = true) :
    m.isModule = false ∧ m.isTooMany = false ∧ m ≠ .scanFinished := by
  cases m <;> simp_all [Msg.isRule, Msg.isModule, Msg.isTooMany]

theorem Msg.isModule_excl {m : Msg} (h : m.isModule = true) :
    m.isRule = false ∧ m.isTooMany = false ∧ m ≠ .scanFinished := by
  cases m <;> simp_all [Msg.isRule, Msg.isModule, Msg.isTooMany]

theorem isTooMany_eq {m : Msg} (h : m.isTooMany = true) : ∃ s, m = .tooManyMatches s := by
  cases m <;> simp_all [Msg.isTooMany]

theorem ruleMsg_eq_some {rs : List Rule} {fl : Flags} {r : Rule} {i : Nat} {m : Msg} :
    ruleMsg rs fl (r, i) = some m ↔ r.isPrivate = false ∧
      ((m = .ruleMatching i ∧ fl.matching = true ∧ specMatching rs i r = true) ∨
       (m = .ruleNotMatching i ∧ fl.notMatching = true ∧ specMatching rs i r = false)) := by
  simp only [ruleMsg]
  cases r.isPrivate <;> cases specMatching rs i r <;> simp [@eq_comm _ _ m, and_comm]

theorem ruleMsg_ruleIdx {rs : List Rule} {fl : Flags} {ri : Rule × Nat} {m : Msg} (h : ruleMsg rs fl ri = some m) :
    m.isRule = true ∧ m.ruleIdx = ri.2 := by
  rcases (ruleMsg_eq_some.1 h).2 with ⟨rfl, _⟩ | ⟨rfl, _⟩ <;> exact ⟨rfl, rfl⟩

theorem mem_ruleMsgs {rs : List Rule} {fl : Flags} {m : Msg} :
    m ∈ ruleMsgs rs fl ↔ ∃ r i, rs[i]? = some r ∧ ruleMsg rs fl (r, i) = some m := by
  simp [ruleMsgs, List.mem_filterMap, List.mem_zipIdx_iff_getElem?]

theorem mem_ruleMsgs_matching (rs : List Rule) (fl : Flags) (i : Nat) :
    (Msg.ruleMatching i ∈ ruleMsgs rs fl ↔
      ∃ r, rs[i]? = some r ∧ r.isPrivate = false ∧ fl.matching = true ∧ specMatching rs i r = true) ∧
    (Msg.ruleNotMatching i ∈ ruleMsgs rs fl ↔
      ∃ r, rs[i]? = some r ∧ r.isPrivate = false ∧ fl.notMatching = true ∧ specMatching rs i r = false) := by
  simp only [mem_ruleMsgs, ruleMsg_eq_some, Msg.ruleMatching.injEq, Msg.ruleNotMatching.injEq, reduceCtorEq, false_and,
    or_false, false_or]
  constructor <;>
    exact ⟨fun ⟨r, _, h1, h2, rfl, h3⟩ => ⟨r, h1, h2, h3⟩, fun ⟨r, h1, h2, h3⟩ => ⟨r, i, h1, h2, rfl, h3⟩⟩

theorem ruleMsgs_isRule {rs : List Rule} {fl : Flags} {m : Msg} (h : m ∈ ruleMsgs rs fl) : m.isRule = true := by
  obtain ⟨r, i, _, h2⟩ := mem_ruleMsgs.1 h
  exact (ruleMsg_ruleIdx h2).1

theorem moduleMsgs_isModule {imports : List String} {m : Msg} (h : m ∈ moduleMsgs imports) : m.isModule = true := by
  simp only [moduleMsgs, List.mem_flatMap, List.mem_cons, List.not_mem_nil, or_false] at h
  obtain ⟨x, _, rfl | rfl⟩ := h <;> rfl

theorem mem_distinctModules (ms : List String) (m : String) : m ∈ distinctModules ms ↔ m ∈ ms := by
  induction ms with
  | nil => simp [distinctModules]
  | cons x xs ih =>
    simp only [distinctModules, List.mem_cons, List.mem_filter, ih, bne_iff_ne, ne_eq]
    by_cases h : m = x <;> simp [h]

theorem nodup_distinctModules (ms : List String) : (distinctModules ms).Nodup := by
  induction ms with
  | nil => exact .nil
  | cons x xs ih => exact List.nodup_cons.2 ⟨by simp, ih.filter _⟩

theorem count_distinctModules (ms : List String) (m : String) :
    (distinctModules ms).count m = if m ∈ ms then 1 else 0 := by
  simp only [(nodup_distinctModules ms).count, mem_distinctModules]

theorem count_flatMap_once {α β : Type} [DecidableEq α] [BEq β] [LawfulBEq β] {f : α → List β} {y : β} {a : α}
    (h : ∀ x, (f x).count y = if x = a then 1 else 0) (l : List α) : (l.flatMap f).count y = l.count a := by
  induction l with
  | nil => rfl
  | cons x xs ih =>
    rw [List.flatMap_cons, List.count_append, ih, h, List.count_cons, Nat.add_comm]
    simp only [beq_iff_eq]

theorem count_import_pairs (l : List String) (m : String) :
    (l.flatMap fun x => [Msg.importModule x, Msg.moduleImported x]).count (.importModule m) = l.count m ∧
    (l.flatMap fun x => [Msg.importModule x, Msg.moduleImported x]).count (.moduleImported m) = l.count m :=
  ⟨count_flatMap_once (fun x => by by_cases h : x = m <;> simp [h]) l,
   count_flatMap_once (fun x => by by_cases h : x = m <;> simp [h]) l⟩

theorem protocol_tail_not_module {rs : List Rule} {fl : Flags} {m : Msg}
    (h : m ∈ ruleMsgs rs fl ++ [.scanFinished]) : m.isModule = false := by
  rcases List.mem_append.1 h with h | h
  · exact (Msg.isRule_excl (ruleMsgs_isRule h)).1
  · rw [List.mem_singleton.1 h]; rfl

theorem protocol_filter_rule (rs : List Rule) (imports : List String) (fl : Flags) :
    (protocol rs imports fl).filter Msg.isRule = ruleMsgs rs fl := by
  have h1 : (moduleMsgs imports).filter Msg.isRule = [] :=
    List.filter_eq_nil_iff.2 fun a ha => by simp [(Msg.isModule_excl (moduleMsgs_isModule ha)).1]
  have h2 : (ruleMsgs rs fl).filter Msg.isRule = ruleMsgs rs fl :=
    List.filter_eq_self.2 fun a ha => ruleMsgs_isRule ha
  simp [protocol, List.filter_append, h1, h2, Msg.isRule]

theorem finished_not_mem_body (rs : List Rule) (imports : List String) (fl : Flags) :
    Msg.scanFinished ∉ moduleMsgs imports ++ ruleMsgs rs fl := by
  intro h
  rcases List.mem_append.1 h with h | h
  · exact (Msg.isModule_excl (moduleMsgs_isModule h)).2.2 rfl
  · exact (Msg.isRule_excl (ruleMsgs_isRule h)).2.2 rfl

theorem protocol_not_tooMany {rs : List Rule} {imports : List String} {fl : Flags} {m : Msg}
    (h : m ∈ protocol rs imports fl) : m.isTooMany = false := by
  simp only [protocol, List.mem_append, List.mem_singleton] at h
  rcases h with (h | h) | rfl
  · exact (Msg.isModule_excl (moduleMsgs_isModule h)).2.1
  · exact (Msg.isRule_excl (ruleMsgs_isRule h)).2.1
  · rfl

theorem tooManyMsgsFrom_isTooMany {limit : Nat} {seen es : List Nat} {m : Msg}
    (h : m ∈ tooManyMsgsFrom limit seen es) : m.isTooMany = true := by
  induction es generalizing seen with
  | nil => simp [tooManyMsgsFrom] at h
  | cons s es ih =>
    simp only [tooManyMsgsFrom, List.mem_append] at h
    rcases h with h | h
    · split at h <;> simp at h; subst h; rfl
    · exact ih h

theorem count_tooManyMsgsFrom (limit : Nat) (seen es : List Nat) (s : Nat) :
    (tooManyMsgsFrom limit seen es).count (.tooManyMatches s) =
      if seen.count s ≤ limit ∧ limit < (seen ++ es).count s then 1 else 0 := by
  induction es generalizing seen with
  | nil => simp [tooManyMsgsFrom]
  | cons x es ih =>
    rw [tooManyMsgsFrom, List.count_append, ih, List.append_assoc, List.singleton_append, List.count_append,
      List.count_singleton, List.count_append, List.count_cons]
    by_cases hx : x = s
    · subst hx
      -- the sweep is over three guards, each linear in `seen.count x`, `limit`, `es.count x`: this occurrence overflows (first
      -- summand), a later one does (induction hypothesis, count one higher), this or a later one does (right-hand side)
      by_cases hl : seen.count x = limit <;> simp [hl] <;> (repeat' split) <;> omega
    · have : (if seen.count x = limit then [Msg.tooManyMatches x] else []).count (.tooManyMatches s) = 0 := by
        split <;> simp [hx]
      simp [hx, this]

theorem count_tooManyMsgs (limit : Nat) (events : List Nat) (s : Nat) :
    (tooManyMsgs limit events).count (.tooManyMatches s) = if limit < events.count s then 1 else 0 := by
  simp [tooManyMsgs, count_tooManyMsgsFrom]

theorem tooManyMsgs_eq_nil_iff (limit : Nat) (events : List Nat) :
    tooManyMsgs limit events = [] ↔ ∀ s, events.count s ≤ limit := by
  simp only [List.eq_nil_iff_forall_not_mem]
  constructor
  · intro h s
    have := count_tooManyMsgs limit events s
    rw [List.count_eq_zero.2 (h _)] at this
    split at this <;> omega
  · intro h m hm
    obtain ⟨s, rfl⟩ := isTooMany_eq (tooManyMsgsFrom_isTooMany hm)
    have := List.count_pos_iff.2 hm
    rw [count_tooManyMsgs, if_neg (Nat.not_lt.2 (h s))] at this
    cases this

theorem truthTable_snoc (rs : List Rule) (r : Rule) :
    truthTable (rs ++ [r]) = truthTable rs ++ [r.cond.holds (condHolds rs)] := by
  simp only [truthTable, List.foldl_append, List.foldl_cons, List.foldl_nil]
  rfl

theorem truthTable_length (rs : List Rule) : (truthTable rs).length = rs.length := by
  induction rs using List.snoc_induction with
  | nil => rfl
  | snoc l a ih => simp [truthTable_snoc, ih]

theorem globalsHold_snoc (l : List Rule) (a : Rule) (ns : Nat) :
    globalsHold (l ++ [a]) ns =
      (globalsHold l ns && (!(a.isGlobal && a.ns == ns) || a.cond.holds (condHolds l))) := by
  simp only [globalsHold, truthTable_snoc]
  rw [List.zip_append (by simp [truthTable_length])]
  simp only [List.zip_cons_cons, List.zip_nil_right, List.all_append, List.all_cons, List.all_nil, Bool.and_true]

theorem condHolds_snoc_lt (rs : List Rule) (a : Rule) (j : Nat) (h : j < rs.length) :
    condHolds (rs ++ [a]) j = condHolds rs j := by
  simp [condHolds, truthTable_snoc, List.getD_eq_getElem?_getD, List.getElem?_append_left, truthTable_length, h]

theorem condHolds_snoc_last (rs : List Rule) (a : Rule) :
    condHolds (rs ++ [a]) rs.length = a.cond.holds (condHolds rs) := by
  simp [condHolds, truthTable_snoc, List.getD_eq_getElem?_getD, truthTable_length]

def Cond.refsBelow (n : Nat) : Cond → Prop
  | .lit _ => True
  | .str _ => True
  | .cnt _ _ => True
  | .rule j => j < n
  | .not c => c.refsBelow n
  | .and a b => a.refsBelow n ∧ b.refsBelow n
  | .or a b => a.refsBelow n ∧ b.refsBelow n

theorem holds_congr (c : Cond) (n : Nat) (e1 e2 : Nat → Bool) (hc : c.refsBelow n) (he : ∀ j, j < n → e1 j = e2 j) :
    c.holds e1 = c.holds e2 := by
  induction c with
  | lit b => rfl
  | str f => rfl
  | cnt f g => rfl
  | rule j => exact he j hc
  | not c ih => simp [Cond.holds, ih hc]
  | and a b iha ihb => simp [Cond.holds, iha hc.1, ihb hc.2]
  | or a b iha ihb => simp [Cond.holds, iha hc.1, ihb hc.2]

/-- Every condition refers only to rules defined before its own rule: what yara's compiler enforces (a rule identifier
    must be declared before it is used, `ERROR_UNDEFINED_IDENTIFIER` otherwise). Hypothesis of `condHolds_is_the_fixpoint`. -/
def BackRefs (rs : List Rule) : Prop := ∀ (i : Nat) (r : Rule), rs[i]? = some r → r.cond.refsBelow i

theorem condHolds_fixpoint (rs : List Rule) (h : BackRefs rs) (i : Nat) (r : Rule) (hr : rs[i]? = some r) :
    condHolds rs i = r.cond.holds (condHolds rs) := by
  induction rs using List.snoc_induction generalizing i r with
  | nil => simp at hr
  | snoc l a ih =>
    have hl : BackRefs l := fun j g hg =>
      h j g (by rw [List.getElem?_append_left (List.getElem?_eq_some_iff.1 hg).1]; exact hg)
    have hagree (c : Cond) (n : Nat) (hc : c.refsBelow n) (hn : n ≤ l.length) :
        c.holds (condHolds l) = c.holds (condHolds (l ++ [a])) :=
      holds_congr c n _ _ hc fun j hj => (condHolds_snoc_lt l a j (by omega)).symm
    rcases Nat.lt_or_ge i l.length with hlt | hge
    · have hr' : l[i]? = some r := by rwa [List.getElem?_append_left hlt] at hr
      rw [condHolds_snoc_lt l a i hlt, ih hl i r hr']
      exact hagree _ i (hl i r hr') (Nat.le_of_lt hlt)
    · rw [List.getElem?_append_right hge, List.getElem?_singleton] at hr
      split at hr <;> cases hr
      obtain rfl : i = l.length := by omega
      rw [condHolds_snoc_last]
      exact hagree _ _ (h _ a (by simp)) (Nat.le_refl _)

theorem condHolds_unique (rs : List Rule) (h : BackRefs rs) (t : Nat → Bool)
    (ht : ∀ (i : Nat) (r : Rule), rs[i]? = some r → t i = r.cond.holds t) (i : Nat) (hi : i < rs.length) :
    t i = condHolds rs i := by
  induction i using Nat.strongRecOn with
  | _ i ih =>
    have hr : rs[i]? = some rs[i] := List.getElem?_eq_getElem hi
    rw [ht i _ hr, condHolds_fixpoint rs h i _ hr]
    exact holds_congr _ i _ _ (h i _ hr) (fun j hj => ih j hj (by omega))

theorem globalsHold_iff (rs : List Rule) (ns : Nat) :
    globalsHold rs ns = true ↔
      ∀ (j : Nat) (g : Rule), rs[j]? = some g → g.isGlobal = true → g.ns = ns → condHolds rs j = true := by
  simp only [globalsHold, List.all_eq_true, List.mem_iff_getElem?, List.getElem?_zip_eq_some, condHolds,
    List.getD_eq_getElem?_getD]
  constructor
  · rintro h j g hg hgl rfl
    have hj : j < (truthTable rs).length := truthTable_length rs ▸ (List.getElem?_eq_some_iff.1 hg).1
    simpa [hgl, List.getElem?_eq_getElem hj] using h (g, (truthTable rs)[j]) ⟨j, hg, List.getElem?_eq_getElem hj⟩
  · rintro h ⟨g, b⟩ ⟨j, hg, hb⟩
    have := h j g hg
    simp only [hb, Option.getD_some] at this
    cases hgl : g.isGlobal
    · rfl
    · by_cases hns : g.ns = ns
      · simp [this hgl hns]
      · simp [hns]

/-- Hypothesis of `warning_changes_nothing_else`: every `#s > n` in the condition has `n < limit`, or is about a string
    with at most `limit` occurrences (`occ s`), so capping the match counts at `YR_MAX_STRING_MATCHES` cannot change its
    value (`$s` never can, for `0 < limit`). -/
def SCond.limitFree (limit : Nat) (occ : Nat → Nat) : SCond → Prop
  | .lit _ => True
  | .str _ => True
  | .cnt s n => occ s ≤ limit ∨ n < limit
  | .rule _ => True
  | .not c => c.limitFree limit occ
  | .and a b => a.limitFree limit occ ∧ b.limitFree limit occ
  | .or a b => a.limitFree limit occ ∧ b.limitFree limit occ

theorem resolve_limitFree (limit : Nat) (hl : 0 < limit) (occ : Nat → Nat) (c : SCond)
    (h : c.limitFree limit occ) : c.resolve (fun s => min (occ s) limit) = c.resolve occ := by
  induction c with
  | lit b => rfl
  | rule j => rfl
  | str s => simp [SCond.resolve, Nat.lt_min, hl]
  | cnt s n =>
    have : n < occ s → n < limit := fun h' => h.elim (Nat.lt_of_lt_of_le h') id
    simpa [SCond.resolve, Nat.lt_min, hl] using this
  | not c ih => rw [SCond.resolve, ih h]; rfl
  | and a b iha ihb => rw [SCond.resolve, iha h.1, ihb h.2]; rfl
  | or a b iha ihb => rw [SCond.resolve, iha h.1, ihb h.2]; rfl

end YaraModel.Cb
