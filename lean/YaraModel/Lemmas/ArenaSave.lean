/- What `save_restores` and `save_no_assert` (Thm/C08) are made of: save's last loop is the in-place map of `backVal`
   (`restore_eq`), pointer -> reference -> pointer is the identity on valid pointers (`back_of_toRef`), and on a well-formed
   arena neither loop of yr_arena_save_stream trips its assert (`saveOk_of_wf`, `restoreOk_of_wf`). -/
import YaraModel.Lemmas.ArenaKeys
namespace YaraModel.Arena

theorem restoreStep_fst (bufs : List Buf) (x : Arena) (ok : Bool) (r : Ref) :
    (restoreStep bufs (x, ok) r).1 = setSlot x r (backVal bufs (getSlot x r)) := by
  unfold restoreStep backVal
  cases h : refToPtr bufs (decRef (getSlot x r)) with
  | ok p => rfl
  | error e => simp only [setSlot_getSlot_id]

theorem restore_eq (x : Arena) : restore x = mapSlots (backVal x.bufs) x.relocs x :=
  foldl_fst_eq_mapSlots (restoreStep_fst x.bufs) ..

theorem foldl_toRefsStep_snd (bufs : List Buf) {rs : List Ref} {x : Arena} (h : SlotsOk x rs)
    (hv : ∀ r ∈ rs, (ptrToRef bufs (getSlot x r)).1 = true) :
    (rs.foldl (toRefsStep bufs) (x, true)).2 = true := by
  induction rs generalizing x with
  | nil => rfl
  | cons r t ih =>
    have ⟨hno, _⟩ := h.head
    simp only [List.foldl_cons, toRefsStep, hv r (List.mem_cons_self ..), Bool.and_self]
    apply ih (h.tail.setSlot r _)
    intro s hs
    rw [getSlot_setSlot_other _ (hno s hs)]
    exact hv s (List.mem_cons_of_mem _ hs)

theorem foldl_restoreStep_snd (bufs : List Buf) {rs : List Ref} {x : Arena} (h : SlotsOk x rs)
    (hv : ∀ r ∈ rs, ∃ p, refToPtr bufs (decRef (getSlot x r)) = .ok p) :
    (rs.foldl (restoreStep bufs) (x, true)).2 = true := by
  induction rs generalizing x with
  | nil => rfl
  | cons r t ih =>
    have ⟨hno, _⟩ := h.head
    obtain ⟨p, hp⟩ := hv r (List.mem_cons_self ..)
    simp only [List.foldl_cons, restoreStep, hp]
    apply ih (h.tail.setSlot r _)
    intro s hs
    rw [getSlot_setSlot_other _ (hno s hs)]
    exact hv s (List.mem_cons_of_mem _ hs)

theorem back_of_toRef {a : Arena} (h : WF a) {v : Nat} (hv : ValidPtr a.bufs v) :
    refToPtr a.bufs (decRef (encRef (ptrToRef a.bufs v).2)) = .ok v ∧ (ptrToRef a.bufs v).1 = true := by
  refine ⟨?_, (decRef_encRef_valid h hv).1⟩
  rw [(decRef_encRef_valid h hv).2]
  obtain ⟨_, ⟨rfl, h2⟩ | ⟨t, ht, hb, ho, hbase, rfl⟩⟩ := ptrToRef_valid h.ranges hv
  · rw [h2]; rfl
  · rw [ht, refToPtr_some hb (Nat.le_of_lt ho), if_neg hbase]

theorem saveOk_of_wf {a : Arena} (h : WF a) : saveOk a = true := by
  exact foldl_toRefsStep_snd a.bufs h.slots
    (fun r hr => (back_of_toRef h (h.valid r hr)).2)

theorem restoreOk_of_wf {a : Arena} (h : WF a) : (restoreC (toRefs a)).2 = true := by
  unfold restoreC
  rw [toRefs_eq, mapSlots_relocs]
  apply foldl_restoreStep_snd
  · exact h.slots.mapSlots _ _
  · intro r hr
    refine ⟨getSlot a r, ?_⟩
    rw [refToPtr_congr (keys_mapSlots _ _ _), getSlot_mapSlots _ h.slots hr, Nat.mod_eq_of_lt (encRef_lt _)]
    exact (back_of_toRef h (h.valid r hr)).1

end YaraModel.Arena
