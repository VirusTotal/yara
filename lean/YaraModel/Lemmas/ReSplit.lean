/-
  Splitting a pattern at its chaining points (Model/ReSplit.lean) preserves the language: the pattern matches [p, q) iff its
  pieces match one after the other with every gap inside [gap_min, gap_max] — the re-joining rule of chained strings
  (byte mode, jumps match any byte).
-/
import YaraModel.Model.ReSplit
import YaraModel.Lemmas.ReAlgebra
namespace YaraModel.ReSplit
open YaraModel.Re YaraModel.ReChain

/-- the pieces match one after the other, each gap within its bounds; a non-empty gap lies inside the data (the jump consumes
    bytes), an empty one may sit anywhere -/
def ChainM (fl : Flags) (buf : Bytes) : Re → List (Gap × Re) → Nat → Nat → Prop
  | x, [], p, q => Re.Matches fl buf x p q
  | x, (g, y) :: t, p, q => ∃ e s, Re.Matches fl buf x p e ∧ e + g.gmin ≤ s ∧ s ≤ e + g.gmax ∧ (s = e ∨ s ≤ buf.size) ∧ ChainM fl buf y t s q

section
variable {fl : Flags} {buf : Bytes}

theorem unspine_cons (x : Re) {l : List Re} (h : l ≠ []) : unspine (x :: l) = .cat x (unspine l) := by
  cases l with
  | nil => exact absurd rfl h
  | cons y t => rfl

theorem unspine_append : ∀ {l1 l2 : List Re}, l1 ≠ [] → l2 ≠ [] → ∀ p q,
    (Re.Matches fl buf (unspine (l1 ++ l2)) p q ↔ ∃ t, Re.Matches fl buf (unspine l1) p t ∧ Re.Matches fl buf (unspine l2) t q)
  | [], _, h, _, _, _ => absurd rfl h
  | [x], l2, _, h2, p, q => by
    simp only [List.singleton_append]
    rw [unspine_cons x h2, cat_iff]; rfl
  | x :: y :: t, l2, _, h2, p, q => by
    have hne2 : (y :: t) ≠ [] := List.cons_ne_nil _ _
    rw [List.cons_append, unspine_cons x (List.append_ne_nil_of_left_ne_nil hne2 _), unspine_cons x hne2]
    simp only [cat_iff, unspine_append hne2 h2]
    exact ⟨fun ⟨u, h1, t', k1, k2⟩ => ⟨t', ⟨u, h1, k1⟩, k2⟩, fun ⟨t', ⟨u, h1, k1⟩, k2⟩ => ⟨u, h1, t', k1, k2⟩⟩

theorem unspine_spine : ∀ (r : Re), unspine (spine r) = r ∧ spine r ≠ []
  | .cat a b => by
    have ih := unspine_spine b
    simp only [spine]
    exact ⟨by rw [unspine_cons a ih.2, ih.1], by simp⟩
  | .lit _ | .masked _ _ | .notLit _ | .maskedNot _ _ | .any | .cls _ _ | .wordCh | .nonWordCh | .space | .nonSpace | .digit
  | .nonDigit | .empty | .alt _ _ | .star _ _ | .plus _ _ | .range _ _ _ _ | .rangeAny _ _ _ | .bol | .eol | .wordB | .nonWordB => by
    simp [spine, unspine]

theorem chainPoint_inv {x : Re} (h : isChainPoint x = true) : ∃ lo hi, x = .rangeAny lo hi false := by
  cases x with
  | rangeAny lo hi g => cases g <;> simp [isChainPoint] at h ⊢
  | _ => simp [isChainPoint] at h

theorem splitGo_sem (hd : fl.dotall = true) (hw : fl.wide = false) (t cur : List Re) (hne : cur ++ t ≠ []) (p q : Nat) :
    (Re.Matches fl buf (unspine (cur ++ t)) p q ↔
      ChainM fl buf (unspine (splitGo cur t).1) ((splitGo cur t).2.map fun gp => (gp.1, unspine gp.2)) p q) := by
  fun_induction splitGo cur t generalizing p q with
  | case1 cur => simp [ChainM]
  | case2 cur x t hc ih =>
    simp only [Bool.and_eq_true, Bool.not_eq_true', List.isEmpty_eq_false_iff] at hc
    obtain ⟨⟨hx, hcur⟩, ht⟩ := hc
    obtain ⟨lo, hi, rfl⟩ := chainPoint_inv hx
    -- `cur ++ jump :: t` is `cur`, then the jump before `t`: the gap rule, and the induction hypothesis on `t`
    simp only [List.map_cons, ChainM, unspine_append hcur (List.cons_ne_nil _ _), unspine_cons _ ht, jump_cat_iff hd hw, gapOf,
      ← ih (by simpa using ht), List.nil_append]
    exact ⟨fun ⟨e, h1, s, h2⟩ => ⟨e, s, h1, h2⟩, fun ⟨e, s, h1, h2⟩ => ⟨e, h1, s, h2⟩⟩
  | case3 cur x t _ ih =>
    have := ih (by simp) p q
    rwa [List.append_assoc] at this

theorem chainSplit_sem (hd : fl.dotall = true) (hw : fl.wide = false) (r : Re) (p q : Nat) :
    Re.Matches fl buf r p q ↔ ChainM fl buf (chainSplit r).1 (chainSplit r).2 p q := by
  have h := splitGo_sem (fl := fl) (buf := buf) hd hw (spine r) [] (by simpa using (unspine_spine r).2) p q
  simp only [List.nil_append, (unspine_spine r).1] at h
  exact h

end

end YaraModel.ReSplit
