/-
  From the chosen masked atoms to what `yr_ac_add_string` receives (Model/ReAtoms.lean `atomsOf`): wildcard expansion
  (`_yr_atoms_expand_wildcards`), widened atoms (`_yr_atoms_wide`) and case variants (`_yr_atoms_case_insensitive`); the result
  is `atomsOf_cover`.
  The facts about case combinations come from the text-string stack (Lemmas/TextAtoms.lean): the model has
  `_yr_atoms_case_combinations` twice (`ReAtoms.caseCombos`, `Text.caseCombos`), and the two are one function.
-/
import YaraModel.Lemmas.ReAtoms
import YaraModel.Lemmas.TextAtoms
namespace YaraModel.ReAtoms
open YaraModel.Re

/-- two lists related pointwise (Mathlib's `List.Forall₂`; core has none) -/
inductive F2 {α β : Type} (R : α → β → Prop) : List α → List β → Prop
  | nil : F2 R [] []
  | cons {a b l1 l2} : R a b → F2 R l1 l2 → F2 R (a :: l1) (b :: l2)

theorem F2.length_eq {α β : Type} {R : α → β → Prop} : ∀ {l1 : List α} {l2 : List β}, F2 R l1 l2 → l1.length = l2.length
  | _, _, .nil => rfl
  | _, _, .cons _ h => by simp [F2.length_eq h]

theorem F2.take {α β : Type} {R : α → β → Prop} : ∀ {l1 : List α} {l2 : List β}, F2 R l1 l2 → ∀ n, F2 R (l1.take n) (l2.take n)
  | [], _, h, n => by cases h; simp; exact .nil
  | x :: t, _, h, n => by
    cases h with
    | cons hx ht =>
      cases n with
      | zero => simp; exact .nil
      | succ k => simp only [List.take_succ_cons]; exact .cons hx (F2.take ht k)

def BytesAt (buf : Bytes) : List UInt8 → Nat → Prop
  | [], _ => True
  | b :: t, s => buf[s]? = some b ∧ BytesAt buf t (s + 1)

theorem bytesAt_take {buf : Bytes} {l : List UInt8} {s : Nat} (h : BytesAt buf l s) : ∀ n, BytesAt buf (l.take n) s := by
  induction l generalizing s with
  | nil => intro n; simp [BytesAt]
  | cons b t ih =>
    intro n
    cases n with
    | zero => simp [BytesAt]
    | succ k => simp only [List.take_succ_cons, BytesAt]; exact ⟨h.1, ih h.2 k⟩

theorem all256 {P : UInt8 → Prop} (h : ∀ n, n < 256 → P (UInt8.ofNat n)) (c : UInt8) : P c := by
  have := h c.toNat c.toNat_lt
  rwa [UInt8.ofNat_toNat] at this

theorem low_nib (c : UInt8) : c = (c &&& 0x0F) ||| UInt8.ofNat ((c.toNat / 16) * 16) ∧ c.toNat / 16 < 16 :=
  all256 (P := fun c => c = (c &&& 0x0F) ||| UInt8.ofNat ((c.toNat / 16) * 16) ∧ c.toNat / 16 < 16) (by decide +kernel) c

theorem high_nib (c : UInt8) : c = (c &&& 0xF0) ||| UInt8.ofNat (c.toNat % 16) ∧ c.toNat % 16 < 16 :=
  all256 (P := fun c => c = (c &&& 0xF0) ||| UInt8.ofNat (c.toNat % 16) ∧ c.toNat % 16 < 16) (by decide +kernel) c

section
variable {fl : Flags} {buf : Bytes}

def CharsAt (fl : Flags) (buf : Bytes) : List UInt8 → Nat → Prop
  | [], _ => True
  | c :: t, s => buf[s]? = some c ∧ (fl.wide = true → buf[s + 1]? = some 0) ∧ CharsAt fl buf t (s + fl.cs)

def NodeRel (fl : Flags) (n : Node) (c : UInt8) : Prop :=
  MaskGood n.mask ∧ (c &&& n.mask = n.byte ∨ (fl.nocase = true ∧ n.mask = 0xFF ∧ lower c = lower n.byte))

theorem atomAt_chars {T : List (Nat × Nat)} : ∀ {a : Atom} {s : Nat}, AtomAt (rdOf fl buf T) a s →
    ∃ cs, F2 (NodeRel fl) a cs ∧ CharsAt fl buf cs s
  | [], _, _ => ⟨[], .nil, trivial⟩
  | n :: t, s, h => by
    obtain ⟨⟨⟨c, h1, h2, h3⟩, _, hg⟩, ht⟩ := h
    obtain ⟨cs, k1, k2⟩ := atomAt_chars (a := t) ht
    exact ⟨c :: cs, .cons ⟨hg, h3⟩ k1, h1, h2, k2⟩

def CaseRel (nc : Bool) (e c : UInt8) : Prop := c = e ∨ (nc = true ∧ lower c = lower e)

/-- the values `expand` lets a node stand for include every byte that has the node's value under its mask -/
theorem mem_vals {m b c : UInt8} (hg : MaskGood m) (hv : c &&& m = b) :
    c ∈ (if m == 0x00 then (List.range 256).map UInt8.ofNat
      else if m == 0x0F then (List.range 16).map fun h => b ||| UInt8.ofNat (h * 16)
      else if m == 0xF0 then (List.range 16).map fun l => b ||| UInt8.ofNat l
      else [b]) := by
  subst hv
  rcases hg with rfl | rfl | rfl | rfl
  · rw [and_255]; exact List.mem_singleton.2 rfl
  · exact List.mem_map.2 ⟨c.toNat, List.mem_range.2 c.toNat_lt, UInt8.ofNat_toNat⟩
  · exact List.mem_map.2 ⟨c.toNat / 16, List.mem_range.2 (low_nib c).2, (low_nib c).1.symm⟩
  · exact List.mem_map.2 ⟨c.toNat % 16, List.mem_range.2 (high_nib c).2, (high_nib c).1.symm⟩

theorem expand_mem : ∀ {a : Atom} {cs : List UInt8}, F2 (NodeRel fl) a cs →
    ∃ e ∈ expand a, F2 (CaseRel fl.nocase) e cs
  | [], _, h => by cases h; exact ⟨[], by simp [expand], .nil⟩
  | n :: t, _, h => by
    cases h with
    | @cons _ c _ cs' hn ht =>
      obtain ⟨e, he, hr⟩ := expand_mem ht
      obtain ⟨hg, hv | ⟨h1, h2, h3⟩⟩ := hn
      · -- the character itself is among the node's values
        refine ⟨c :: e, ?_, .cons (.inl rfl) hr⟩
        simp only [expand, List.mem_flatMap, List.mem_map]
        exact ⟨c, mem_vals hg hv, e, he, rfl⟩
      · -- nocase: a literal byte, the character is the same letter
        refine ⟨n.byte :: e, ?_, .cons (.inr ⟨h1, h3⟩) hr⟩
        simp only [expand, List.mem_flatMap, List.mem_map, h2]
        exact ⟨n.byte, List.mem_singleton.2 rfl, e, he, rfl⟩

theorem lower_eq_text (c : UInt8) : Re.lower c = Text.lower c := by
  simp only [Re.lower, Text.lower, Bool.and_eq_true, decide_eq_true_eq]

theorem caseCombos_eq_text : ∀ bs, caseCombos bs = Text.caseCombos bs
  | [] => rfl
  | c :: t => by simp only [caseCombos, Text.caseCombos, caseCombos_eq_text t]; rfl

theorem map_lower_of_caseRel : ∀ {e act : List UInt8}, F2 (CaseRel true) e act → act.map Text.lower = e.map Text.lower
  | _, _, .nil => rfl
  | _, _, .cons (a := a) (b := b) hx ht => by
    have : Text.lower b = Text.lower a := by
      rcases hx with rfl | ⟨_, hx⟩
      · rfl
      · rwa [lower_eq_text, lower_eq_text] at hx
    simp only [List.map_cons, this, map_lower_of_caseRel ht]

theorem caseCombos_mem {e act : List UInt8} (h : F2 (CaseRel true) e act) : act ∈ caseCombos e := by
  rw [caseCombos_eq_text]; exact Text.mem_caseCombos.2 (map_lower_of_caseRel h)

theorem caseRel_false_eq : ∀ {e act : List UInt8}, F2 (CaseRel false) e act → act = e
  | [], _, h => by cases h; rfl
  | x :: t, _, h => by
    cases h with
    | cons hx ht =>
      rcases hx with rfl | ⟨h1, _⟩
      · rw [caseRel_false_eq ht]
      · simp at h1

theorem chars_bytes_narrow (hw : fl.wide = false) : ∀ {cs : List UInt8} {s : Nat}, CharsAt fl buf cs s → BytesAt buf cs s
  | [], _, _ => trivial
  | c :: t, s, h => by
    obtain ⟨h1, _, h3⟩ := h
    rw [Flags.cs_narrow hw] at h3
    exact ⟨h1, chars_bytes_narrow hw h3⟩

def interleave (l : List UInt8) : List UInt8 := l.flatMap fun c => [c, 0]

theorem interleave_length (l : List UInt8) : (interleave l).length = 2 * l.length := by
  induction l with
  | nil => rfl
  | cons x t ih => simp only [interleave, List.flatMap_cons, List.length_append, List.length_cons, List.length_nil] at ih ⊢; omega

theorem widen_eq (b : List UInt8) : widen b = (interleave b).take 4 := rfl

theorem chars_bytes_wide (hw : fl.wide = true) : ∀ {cs : List UInt8} {s : Nat}, CharsAt fl buf cs s → BytesAt buf (interleave cs) s
  | [], _, _ => trivial
  | c :: t, s, h => by
    obtain ⟨h1, h2, h3⟩ := h
    rw [Flags.cs_wide hw] at h3
    exact ⟨h1, h2 hw, chars_bytes_wide hw h3⟩

theorem caseRel_interleave {nc : Bool} : ∀ {e cs : List UInt8}, F2 (CaseRel nc) e cs →
    F2 (CaseRel nc) (interleave e) (interleave cs)
  | [], _, h => by cases h; exact .nil
  | x :: t, _, h => by
    cases h with
    | cons hx ht =>
      exact .cons hx (.cons (.inl rfl) (caseRel_interleave ht))

end


/-! the stages of `atomsOf` (its `let`s, named) -/
def baseAtoms (q : Atom → Int) (r : Re) : List (List UInt8 × Nat) :=
  (chosen q r).flatMap fun a => (expand a).map fun b => (b, (a.headD default).id)

def encoded (m : Mods) (base : List (List UInt8 × Nat)) : List (List UInt8 × Nat) :=
  if m.wide then (if m.ascii then base else []) ++ base.map (fun (b, i) => (widen b, i)) else base

def cased (m : Mods) (enc : List (List UInt8 × Nat)) : List (List UInt8 × Nat) :=
  if m.nocase then enc.flatMap (fun (b, i) => (caseCombos b).map (·, i)) else enc

theorem atomsOf_eq (q : Atom → Int) (m : Mods) (r : Re) : atomsOf q m r =
    if (cased m (encoded m (baseAtoms q r))).isEmpty then [([], 0)] else cased m (encoded m (baseAtoms q r)) := rfl

theorem mem_atomsOf {q : Atom → Int} {m : Mods} {r : Re} {x : List UInt8 × Nat}
    (h : x ∈ cased m (encoded m (baseAtoms q r))) : x ∈ atomsOf q m r := by
  rw [atomsOf_eq]
  cases hc : cased m (encoded m (baseAtoms q r)) with
  | nil => rw [hc] at h; cases h
  | cons y t => rw [hc] at h; exact h

theorem mem_encoded_narrow {m : Mods} {base : List (List UInt8 × Nat)} {x : List UInt8 × Nat}
    (h : m.wide = false ∨ m.ascii = true) (hx : x ∈ base) : x ∈ encoded m base := by
  unfold encoded
  rcases h with h | h
  · rw [h]; exact hx
  · split
    · exact List.mem_append_left _ hx
    · exact hx

theorem mem_encoded_wide {m : Mods} {base : List (List UInt8 × Nat)} {b : List UInt8} {i : Nat}
    (h : m.wide = true) (hx : (b, i) ∈ base) : (widen b, i) ∈ encoded m base := by
  unfold encoded
  rw [if_pos h]
  exact List.mem_append_right _ (List.mem_map.2 ⟨(b, i), hx, rfl⟩)

theorem mem_cased {m : Mods} {enc : List (List UInt8 × Nat)} {mb act : List UInt8} {i : Nat}
    (hrel : F2 (CaseRel m.nocase) mb act) (hx : (mb, i) ∈ enc) : (act, i) ∈ cased m enc := by
  unfold cased
  cases hn : m.nocase with
  | true =>
    rw [hn] at hrel
    exact List.mem_flatMap.2 ⟨(mb, i), hx, List.mem_map.2 ⟨act, caseCombos_mem hrel, rfl⟩⟩
  | false =>
    rw [hn] at hrel
    rw [caseRel_false_eq hrel]; exact hx

/-- Model of `yr_atoms_extract_from_re` for a non-literal hex / regex string with modifiers `m`, for
    EVERY quality function: along every traced match [p, q') of the expression — byte or wide characters, with or without
    nocase, as the string's modifiers allow — one of the byte sequences handed to `yr_ac_add_string` occurs LITERALLY in
    the buffer inside [p, q'), at the position where the match has the node the atom begins at (leaf `x.2`); or the string
    has the zero-length atom. -/
theorem atomsOf_cover (q : Atom → Int) (m : Mods) (fl : Flags) (buf : Bytes) (hw1 : fl.wide = true → m.wide = true)
    (hw0 : fl.wide = false → (m.wide = false ∨ m.ascii = true)) (hn : m.nocase = fl.nocase) (r : Re) (hmk : MaskOK r)
    {p q' : Nat} {T : List (Nat × Nat)} (hm : Tr fl buf r 0 p q' T) :
    ∃ x ∈ atomsOf q m r, ∃ s, p ≤ s ∧ s + x.1.length ≤ q' ∧ BytesAt buf x.1 s ∧ (x.1 = [] ∨ (x.2, s) ∈ T) := by
  have hpq : p ≤ q' := (Matches.bounds hm.matches).1
  rcases chosen_cover q r hmk hm with h0 | ⟨a, ha, s, hs1, hs2, hat⟩
  · refine ⟨([], 0), ?_, p, Nat.le_refl _, by simpa using hpq, trivial, .inl rfl⟩
    simp [atomsOf, h0]
  · obtain ⟨cs, k1, k2⟩ := atomAt_chars hat
    obtain ⟨e, he, hr⟩ := expand_mem k1
    have hlen : cs.length = a.length := (F2.length_eq k1).symm
    have hbase : (e, (a.headD default).id) ∈ baseAtoms q r :=
      List.mem_flatMap.2 ⟨a, ha, List.mem_map.2 ⟨e, he, rfl⟩⟩
    -- the model bytes and the actual bytes, in the layout of the match
    obtain ⟨mb, act, hmb, hact, hrel, hlenact⟩ : ∃ mb act : List UInt8,
        (mb, (a.headD default).id) ∈ encoded m (baseAtoms q r) ∧ BytesAt buf act s ∧ F2 (CaseRel m.nocase) mb act ∧
        act.length ≤ a.length * fl.cs := by
      rw [hn]
      cases hw : fl.wide with
      | true =>
        refine ⟨widen e, (interleave cs).take 4, mem_encoded_wide (hw1 hw) hbase, bytesAt_take (chars_bytes_wide hw k2) 4,
          widen_eq e ▸ (caseRel_interleave hr).take 4, ?_⟩
        simp only [List.length_take, interleave_length, Flags.cs_wide hw]; omega
      | false =>
        refine ⟨e, cs, mem_encoded_narrow (hw0 hw) hbase, chars_bytes_narrow hw k2, hr, ?_⟩
        rw [Flags.cs_narrow hw]; omega
    refine ⟨_, mem_atomsOf (mem_cased hrel hmb), s, hs1, Nat.le_trans (Nat.add_le_add_left hlenact s) hs2, hact, ?_⟩
    cases a with
    | nil => exact .inl (List.eq_nil_of_length_eq_zero (by simpa using hlenact))
    | cons n t => exact .inr hat.1.2.1

end YaraModel.ReAtoms
