/- Aho-Corasick construction, the whole `_yr_ac_build_transition_table` pass: the root is `writeRow` on the empty tables, the packing
   invariant holds with every state popped, and the table-size assertion cannot fail for automata of bounded size -/
import YaraModel.Lemmas.AcBuildPack
import YaraModel.Lemmas.AcBuildFail
namespace YaraModel.AC.Build
open YaraModel.Text

theorem getD_replicate_zero (n i : Nat) : (Array.replicate n (0 : UInt32)).getD i 0 = 0 := by
  simp only [Array.getD_eq_getD_getElem?, Array.getElem?_replicate]
  split <;> rfl

def blank (A : Auto) : Pack :=
  { A := A, t := Array.replicate 512 0, m := Array.replicate 512 0, used := Array.replicate 512 false, cand := 1, ok := true }

theorem isUsed_replicate_false (n i : Nat) : isUsed (Array.replicate n false) i = false := by
  unfold isUsed
  simp only [Array.getD_eq_getD_getElem?, Array.getElem?_replicate]
  split <;> rfl

/-- `initRoot` is the loop body run for the root on the empty tables, with slot 0 instead of a search: the root's own slot and its
    failure link are 0, so the two writes that `initRoot` does not do (the target into "the entry in the parent's row", the header) put 0
    at position 0, where 0 stands already -/
theorem initRoot_eq {A : Auto} (hz0 : (A.st 0).slot = 0) (hf0 : (A.st 0).failure = 0) : initRoot A = writeRow (blank A) 0 0 := by
  have hA : A.modify 0 (fun x => { x with slot := 0 }) = A :=
    modify_noop A 0 _ (by generalize A.st 0 = st at hz0; cases st; cases hz0; rfl)
  have h0 : (0 : UInt32) ||| (UInt32.ofNat 0 <<< 9) = 0 := by decide
  unfold initRoot writeRow blank
  simp only
  rw [hA, hf0, hz0, getD_replicate_zero, h0, mk_zero, Array.setIfInBounds_replicate_self, Array.setIfInBounds_replicate_self]

theorem blank_slotted (A : Auto) : Slotted (blank A) (blank A) 0 0 := by
  have hs : (Array.replicate 512 (0 : UInt32)).size = 512 := Array.size_replicate
  have hu : (Array.replicate 512 false).size = 512 := Array.size_replicate
  refine ⟨rfl, ⟨hs.trans hs.symm, hu.trans hs.symm, Nat.le_of_eq hs.symm⟩, ⟨Nat.le_refl _, Nat.le_add_right _ _, Nat.zero_le _⟩,
    fun _ => rfl, fun _ => rfl, fun _ => rfl, by show 0 + 256 < (Array.replicate 512 (0 : UInt32)).size; rw [hs]; decide, ?_, rfl⟩
  rw [fits_iff]
  exact ⟨isUsed_replicate_false 512 _, fun _ _ => isUsed_replicate_false 512 _⟩

/-- in `Placed.t_eq` the clause for the entry in the parent's row is never reached: for the root it sits at `slot` itself, behind the
    header clause -/
theorem initRoot_placed {A : Auto} (hz0 : (A.st 0).slot = 0) (hf0 : (A.st 0).failure = 0) :
    Placed (blank A) (initRoot A) 0 0 := by
  rw [initRoot_eq hz0 hf0]
  exact (blank_slotted A).placed

theorem blank_I4 {A0 : Auto} (hz0 : (A0.st 0).slot = 0) : I4 A0 (blank A0) [] := by
  have ht : ∀ i, (blank A0).t.getD i 0 = 0 := fun i => getD_replicate_zero 512 i
  have hts : (blank A0).t.size = 512 := Array.size_replicate
  have hms : (blank A0).m.size = 512 := Array.size_replicate
  have hus : (blank A0).used.size = 512 := Array.size_replicate
  refine ⟨⟨hms.trans hts.symm, hus.trans hts.symm, by rw [hts]; exact Nat.le_refl _⟩, rfl, rfl, fun _ => rfl,
    fun _ hx => absurd hx List.not_mem_nil, hz0, fun _ _ hx => absurd hx List.not_mem_nil,
    fun _ hp => absurd hp List.not_mem_nil, fun i _ => ht i, fun i hi => ?_⟩
  · rw [show isUsed (blank A0).used i = false from isUsed_replicate_false 512 i] at hi; cases hi

theorem buildTransitionTable_I4 {A0 : Auto} {atoms : List (Nat × Atom)} (h3 : I3 A0 atoms) (hz0 : (A0.st 0).slot = 0) :
    ∃ ord, OrderOK A0 ord ∧ I4 A0 (buildTransitionTable A0) (0 :: ord) := by
  have hT := h3.mf.trie
  have hroot : I4 A0 (initRoot A0) [0] :=
    (initRoot_placed hz0 h3.root_fail).I4 hT (blank_I4 hz0) hT.size_pos List.not_mem_nil (Or.inl ⟨rfl, rfl, rfl, h3.root_fail⟩)
      (fun _ _ => List.not_mem_nil)
  refine bfs_pass hT (fun (P : Pack) s => kids P.A s) packStep (fun pre P => I4 A0 P (0 :: pre))
    (fun _ P hP => funext fun s => noslot_children (hP.frame s)) _ hroot ?_
  intro pre cur P v hP
  obtain ⟨f1, f2, _⟩ := h3.fail cur v.range.1 v.range.2
  have hfs : (A0.st cur).failure ∈ 0 :: pre :=
    List.mem_cons.mpr ((Nat.eq_zero_or_pos _).imp id (fun h => v.before _ h f1 f2))
  have hpar : ∃ p0 ∈ 0 :: pre, p0 < A0.states.size ∧ cur ∈ (A0.st p0).children :=
    v.linked.imp fun p hp => ⟨hp.1, mem_children_lt hp.2, hp.2⟩
  have hne : ∀ y, cur ≤ y → y ∉ pre → y ∉ 0 :: pre := fun y hy hyp =>
    List.not_mem_cons_of_ne_of_not_mem (Nat.ne_of_gt (Nat.lt_of_lt_of_le v.range.1 hy)) hyp
  exact (packStep_placed P cur hP.sized).I4 hT hP v.range.2 (hne cur (Nat.le_refl _) v.fresh) (Or.inr ⟨List.mem_cons_self, hfs, hpar⟩)
    (fun y hy => hne y (Nat.le_of_lt (hT.child_lt cur v.range.2 y hy).1) (v.kid_fresh hT hy))

theorem initRoot_ok (A : Auto) : Sized (initRoot A) ∧ (initRoot A).ok = true ∧ (initRoot A).t.size = 512 ∧
    ∀ j, noslot ((initRoot A).A.st j) = noslot (A.st j) := by
  unfold initRoot
  have hq := placeFold_spec 0 (A.st 0).children
    ({ A := A, t := Array.replicate 512 0, m := (Array.replicate 512 0).setIfInBounds 0 (UInt32.ofNat (A.st 0).matchesRef), used := (Array.replicate 512 false).setIfInBounds 0 true, cand := 1, ok := true } : Pack)
    (by simp) (by simp)
  exact ⟨⟨by rw [hq.m_eq, hq.t_size]; simp, by rw [hq.used_size, hq.t_size]; simp, by rw [hq.t_size]; simp⟩, by rw [hq.ok_eq], by rw [hq.t_size]; simp, hq.frame⟩

/-- every step makes the tables grow by at most 257 entries, and its slot lies within the old tables: the assertion holds
    as long as the final size stays below the limit. (`n` is a variable to keep the literal from `omega`) -/
theorem buildTransitionTable_ok {A : Auto} (hT : Trie A) {n : Nat} (hb : 512 + 257 * A.states.size ≤ n) (hn : n < 0x800000) :
    (buildTransitionTable A).ok = true := by
  obtain ⟨h1, h2, h3, h4⟩ := initRoot_ok A
  obtain ⟨ord, ho, -, -, -, hok⟩ := bfs_pass hT (fun (P : Pack) s => kids P.A s) packStep
    (fun pre P => (∀ j, noslot (P.A.st j) = noslot (A.st j)) ∧ Sized P ∧ P.t.size ≤ 512 + 257 * pre.length ∧
      (512 + 257 * pre.length ≤ n → P.ok = true))
    (fun _ P hP => funext fun s => noslot_children (hP.1 s)) (initRoot A) ⟨h4, h1, by rw [h3]; simp, fun _ => h2⟩ (by
      intro pre cur P _ ⟨hf, hz, hsz, hok⟩
      clear h3
      have hp := packStep_placed P cur hz
      -- `omega` must see neither `packStep P cur` nor `initRoot A` (cleared above): comparing them with `P` as atoms unfolds them;
      -- and the limit is the variable `n`: with the literal in three hypotheses `omega` runs out of recursion depth
      generalize packStep P cur = P', (findSlot P cur).2 = slot at hp ⊢
      have := hp.grows
      rw [List.length_append, List.length_singleton]
      refine ⟨fun j => (hp.frame j).trans (hf j), hp.sized, by omega, fun hlt => ?_⟩
      rw [hp.ok_eq, hok (by omega), Bool.true_and, decide_eq_true_eq]
      omega)
  have : ord.length ≤ A.states.size := nodup_length_le _ _ ho.nodup (fun x hx => (ho.range x hx).2)
  exact hok (by omega)

theorem walk_size (bytes : Bytes) (A : Auto) (s : Nat) : (walk A s bytes).1.states.size ≤ A.states.size + bytes.length := by
  fun_induction walk A s bytes with      -- cases: 1 no byte left, 2 the child exists, 3 a state is created
  | case1 => exact Nat.le_refl _
  | case2 A s c rest n hn ih => rw [List.length_cons]; omega
  | case3 A s c rest hn r ih => rw [createState_size] at ih; rw [List.length_cons]; omega

theorem addAtom_size (A : Auto) (a : Nat × Atom) : (addAtom A a).states.size ≤ A.states.size + a.2.bytes.length := by
  unfold addAtom
  simp only [size_modify]
  exact walk_size a.2.bytes A 0

theorem addAtoms_size (atoms : List (Nat × Atom)) :
    (addAtoms atoms).states.size ≤ 1 + (atoms.map fun a => a.2.bytes.length).sum := by
  refine List.foldl_prefix_inv (f := addAtom) (b := empty)
    (fun pre A => A.states.size ≤ 1 + (pre.map fun a => a.2.bytes.length).sum) atoms (Nat.le_refl 1) fun pre a _ A _ hA => ?_
  have := addAtom_size A a
  rw [List.map_append, List.sum_append, List.map_singleton, List.sum_singleton]
  omega

/-- the assertion of `_yr_ac_find_suitable_transition_table_slot` holds -/
theorem compile_ok (atoms : List (Nat × Atom)) (hb : 512 + 257 * (addAtoms atoms).states.size < 8388608) :
    (compile (addAtoms atoms)).ok = true := by
  have hs := (createFailureLinks_same (addAtoms atoms)).trans (optimizeFailureLinks_same _)
  unfold compile
  exact buildTransitionTable_ok ((addAtoms_P1 atoms).trie.congr hs) (by rw [hs.1]; exact Nat.le_refl _) hb

end YaraModel.AC.Build
