/- C13: an interrupted block loop, resumed, is the uninterrupted loop; repeating the call until it is no longer suspended is
   the block phase run to completion followed by everything after it, once. Case names of `fun_induction blockLoop`: header
   of Lemmas/ScannerFrame.lean. -/
import YaraModel.Lemmas.ScannerHistory
namespace YaraModel.Scan

variable {P : Params} {v : Variant} {cb : Nat → CbRet} {stack : Nat} {set : Settings} {s : Sc} {c : Core} {it : It} {w : World}
  {rest : List Block} {sched : List Act}

theorem stepOf_cons (a : Act) (t : List Act) :
    stepOf (a :: t) = match a with
      | .notReady => .notReady t
      | .fail e => .fail e t
      | a => .go a t := by
  cases a <;> rfl

theorem dropNR_cons_nr (t : List Act) : dropNR (.notReady :: t) = dropNR t := rfl

theorem stepOf_notReady {sched sc : List Act} (h : stepOf sched = .notReady sc) : sched = .notReady :: sc := by
  cases sched with
  | nil => cases h
  | cons a t => cases a <;> simp [stepOf_cons] at h <;> simp [h]

theorem stepOf_fail_drop {sched sc : List Act} {e : Nat} (h : stepOf sched = .fail e sc) :
    stepOf (dropNR sched) = .fail e (dropNR sc) := by
  cases sched with
  | nil => cases h
  | cons a t => cases a <;> simp [stepOf_cons] at h <;> simp [h, dropNR, isNR, stepOf_cons]

theorem stepOf_go_drop {sched sc : List Act} {a : Act} (h : stepOf sched = .go a sc) :
    stepOf (dropNR sched) = .go a (dropNR sc) ∧ countNR sched = countNR sc := by
  cases sched with
  | nil => cases h; exact ⟨rfl, rfl⟩
  | cons x t =>
    cases x <;> simp [stepOf_cons] at h <;> obtain ⟨rfl, rfl⟩ := h <;>
      simp [dropNR, countNR, isNR, stepOf_cons]

theorem countNR_dropNR (sched : List Act) : countNR (dropNR sched) = 0 := by
  simp [countNR, dropNR]

theorem dropNR_eq_self {sched : List Act} (h : countNR sched = 0) : dropNR sched = sched :=
  List.filter_eq_self.mpr fun a ha => by
    simpa using List.filter_eq_nil_iff.mp (List.eq_nil_of_length_eq_zero h) a ha

def LoopOut.dropNR (o : LoopOut) : LoopOut := { o with sched := Scan.dropNR o.sched }

theorem LoopOut.pre_pre (ms ms' : List Msg) (o : LoopOut) : (o.pre ms').pre ms = o.pre (ms ++ ms') := by
  simp [LoopOut.pre]

/-- a suspended loop (a "segment"): the loop on `dropNR sched` is what it did, then the loop from the suspended state, and one
    not-ready answer is used up; otherwise: the same output, the rest of the schedule filtered -/
theorem blockLoop_segment :
    let o := blockLoop P cb set rest sched c w
    (o.result = .blockNotReady →
      blockLoop P cb set rest (dropNR sched) c w = (blockLoop P cb set o.rest (dropNR o.sched) o.core o.world).pre o.msgs
      ∧ countNR o.sched < countNR sched) ∧
    (o.result ≠ .blockNotReady → blockLoop P cb set rest (dropNR sched) c w = o.dropNR) := by
  fun_induction blockLoop P cb set rest sched c w
  case case1 hs =>
    obtain rfl := stepOf_notReady hs
    exact ⟨fun _ => ⟨rfl, by simp [countNR, List.filter_cons, isNR]⟩, fun h => absurd rfl h⟩
  case case2 hs => exact ⟨nofun, fun _ => blockLoop_fail (stepOf_fail_drop hs)⟩
  case case3 hs => exact ⟨nofun, fun _ => blockLoop_nil_go (stepOf_go_drop hs).1⟩
  case case4 hs _ _ _ hb _ ih =>
    have hd := stepOf_go_drop hs
    rw [blockLoop_cons_go_ok hd.1 hb]
    refine ⟨fun h => ?_, fun h => ?_⟩
    · obtain ⟨h1, h2⟩ := ih.1 h
      rw [h1]
      exact ⟨LoopOut.pre_pre .., hd.2 ▸ h2⟩
    · rw [ih.2 h]; rfl
  case case5 hs _ _ _ _ he hb =>
    rw [blockLoop_cons_go_err (stepOf_go_drop hs).1 hb he]
    exact ⟨fun h => absurd h (scanBlock_result hb), fun _ => rfl⟩

theorem blockLoop_nr_lastError :
    (blockLoop P cb set rest sched c w).result = .blockNotReady →
      (blockLoop P cb set rest sched c w).lastError = .blockNotReady := by
  fun_induction blockLoop P cb set rest sched c w
  case case1 => exact fun _ => rfl
  case case2 | case3 => exact nofun
  case case4 ih => exact ih
  case case5 hb => exact fun h => absurd h (scanBlock_result hb)

/-- `runToEnd` for the block loop alone -/
def loopToEnd (P : Params) (cb : Nat → CbRet) (set : Settings) : Nat → List Block → List Act → Core → World → LoopOut
  | 0, rest, sched, c, w => ⟨c, rest, sched, .blockNotReady, .blockNotReady, w, []⟩
  | n + 1, rest, sched, c, w =>
    let o := blockLoop P cb set rest sched c w
    if o.result = .blockNotReady then (loopToEnd P cb set n o.rest o.sched o.core o.world).pre o.msgs else o

theorem loopToEnd_eq {n : Nat} (h : countNR sched < n) :
    (loopToEnd P cb set n rest sched c w).dropNR = blockLoop P cb set rest (dropNR sched) c w := by
  induction n generalizing rest sched c w with
  | zero => omega
  | succ n ih =>
    simp only [loopToEnd]
    have seg := blockLoop_segment (P := P) (cb := cb) (set := set) (rest := rest) (sched := sched) (c := c) (w := w)
    split
    · rename_i hnr
      obtain ⟨h1, h2⟩ := seg.1 hnr
      rw [h1, ← ih (by omega)]
      rfl
    · rename_i hnr
      exact (seg.2 hnr).symm

theorem nrWithin_zero (sched : List Act) (h : nrWithin 0 sched = true) : countNR sched = 0 := by
  induction sched with
  | nil => rfl
  | cons a t ih =>
    simp only [nrWithin, Bool.and_eq_true, Bool.not_eq_true'] at h
    have := ih h.2
    simp only [countNR, List.filter_cons, h.1] at this ⊢
    simpa using this

theorem nrWithin_go {sched sc : List Act} {a : Act} {n : Nat} (hs : stepOf sched = .go a sc)
    (h : nrWithin (n + 1) sched = true) : nrWithin n sc = true := by
  cases sched with
  | nil => cases hs; cases n <;> rfl
  | cons x t =>
    cases x <;> simp [stepOf_cons] at hs <;> obtain ⟨rfl, rfl⟩ := hs <;> simpa [nrWithin, isNR] using h

theorem blockLoop_nrWithin (h : nrWithin (rest.length + 1) sched = true) :
    let o := blockLoop P cb set rest sched c w
    (o.result = .success → countNR o.sched = 0) ∧
    (o.result = .blockNotReady → nrWithin (o.rest.length + 1) o.sched = true) := by
  fun_induction blockLoop P cb set rest sched c w
  case case1 hs =>
    obtain rfl := stepOf_notReady hs
    exact ⟨nofun, fun _ => h⟩
  case case2 => exact ⟨nofun, nofun⟩
  case case3 hs => exact ⟨fun _ => nrWithin_zero _ (nrWithin_go hs h), nofun⟩
  case case4 hs _ _ _ _ _ ih => exact ih (nrWithin_go hs h)
  case case5 he hb => exact ⟨fun h' => absurd h' he, fun h' => absurd h' (scanBlock_result hb)⟩

theorem loopToEnd_nrWithin {n : Nat} (h : nrWithin (rest.length + 1) sched = true) :
    (loopToEnd P cb set n rest sched c w).result = .success → countNR (loopToEnd P cb set n rest sched c w).sched = 0 := by
  induction n generalizing rest sched c w with
  | zero => exact nofun
  | succ n ih =>
    simp only [loopToEnd]
    have hb := blockLoop_nrWithin (P := P) (cb := cb) (set := set) (c := c) (w := w) h
    split
    · rename_i hnr
      exact ih (hb.2 hnr)
    · exact hb.1

theorem afterLoop_pre {o : LoopOut} {ms : List Msg} :
    afterLoop P cb stack s it (o.pre ms) = (afterLoop P cb stack s it o).pre ms := by
  simp only [afterLoop, LoopOut.pre, CallOut.pre, List.append_assoc]
  rfl

theorem afterLoop_reads {s' : Sc} {it' : It} {o : LoopOut} (h1 : s.set = s'.set) (h2 : s.fileSize = s'.fileSize)
    (h3 : it.all = it'.all) (h4 : it.fileSize = it'.fileSize) :
    afterLoop P cb stack s it o = afterLoop P cb stack s' it' o := by
  simp only [afterLoop, afterLoop0, h1, h2, h3, h4]

theorem afterLoop_nr {o : LoopOut} (h : o.result = .blockNotReady) :
    afterLoop P cb stack s it o =
      ⟨{ s with core := o.core }, { it with rest := o.rest, sched := o.sched, lastError := o.lastError }, o.world, o.msgs,
       .blockNotReady⟩ := by
  simp [afterLoop, afterLoop0, CallOut.pre, h, exitClean]

theorem afterLoop_rc_ne {o : LoopOut} (h : o.result ≠ .blockNotReady) : (afterLoop P cb stack s it o).rc ≠ .blockNotReady :=
  fun hh => h (afterLoop_notReady hh).1

/-- `h`: rule evaluation (reached only after a successful loop) sees no not-ready answer -/
theorem afterLoop_dropNR (P : Params) (cb : Nat → CbRet) (stack : Nat) (s : Sc) (it : It) {L : LoopOut}
    (h : L.result = .success → countNR L.sched = 0) :
    let a := afterLoop P cb stack s it L
    let b := afterLoop P cb stack s it L.dropNR
    a.msgs = b.msgs ∧ a.rc = b.rc ∧ a.sc = b.sc ∧ a.world = b.world := by
  by_cases hs : L.result = .success
  · rw [LoopOut.dropNR, dropNR_eq_self (h hs)]
    exact ⟨rfl, rfl, rfl, rfl⟩
  · simp [afterLoop, afterLoop0, LoopOut.dropNR, hs]

/-- `loopToEnd` continued from an output of the loop -/
def loopFrom (P : Params) (cb : Nat → CbRet) (set : Settings) (n : Nat) (L : LoopOut) : LoopOut :=
  if L.result = .blockNotReady then (loopToEnd P cb set n L.rest L.sched L.core L.world).pre L.msgs else L

theorem loopToEnd_succ (P : Params) (cb : Nat → CbRet) (set : Settings) (n : Nat) (rest : List Block) (sched : List Act)
    (c : Core) (w : World) :
    loopToEnd P cb set (n + 1) rest sched c w = loopFrom P cb set n (blockLoop P cb set rest sched c w) := rfl

/-- one call whose block loop produced `L`, then `n` repetitions; `hk`: what the repetitions from the suspended state do -/
theorem runToEnd_step {n : Nat} {L : LoopOut} (hsc : scanCall P v cb stack s it w = afterLoop P cb stack s it L)
    (hk : L.result = .blockNotReady →
      let s' : Sc := { s with core := L.core }
      let it' : It := { it with rest := L.rest, sched := L.sched, lastError := L.lastError }
      runToEnd P v cb stack n s' it' L.world = afterLoop P cb stack s' it' (loopToEnd P cb s.set n L.rest L.sched L.core L.world)) :
    runToEnd P v cb stack (n + 1) s it w = afterLoop P cb stack s it (loopFrom P cb s.set n L) := by
  simp only [runToEnd, hsc, loopFrom]
  by_cases hL : L.result = .blockNotReady
  · rw [if_pos hL, afterLoop_pre, afterLoop_nr hL, if_pos rfl]
    rw [hk hL, afterLoop_reads (s' := s) (it' := it) rfl rfl rfl rfl]
    rfl
  · rw [if_neg hL, if_neg (afterLoop_rc_ne hL)]

theorem runToEnd_cont {n : Nat} (hcb : s.set.hasCallback = true) (hle : it.lastError = .blockNotReady) (hnb : s.core.notebook = true) :
    runToEnd P v cb stack n s it w = afterLoop P cb stack s it (loopToEnd P cb s.set n it.rest it.sched s.core w) := by
  induction n generalizing s it w with
  | zero =>
    rw [runToEnd, loopToEnd, afterLoop_nr rfl, ← hle]
  | succ n ih =>
    exact runToEnd_step (scanCall_resume hcb ⟨hle, .inl hnb⟩) fun hL =>
      ih hcb (blockLoop_nr_lastError hL) (blockLoop_frame.notebook.trans hnb)

/-- repeating the call while it is suspended = one call on the schedule without the not-ready answers -/
theorem runToEnd_eq_uninterrupted (P : Params) (v : Variant) (cb : Nat → CbRet) (stack : Nat) (s : Sc) (it : It) (w : World)
    (fuel : Nat) (hcb : s.set.hasCallback = true) (hne : it.lastError ≠ .blockNotReady)
    (hev : nrWithin (it.all.length + 1) it.sched = true) (hfuel : countNR it.sched < fuel) :
    let a := runToEnd P v cb stack fuel s it w
    let b := scanCall P v cb stack s { it with sched := dropNR it.sched } w
    a.msgs = b.msgs ∧ a.rc = b.rc ∧ a.sc = b.sc ∧ a.world = b.world ∧ a.rc ≠ .blockNotReady := by
  obtain ⟨n, rfl⟩ : ∃ n, fuel = n + 1 := ⟨fuel - 1, by omega⟩
  intro a b
  let L := loopToEnd P cb s.set (n + 1) it.all it.sched (freshInit P v s.core w) w
  have ha : a = afterLoop P cb stack s it L :=
    runToEnd_step (scanCall_fresh hcb (hne ·.1)) fun hL =>
      runToEnd_cont hcb (blockLoop_nr_lastError hL) (blockLoop_frame.notebook.trans freshInit_notebook)
  have hL : L.dropNR = blockLoop P cb s.set it.all (dropNR it.sched) (freshInit P v s.core w) w := loopToEnd_eq hfuel
  have hb : b = afterLoop P cb stack s it L.dropNR := by
    rw [hL]
    exact (scanCall_fresh (it := { it with sched := dropNR it.sched }) hcb (hne ·.1)).trans
      (afterLoop_reads rfl rfl rfl rfl)
  have hd := afterLoop_dropNR P cb stack s it (L := L) (loopToEnd_nrWithin hev)
  rw [← ha, ← hb] at hd
  refine ⟨hd.1, hd.2.1, hd.2.2.1, hd.2.2.2, ?_⟩
  rw [hd.2.1, hb, hL]
  -- the uninterrupted loop is not suspended: that would consume a not-ready answer
  refine afterLoop_rc_ne fun hnr => ?_
  have := (blockLoop_segment.1 hnr).2
  rw [countNR_dropNR] at this
  exact absurd this (Nat.not_lt_zero _)

end YaraModel.Scan
