/- Every client operation of the arena model simulates the corresponding step of the address-free
   abstract machine (Spec/Arena.lean) under the protocol invariant `WF`, for every configuration
   (initial size, capacity, base addresses, always-move hook, allocator answer). -/
import YaraModel.Lemmas.ArenaOps
namespace YaraModel.Arena
open YaraModel.Gen.ArenaLayout

theorem aAlloc_abs {a : Arena} {b : Nat} {fill : Bytes} {x1 : AArena} {r : Ref} (h : aAlloc (abs a) b fill = some (x1, r)) :
    b < a.bufs.length ∧ (a.bufAt b).data.length + fill.length < 2 ^ 32 ∧ x1 = absAppend (abs a) b fill ∧ r = ⟨b, (a.bufAt b).data.length⟩ := by
  revert h
  -- `cases h` closes the undefined branches (`none = some _`) and, in the defined ones, puts the result in for `x1` and `r`:
  -- one goal per defined branch, in the order of the function's equations
  fun_cases aAlloc (abs a) b fill <;> intro h <;> cases h
  next hc =>
    rw [abs_fst_length, aBody_abs_length] at hc
    exact ⟨hc.1, hc.2, rfl, by rw [aBody_abs_length]⟩

theorem allocMem_sim (cfg : Cfg) (nb : Nat) {a : Arena} (h : WF a) (hinit : 0 < a.init) {b : Nat} (zero : Bool) {fill : Bytes}
    {x1 : AArena} {r : Ref} (hspec : aAlloc (abs a) b fill = some (x1, r)) (hfresh : AllocFresh cfg nb a b fill.length) :
    (∃ a1, allocMem cfg nb a b zero fill = .ok (a1, r) ∧ WF a1 ∧ a1.init = a.init ∧ abs a1 = x1) ∨
      allocMem cfg nb a b zero fill = .error .insufficientMemory := by
  obtain ⟨hb, hsz, rfl, rfl⟩ := aAlloc_abs hspec
  rcases allocMem_total cfg nb a zero fill hb with ⟨⟨a1, r1⟩, hres⟩ | herr
  · have ⟨h1, h2, h3, h4⟩ := allocMem_spec cfg nb h hinit hres hfresh hsz
    subst h3
    exact Or.inl ⟨a1, hres, h1, h4, h2⟩
  · exact Or.inr herr

theorem reloc_sim {a : Arena} (h : WF a) {b o : Nat} {x1 : AArena} (hspec : aReloc (abs a) b o = some x1) :
    WF (regSlot a ⟨b, o % 2 ^ 32⟩) ∧ abs (regSlot a ⟨b, o % 2 ^ 32⟩) = x1 := by
  revert hspec
  fun_cases aReloc (abs a) b o <;> intro hspec <;> cases hspec
  next hc =>
    obtain ⟨hb, ho, hfree, hz⟩ := hc
    rw [abs_fst_length] at hb
    rw [aBody_abs_length] at ho
    have hsz := h.size_lt b
    rw [Nat.mod_eq_of_lt (by omega)]
    have hno : ∀ r ∈ a.relocs, NoOverlap r ⟨b, o⟩ := (aFree_iff _ _ _ _).1 hfree
    have h0 : getSlot a ⟨b, o⟩ = 0 := by
      have := rd64_aBody_abs a ⟨b, o⟩
      rw [hz, toRefs_eq, getSlot_mapSlots_other _ _ hno] at this
      exact this.symm
    refine ⟨wf_regSlot h ⟨ho, hb⟩ hno (by rw [h0]; exact Or.inl rfl), ?_⟩
    rw [abs_regSlot _ hno, h0, ptrToRef_zero]
    rfl

theorem relocs_sim {b base : Nat} (offs : List Nat) : ∀ {a : Arena} (_ : WF a) {x2 : AArena}
    (_ : aRelocs b base (abs a) offs = some x2), WF (makeRelocs a b base offs) ∧ abs (makeRelocs a b base offs) = x2 := by
  intro a h x2 hspec
  generalize hx : abs a = x at hspec
  fun_induction aRelocs b base x offs generalizing a
  case case1 => cases hspec; rw [makeRelocs_nil]; exact ⟨h, hx⟩
  case case2 h1 ih =>
    subst hx
    have ⟨hw, ha⟩ := reloc_sim h h1
    rw [makeRelocs_cons]
    exact ih hw ha hspec
  case case3 => cases hspec

theorem target_some {a : Arena} {t : Ref} (ht : ATarget (abs a) (some t) = true) :
    t.buf < a.bufs.length ∧ t.off < (a.bufAt t.buf).data.length := by
  simpa only [ATarget, Bool.and_eq_true, decide_eq_true_eq, abs_fst_length, aBody_abs_length] using ht

theorem target_ptr {a : Arena} (h : WF a) {target : Option Ref} (ht : ATarget (abs a) target = true) :
    ∃ p, refToPtr a.bufs target = .ok p ∧ ValidPtr a.bufs p ∧ p < 2 ^ 64 ∧ ptrToRef a.bufs p = (true, target) :=
  refToPtr_denotes h.ranges fun _ e => target_some (e ▸ ht)

theorem aBody_absAppend_same (x : AArena) {b : Nat} (f : Bytes) (hb : b < x.1.length) : aBody (absAppend x b f) b = aBody x b ++ f := by
  unfold aBody absAppend
  simp [List.getElem?_eq_getElem hb]

theorem aSet_absAppend_slot (x : AArena) {b : Nat} (p v : Nat) (hb : b < x.1.length) :
    aSet (absAppend x b (leBytes 8 p)) ⟨b, (aBody x b).length⟩ v = absAppend x b (leBytes 8 v) := by
  unfold aSet absAppend aBody
  congr 1
  apply List.ext_getElem?
  intro j
  simp only [List.getElem?_modify]
  by_cases hj : b = j
  · subst hj
    simp [List.getElem?_eq_getElem hb, wr64_append_slot]
  · simp [hj]

theorem ptr_sim (cfg : Cfg) (nb : Nat) {a : Arena} (h : WF a) (hinit : 0 < a.init) {b : Nat} {target : Option Ref}
    (ht : ATarget (abs a) target = true) (hne : ∀ t, target = some t → t.buf ≠ b)
    {x1 : AArena} {r : Ref} (hspec : aAlloc (abs a) b (leBytes 8 (encRef target)) = some (x1, r))
    (hfresh : AllocFresh cfg nb a b 8) :
    (∃ a', exec cfg nb a (.ptr b target) = .ok (a', .ref r) ∧ WF a' ∧ a'.init = a.init ∧ abs a' = aReg x1 r) ∨
      exec cfg nb a (.ptr b target) = .error .insufficientMemory := by
  obtain ⟨p, hp, _, hlt, _⟩ := target_ptr h ht
  obtain ⟨hb, hsz, hx1, hr⟩ := aAlloc_abs hspec
  have hl8 : ∀ v, (leBytes 8 v).length = 8 := fun v => length_leBytes 8 v
  rw [hl8] at hsz
  simp only [exec]
  simp only [hp]
  -- the allocation has the address, not the reference, as content
  rcases allocMem_total cfg nb a false (leBytes 8 p) hb with ⟨⟨a1, r1⟩, hres⟩ | herr
  · have ⟨hw1, ha1, hr1, hi1⟩ := allocMem_spec cfg nb h hinit hres (by rw [hl8]; exact hfresh) (by rw [hl8]; exact hsz)
    rw [hres]
    left
    subst hr hr1
    simp only
    rw [makeRelocs_cons, makeRelocs_nil, Nat.zero_add, Nat.mod_eq_of_lt (by omega)]
    obtain ⟨s, hs⟩ : ∃ s : Ref, s = ⟨b, (a.bufAt b).data.length⟩ := ⟨_, rfl⟩
    rw [← hs]
    have hrel1 : a1.relocs = a.relocs := congrArg Prod.snd ha1
    have hlen1 : a1.bufs.length = a.bufs.length := by
      rw [← abs_fst_length a1, ha1]; simp [absAppend, abs_fst_length]
    have hbody1 : aBody (abs a1) b = aBody (abs a) b ++ leBytes 8 p := by
      rw [ha1, aBody_absAppend_same _ _ (by rw [abs_fst_length]; exact hb)]
    have hdl1 : (a1.bufAt b).data.length = (a.bufAt b).data.length + 8 := by
      rw [← aBody_abs_length a1, hbody1, List.length_append, aBody_abs_length, hl8]
    have hin : InB a1 s := by rw [hs]; exact ⟨by simp only; omega, by rw [hlen1]; exact hb⟩
    have hno : ∀ q ∈ a1.relocs, NoOverlap q s := by
      intro q hq
      rw [hrel1] at hq
      have := (h.slots.2 q hq).1
      rw [hs]; unfold NoOverlap; simp only
      by_cases hqb : q.buf = b
      · rw [hqb] at this; omega
      · exact Or.inl hqb
    have hget : getSlot a1 s = p := by
      have h1 := rd64_aBody_abs a1 s
      rw [toRefs_eq, getSlot_mapSlots_other _ _ hno] at h1
      rw [← h1, hs]
      rw [hbody1, ← aBody_abs_length a b, rd64_at_end _ (hl8 p), leVal_leBytes8, Nat.mod_eq_of_lt hlt]
    -- the target lives in another buffer, which the allocation left where and as long as it was: the same reference
    -- converts to the same address afterwards, and there it denotes the reference
    have hframe : ∀ t, target = some t → t.buf < a1.bufs.length ∧ (a1.bufs.getD t.buf {}).base = (a.bufAt t.buf).base ∧
        (a1.bufs.getD t.buf {}).data.length = (a.bufAt t.buf).data.length := fun t e =>
      ⟨by rw [hlen1]; exact (target_some (e ▸ ht)).1, allocMem_frame hres (hne t e)⟩
    obtain ⟨p1, hp1, hv1, _, hb1⟩ := refToPtr_denotes hw1.ranges (x := target) fun t e =>
      ⟨(hframe t e).1, by rw [(hframe t e).2.2]; exact (target_some (e ▸ ht)).2⟩
    have hsame : refToPtr a1.bufs target = refToPtr a.bufs target := by
      cases target with
      | none => rfl
      | some t => simp only [refToPtr, hlen1, (hframe t rfl).2.1, (hframe t rfl).2.2, bufAt_eq_getD]
    rw [hsame, hp] at hp1
    cases hp1
    refine ⟨_, rfl, wf_regSlot hw1 hin hno (by rw [hget]; exact hv1), hi1, ?_⟩
    rw [abs_regSlot _ hno, hget, hb1, ha1, hx1, hs, ← aBody_abs_length a b,
      aSet_absAppend_slot _ _ _ (by rw [abs_fst_length]; exact hb)]
  · rw [herr]; exact Or.inr rfl

theorem length_zeros (n : Nat) : (zeros n).length = n := by simp [zeros]

theorem exec_sim (cfg : Cfg) (nb : Nat) {a : Arena} (h : WF a) (hinit : 0 < a.init) {op : Op} {x' : AArena} {o : Out}
    (hspec : astep (abs a) op = some (x', o)) (hfresh : StepFresh cfg nb a op) :
    (∃ a', exec cfg nb a op = .ok (a', o) ∧ WF a' ∧ a'.init = a.init ∧ abs a' = x') ∨ exec cfg nb a op = .error .insufficientMemory := by
  revert hspec
  -- one goal per operation, in the order of `Op`
  fun_cases astep (abs a) op <;> intro hspec <;> cases hspec
  next h1 =>  -- write
    simp only [exec]
    rcases allocMem_sim cfg nb h hinit false h1 hfresh with ⟨a1, hres, hw1, hi1, ha1⟩ | herr
    · rw [hres]; exact Or.inl ⟨a1, rfl, hw1, hi1, ha1⟩
    · rw [herr]; exact Or.inr rfl
  next h1 =>  -- zalloc
    simp only [exec]
    rcases allocMem_sim cfg nb h hinit true h1 (by rw [length_zeros]; exact hfresh) with ⟨a1, hres, hw1, hi1, ha1⟩ | herr
    · rw [hres]; exact Or.inl ⟨a1, rfl, hw1, hi1, ha1⟩
    · rw [herr]; exact Or.inr rfl
  next offs _ _ h1 h2 =>  -- struct
    simp only [exec]
    rcases allocMem_sim cfg nb h hinit true h1 (by rw [length_zeros]; exact hfresh) with ⟨a1, hres, hw1, hi1, ha1⟩ | herr
    · rw [hres]
      rw [← ha1] at h2
      have ⟨hw2, ha2⟩ := relocs_sim offs hw1 h2
      exact Or.inl ⟨_, rfl, hw2, hi1, ha2⟩
    · rw [herr]; exact Or.inr rfl
  next h1 =>  -- reloc
    have ⟨hw, ha⟩ := reloc_sim h h1
    simp only [exec]
    rw [makeRelocs_cons, makeRelocs_nil, Nat.zero_add]
    exact Or.inl ⟨_, rfl, hw, rfl, ha⟩
  next slot _ hc =>  -- setPtr
    have hs : slot ∈ a.relocs := hc.1
    obtain ⟨p, hp, hvp, hlt, hback⟩ := target_ptr h hc.2
    simp only [exec, hp]
    rw [if_pos (h.slots.2 slot hs)]
    refine Or.inl ⟨_, rfl, wf_setSlot_reg h hs hvp hlt, rfl, ?_⟩
    rw [abs_setSlot_reg h hs hlt, hback]
  next hc _ _ h1 => exact ptr_sim cfg nb h hinit hc.1 hc.2 h1 hfresh  -- ptr
  next at_ bytes hc =>  -- poke
    obtain ⟨hb, hl, hfree⟩ := hc
    rw [abs_fst_length] at hb
    rw [aBody_abs_length] at hl
    have hclear : ∀ r ∈ a.relocs, Clear r at_.buf at_.off bytes.length := (aFree_iff _ _ _ _).1 hfree
    simp only [exec]
    rw [if_pos ⟨hb, hl⟩, setBuf_poke_eq]
    exact Or.inl ⟨_, rfl, wf_pokeA h hclear, rfl, abs_pokeA hclear⟩
  next slot hs =>  -- ref
    have ⟨hfound, hdec⟩ := decRef_encRef_valid h (h.valid slot hs)
    simp only [exec]
    rw [if_pos (h.slots.2 slot hs)]
    refine Or.inl ⟨a, ?_, h, rfl, rfl⟩
    congr 2
    unfold queryOut
    rw [hfound, if_pos rfl, rd64_aBody_abs, toRefs_eq, getSlot_mapSlots _ h.slots hs, Nat.mod_eq_of_lt (encRef_lt _), hdec]
  next ht =>  -- rt
    obtain ⟨p, hp, hvp, hlt, hback⟩ := target_ptr h ht
    simp only [exec, hp]
    refine Or.inl ⟨a, ?_, h, rfl, rfl⟩
    rw [hback]; rfl
  next slot _ hc =>  -- regPtr
    obtain ⟨hb, ho, hfree, ht⟩ := hc
    rw [abs_fst_length] at hb
    rw [aBody_abs_length] at ho
    obtain ⟨p, hp, hvp, hlt, hback⟩ := target_ptr h ht
    have hsz := h.size_lt slot.buf
    have hclear : ∀ r ∈ a.relocs, Clear r slot.buf slot.off 8 := (aFree_iff _ _ _ _).1 hfree
    have ⟨hw, ha⟩ := regSet_sim h ⟨ho, hb⟩ hclear hvp hlt
    simp only [exec, hp]
    rw [if_pos ⟨ho, hb⟩, makeRelocs_cons, makeRelocs_nil, Nat.zero_add, Nat.mod_eq_of_lt (by omega)]
    refine Or.inl ⟨_, rfl, hw, rfl, ?_⟩
    rw [hback] at ha
    exact ha

theorem runOut_sim (cfg : Cfg) (ops : List Op) : ∀ (bases : List Nat) (a : Arena) (x' : AArena) (outs : List Out),
    WF a → 0 < a.init → arun (abs a) ops = some (x', outs) → AdmRun cfg bases a ops →
    (∃ a', runOut cfg bases a ops = .ok (a', outs) ∧ WF a' ∧ abs a' = x') ∨ runOut cfg bases a ops = .error .insufficientMemory := by
  intro bases a x' outs h hinit hspec hadm
  generalize hx : abs a = x at hspec
  -- only the defined branches of the abstract run can have produced `(x', outs)`
  fun_induction arun x ops generalizing bases a x' outs <;> cases hspec
  case case1 => exact Or.inl ⟨a, by rw [runOut], h, hx⟩
  case case4 o h1 _ os h2 ih =>
    subst hx
    rw [runOut]
    rcases exec_sim cfg (bases.headD 0) h hinit h1 hadm.1 with ⟨a1, hres, hw1, hi1, ha1⟩ | herr
    · rw [hres]
      simp only
      rcases ih bases.tail a1 _ os hw1 (hi1 ▸ hinit) (hadm.2 a1 o hres) ha1 h2 with ⟨a2, hres2, hw2, ha2⟩ | herr2
      · rw [hres2]; exact Or.inl ⟨a2, rfl, hw2, ha2⟩
      · rw [herr2]; exact Or.inr rfl
    · rw [herr]; exact Or.inr rfl

theorem runOut_sim_ok (cfg : Cfg) (ops : List Op) (bases : List Nat) {a a' : Arena} {x' : AArena} {outs outs' : List Out}
    (h : WF a) (hinit : 0 < a.init) (hspec : arun (abs a) ops = some (x', outs)) (hadm : AdmRun cfg bases a ops)
    (hr : runOut cfg bases a ops = .ok (a', outs')) : outs' = outs ∧ WF a' ∧ abs a' = x' := by
  rcases runOut_sim cfg ops bases a x' outs h hinit hspec hadm with ⟨b, e, w, hb⟩ | e
  · rw [e] at hr; cases hr; exact ⟨rfl, w, hb⟩
  · rw [e] at hr; cases hr

theorem admRun_of_check (cfg : Cfg) (ops : List Op) : ∀ (nbs : List Nat) (a : Arena),
    admCheck cfg nbs a ops = true → AdmRun cfg nbs a ops := by
  induction ops with
  | nil => intro _ _ _; trivial
  | cons op ops ih =>
    intro nbs a h
    simp only [admCheck, Bool.and_eq_true, decide_eq_true_eq] at h
    refine ⟨h.1, ?_⟩
    intro a1 o he
    have h2 := h.2
    rw [he] at h2
    exact ih _ _ h2

theorem wf_create {n : Nat} (init : Nat) (hn : n ≤ maxBuffers) : WF (create n init) := by
  have hmem : ∀ b ∈ (create n init).bufs, b = ({} : Buf) := by
    intro b hb; exact List.eq_of_mem_replicate hb
  constructor
  · exact ⟨List.Pairwise.nil, fun r hr => by cases hr⟩
  · constructor
    · intro b hb; rw [hmem b hb]; exact ⟨by decide, by decide⟩
    · intro b hb _; rw [hmem b hb]
    · show (List.replicate n ({} : Buf)).Pairwise Apart
      rw [List.pairwise_replicate]
      exact Or.inr (Or.inl rfl)
  · intro r hr; cases hr
  · show (List.replicate n ({} : Buf)).length ≤ maxBuffers
    rw [List.length_replicate]; exact hn
  · intro b hb; rw [hmem b hb]; decide

theorem abs_create (n init : Nat) : abs (create n init) = aCreate n := by
  unfold abs aCreate
  rw [toRefs_eq]
  simp [create, bodies]

end YaraModel.Arena
