/-
  Compiler correctness, layout level.  `Ir` is the shape of the code `_yr_re_emit` produces: single instructions,
  `REPEAT_ANY` jumps, concatenation, `split`-based alternation / `*` / `+` / `?`, and the `REPEAT_START … REPEAT_END`
  loop with its counter on the fiber stack (counted repeats are lowered to prolog · loop · optional/epilog by the emit
  table, Lemmas/ReLower.lean).
  `lang`: the language accepted from every machine state inside a segment (continuation semantics); inside a
  loop body it depends on the loop counter, read from the fiber stack at the loop's nesting depth `B`.
  In order: `Seg`, `IrM`, `lang`, `Valid` (with `Ctl`, `AtEnd`: the states inside), `Dir`.
-/
import YaraModel.Lemmas.ReVm
import YaraModel.Lemmas.Re
namespace YaraModel.ReEmit
open YaraModel.Re YaraModel.ReVm

abbrev Lang := Nat → Nat → Prop

/-- the repeat counter of a REPEAT_ANY fiber as a number of characters (`-1` = not spinning = 0) -/
def rc0 (rc : Int) : Nat := if rc = -1 then 0 else rc.toNat

theorem rc0_neg : rc0 (-1) = 0 := by simp [rc0]

theorem rc0_natCast (n : Nat) : rc0 ((n : Nat) : Int) = n := by
  unfold rc0
  have : ¬ ((n : Int) = -1) := by omega
  rw [if_neg this]; omega

theorem rc0_pos {k : Int} (h : 1 ≤ k) : ((rc0 k : Nat) : Int) = k := by
  unfold rc0
  have : ¬ k = -1 := by omega
  rw [if_neg this]; omega

inductive Ir where
  | leaf (r : Re)                       -- one instruction (`LeafCode` says which)
  | jump (lo hi : Nat) (g : Bool)       -- REPEAT_ANY
  | eps
  | cat (x y : Ir)
  | alt (x y : Ir)
  | star (x : Ir) (g : Bool)
  | plus (x : Ir) (g : Bool)
  | opt (x : Ir) (g : Bool)             -- split L ; x ; L:
  | loop (x : Ir) (lo hi : Nat) (g : Bool)   -- repeat_start lo,hi,L1 ; L0: x ; repeat_end lo,hi,L0 ; L1:
  deriving Repr

def Ir.re : Ir → Re
  | .leaf r => r
  | .jump lo hi g => .rangeAny lo hi g
  | .eps => .empty
  | .cat x y => .cat x.re y.re
  | .alt x y => .alt x.re y.re
  | .star x g => .star x.re g
  | .plus x g => .plus x.re g
  | .opt x g => .range x.re 0 1 g
  | .loop x lo hi g => .range x.re lo hi g

def leafLen : Re → Nat
  | .lit _ => 2 | .notLit _ => 2 | .masked _ _ => 3 | .maskedNot _ _ => 3 | .cls _ _ => 34 | _ => 1

theorem leafLen_pos (r : Re) : 0 < leafLen r := by
  cases r <;> simp [leafLen]

def clen : Ir → Nat
  | .leaf r => leafLen r
  | .jump _ _ _ => 5
  | .eps => 0
  | .cat x y => clen x + clen y
  | .alt x y => 4 + clen x + 3 + clen y
  | .star x _ => 4 + clen x + 3
  | .plus x _ => if clen x = 0 then 0 else clen x + 4
  | .opt x _ => 4 + clen x
  | .loop x _ _ _ => 9 + clen x + 9

/-- the single instruction at `a` is the one `_yr_re_emit` writes for the node -/
inductive LeafCode (code : Code) : Re → Nat → Prop
  | lit {a : Nat} {b : UInt8} : u8 code a = OP_LITERAL → u8 code (a + 1) = b.toNat → LeafCode code (.lit b) a
  | notLit {a : Nat} {b : UInt8} : u8 code a = OP_NOT_LITERAL → u8 code (a + 1) = b.toNat → LeafCode code (.notLit b) a
  | masked {a : Nat} {v m : UInt8} : u8 code a = OP_MASKED_LITERAL → u8 code (a + 1) = v.toNat → u8 code (a + 2) = m.toNat →
      LeafCode code (.masked v m) a
  | maskedNot {a : Nat} {v m : UInt8} : u8 code a = OP_MASKED_NOT_LITERAL → u8 code (a + 1) = v.toNat → u8 code (a + 2) = m.toNat →
      LeafCode code (.maskedNot v m) a
  | any {a : Nat} : u8 code a = OP_ANY → LeafCode code .any a
  | cls {a bm : Nat} {neg : Bool} : u8 code a = OP_CLASS → u8 code (a + 1) = (if neg then 1 else 0) →
      (∀ c : UInt8, classBit code a c = inBitmap bm c) → LeafCode code (.cls bm neg) a
  | wordCh {a : Nat} : u8 code a = OP_WORD_CHAR → LeafCode code .wordCh a
  | nonWordCh {a : Nat} : u8 code a = OP_NON_WORD_CHAR → LeafCode code .nonWordCh a
  | space {a : Nat} : u8 code a = OP_SPACE → LeafCode code .space a
  | nonSpace {a : Nat} : u8 code a = OP_NON_SPACE → LeafCode code .nonSpace a
  | digit {a : Nat} : u8 code a = OP_DIGIT → LeafCode code .digit a
  | nonDigit {a : Nat} : u8 code a = OP_NON_DIGIT → LeafCode code .nonDigit a
  | bol {a : Nat} : u8 code a = OP_MATCH_AT_START → LeafCode code .bol a
  | eol {a : Nat} : u8 code a = OP_MATCH_AT_END → LeafCode code .eol a
  | wordB {a : Nat} : u8 code a = OP_WORD_BOUNDARY → LeafCode code .wordB a
  | nonWordB {a : Nat} : u8 code a = OP_NON_WORD_BOUNDARY → LeafCode code .nonWordB a

/-- `code[a..b)` decodes to the emission of `r`.  Beyond the bytes: `lo ≤ hi`; `0 < hi` in `loop` (REPEAT_END tests the counter only
    after an iteration); the shape's `g` is tied to no opcode -/
inductive Seg (code : Code) : Ir → Nat → Nat → Prop
  | leaf {r : Re} {a : Nat} : LeafCode code r a → Seg code (.leaf r) a (a + leafLen r)
  | jump {a lo hi : Nat} {g : Bool} : (u8 code a = OP_REPEAT_ANY_GREEDY ∨ u8 code a = OP_REPEAT_ANY_UNGREEDY) →
      u16 code (a + 1) = lo → u16 code (a + 3) = hi → lo ≤ hi → Seg code (.jump lo hi g) a (a + 5)
  | eps {a : Nat} : Seg code .eps a a
  | star {x : Ir} {a m : Nat} {g : Bool} : (u8 code a = OP_SPLIT_A ∨ u8 code a = OP_SPLIT_B) → addOff a (i16 code (a + 2)) = m + 3 →
      Seg code x (a + 4) m → u8 code m = OP_JUMP → addOff m (i16 code (m + 1)) = a → Seg code (.star x g) a (m + 3)
  | plus {x : Ir} {a m : Nat} {g : Bool} : Seg code x a m → a < m → (u8 code m = OP_SPLIT_A ∨ u8 code m = OP_SPLIT_B) →
      addOff m (i16 code (m + 2)) = a → Seg code (.plus x g) a (m + 4)
  | plusNil {x : Ir} {a : Nat} {g : Bool} : Seg code x a a → Seg code (.plus x g) a a
  | opt {x : Ir} {a m : Nat} {g : Bool} : (u8 code a = OP_SPLIT_A ∨ u8 code a = OP_SPLIT_B) → addOff a (i16 code (a + 2)) = m →
      Seg code x (a + 4) m → Seg code (.opt x g) a m
  | cat {x y : Ir} {a m b : Nat} : Seg code x a m → Seg code y m b → Seg code (.cat x y) a b
  | alt {x y : Ir} {a m b : Nat} : u8 code a = OP_SPLIT_A → addOff a (i16 code (a + 2)) = m + 3 → Seg code x (a + 4) m →
      u8 code m = OP_JUMP → addOff m (i16 code (m + 1)) = b → Seg code y (m + 3) b → Seg code (.alt x y) a b
  | loop {x : Ir} {a m lo hi : Nat} {g : Bool} :
      (u8 code a = OP_REPEAT_START_GREEDY ∨ u8 code a = OP_REPEAT_START_UNGREEDY) → u16 code (a + 1) = lo →
      addOff a (i32 code (a + 5)) = m + 9 → Seg code x (a + 9) m →
      (u8 code m = OP_REPEAT_END_GREEDY ∨ u8 code m = OP_REPEAT_END_UNGREEDY) → u16 code (m + 1) = lo → u16 code (m + 3) = hi →
      addOff m (i32 code (m + 5)) = a + 9 → lo ≤ hi → 0 < hi → Seg code (.loop x lo hi g) a (m + 9)

theorem Seg.len {code : Code} {r : Ir} {a b : Nat} (h : Seg code r a b) : b = a + clen r := by
  induction h with
  | leaf _ => simp [clen]
  | jump _ _ _ _ => simp [clen]
  | eps => simp [clen]
  | star _ _ _ _ _ ih => simp only [clen]; omega
  | plus _ hlt _ _ ih | plusNil _ ih => simp only [clen]; split <;> omega
  | opt _ _ _ ih => simp only [clen]; omega
  | cat _ _ ih1 ih2 => simp only [clen]; omega
  | alt _ _ _ _ _ _ ih1 ih2 => simp only [clen]; omega
  | loop _ _ _ _ _ _ _ _ _ _ ih => simp only [clen]; omega

section
variable {code : Code} {X Y : Ir} {a b : Nat}

theorem Seg.cat_inv (h : Seg code (.cat X Y) a b) : Seg code X a (a + clen X) ∧ Seg code Y (a + clen X) b := by
  cases h with | cat h1 h2 =>
  have := h1.len
  subst this
  exact ⟨h1, h2⟩

theorem Seg.alt_inv (h : Seg code (.alt X Y) a b) :
    u8 code a = OP_SPLIT_A ∧ addOff a (i16 code (a + 2)) = a + 4 + clen X + 3 ∧ Seg code X (a + 4) (a + 4 + clen X) ∧
    u8 code (a + 4 + clen X) = OP_JUMP ∧ addOff (a + 4 + clen X) (i16 code (a + 4 + clen X + 1)) = b ∧
    Seg code Y (a + 4 + clen X + 3) b := by
  cases h with | alt hop hoff sx hj hoff2 sy =>
  have := sx.len
  subst this
  exact ⟨hop, hoff, sx, hj, hoff2, sy⟩

theorem Seg.alt_fst (h : Seg code (.alt X Y) a b) : Seg code X (a + 4) (a + 4 + clen X) := h.alt_inv.2.2.1

theorem Seg.alt_snd (h : Seg code (.alt X Y) a b) : Seg code Y (a + 4 + clen X + 3) b := h.alt_inv.2.2.2.2.2

end

theorem Seg.le {code : Code} {r : Ir} {a b : Nat} (h : Seg code r a b) : a ≤ b := by
  have := h.len; omega

/-! ### what a code shape matches, in units of matched bytes, over a relation `L` for the single instructions
   (`L r q t`: the instruction of `r` takes the run from `q` matched bytes to `t` matched bytes — forwards or backwards,
   one- or two-byte characters: Lemmas/ReDir.lean) -/
inductive IrM (L : Re → Nat → Nat → Prop) : Ir → Nat → Nat → Prop
  | leaf {r q t} : L r q t → IrM L (.leaf r) q t
  | jump {lo hi g j q t} : lo ≤ j → j ≤ hi → Iter (L .any) j q t → IrM L (.jump lo hi g) q t
  | eps {q} : IrM L .eps q q
  | cat {x y q t u} : IrM L x q t → IrM L y t u → IrM L (.cat x y) q u
  | altL {x y q t} : IrM L x q t → IrM L (.alt x y) q t
  | altR {x y q t} : IrM L y q t → IrM L (.alt x y) q t
  | starNil {x g q} : IrM L (.star x g) q q
  | starStep {x g q t u} : IrM L x q t → IrM L (.star x g) t u → IrM L (.star x g) q u
  | plusOne {x g q t} : IrM L x q t → IrM L (.plus x g) q t
  | plusStep {x g q t u} : IrM L x q t → IrM L (.plus x g) t u → IrM L (.plus x g) q u
  | optSkip {x g q} : IrM L (.opt x g) q q
  | optTake {x g q t} : IrM L x q t → IrM L (.opt x g) q t
  | loopStop {x hi g q} : IrM L (.loop x 0 hi g) q q
  | loopStep {x lo hi g q t u} : 0 < hi → IrM L x q t → IrM L (.loop x (lo - 1) (hi - 1) g) t u → IrM L (.loop x lo hi g) q u

/-- the language at the head of a `star`, `opt` or `loop`, and the continuation inside their bodies -/
def Then (L : Re → Nat → Nat → Prop) (x : Ir) (K : Lang) : Lang := fun q q' => ∃ t, IrM L x q t ∧ K t q'

/-! ### the fiber stack: the lowest `n` entries (head = top of the stack) -/
def low (s : List Nat) (n : Nat) : List Nat := s.drop (s.length - n)

theorem low_self (s : List Nat) : low s s.length = s := by simp [low]

theorem low_cons {s : List Nat} {n : Nat} (x : Nat) (h : n ≤ s.length) : low (x :: s) n = low s n := by
  unfold low
  have : (x :: s).length - n = (s.length - n) + 1 := by simp; omega
  rw [this]; rfl

theorem low_tail {s : List Nat} {n : Nat} (h : n < s.length) : low s.tail n = low s n := by
  cases s with
  | nil => simp at h
  | cons x t => simp only [List.tail_cons]; exact (low_cons x (by simp at h; omega)).symm

theorem low_set_head {s : List Nat} {n : Nat} (x : Nat) (h : n < s.length) : low (x :: s.tail) n = low s n := by
  cases s with
  | nil => simp at h
  | cons y t =>
    simp only [List.tail_cons]
    rw [low_cons x (by simp at h; omega), low_cons y (by simp at h; omega)]

theorem low_low (s : List Nat) {k n : Nat} (h : k ≤ n) : low (low s n) k = low s k := by
  unfold low
  rw [List.drop_drop, List.length_drop]
  congr 1
  omega

theorem low_mono {s s' : List Nat} {k n : Nat} (h : low s n = low s' n) (hk : k ≤ n) : low s k = low s' k := by
  rw [← low_low s hk, ← low_low s' hk, h]

/-- the counter of the loop at nesting depth `B` -/
def cntAt (s : List Nat) (B : Nat) : Nat := (low s (B + 1)).headD 0

theorem cntAt_top {s : List Nat} {B : Nat} (h : s.length = B + 1) : cntAt s B = s.headD 0 := by
  unfold cntAt; rw [← h, low_self]

/-- language accepted from machine state `(ip, rc, stack, mode)` inside the code of `r` placed at `a` (loop nesting depth
    `B`), when `K` is accepted at its end.  At a jump `[lo-hi]`: a WAITING fiber with counter k still has to read the k-th
    character, a fiber that has read k characters (`post`, or k = 0 on arrival) may read j more with lo ≤ k + j ≤ hi.
    Inside a loop whose counter (completed iterations) is c: finish this iteration, then between lo-(c+1) and hi-(c+1)
    further ones.  In `.cat x y` the continuation of `x` is the entry language of `y` on `low s B`: inside `x` the stack may hold
    counters of loops of `x` above the `B` entries with which `y` is entered. -/
def lang (L : Re → Nat → Nat → Prop) : Ir → Nat → Nat → Lang → Nat → Int → List Nat → Mode → Lang
  | .leaf r, a, _, K, ip, _, _, _ => if ip = a then fun q q' => ∃ t, L r q t ∧ K t q' else K
  | .eps, _, _, K, _, _, _, _ => K
  | .jump lo hi _, a, _, K, ip, rc, _, m =>
      if ip = a then
        match m with
        | .wait => fun q q' => ∃ j t, 1 ≤ j ∧ lo ≤ rc0 rc - 1 + j ∧ rc0 rc - 1 + j ≤ hi ∧ Iter (L .any) j q t ∧ K t q'
        | _ => fun q q' => ∃ j t, lo ≤ rc0 rc + j ∧ rc0 rc + j ≤ hi ∧ Iter (L .any) j q t ∧ K t q'
      else K
  | .cat x y, a, B, K, ip, rc, s, m =>
      let mid := a + clen x
      if ip < mid then lang L x a B (lang L y mid B K mid (-1) (low s B) .run) ip rc s m else lang L y mid B K ip rc s m
  | .alt x y, a, B, K, ip, rc, s, m =>
      let mid := a + 4 + clen x
      if ip = a then fun q q' => lang L x (a + 4) B K (a + 4) (-1) s .run q q' ∨ lang L y (mid + 3) B K (mid + 3) (-1) s .run q q'
      else if ip < mid then lang L x (a + 4) B K ip rc s m
      else if ip = mid then K
      else lang L y (mid + 3) B K ip rc s m
  | .star x g, a, B, K, ip, rc, s, m =>
      let mid := a + 4 + clen x
      if ip = a then fun q q' => ∃ t, IrM L (.star x g) q t ∧ K t q'
      else if ip < mid then lang L x (a + 4) B (fun q q' => ∃ t, IrM L (.star x g) q t ∧ K t q') ip rc s m
      else if ip = mid then fun q q' => ∃ t, IrM L (.star x g) q t ∧ K t q'
      else K
  | .plus x g, a, B, K, ip, rc, s, m =>
      let mid := a + clen x
      if clen x = 0 then K
      else if ip < mid then lang L x a B (fun q q' => K q q' ∨ ∃ t, IrM L (.plus x g) q t ∧ K t q') ip rc s m
      else if ip = mid then fun q q' => K q q' ∨ ∃ t, IrM L (.plus x g) q t ∧ K t q'
      else K
  | .opt x g, a, B, K, ip, rc, s, m =>
      if ip = a then fun q q' => ∃ t, IrM L (.opt x g) q t ∧ K t q'
      else lang L x (a + 4) B K ip rc s m
  | .loop x lo hi g, a, B, K, ip, rc, s, m =>
      if ip = a then fun q q' => ∃ t, IrM L (.loop x lo hi g) q t ∧ K t q'
      else
        let c := cntAt s B
        if ip < a + 9 + clen x then
          lang L x (a + 9) (B + 1) (fun q q' => ∃ t, IrM L (.loop x (lo - (c + 1)) (hi - (c + 1)) g) q t ∧ K t q') ip rc s m
        else if ip = a + 9 + clen x then fun q q' => ∃ t, IrM L (.loop x (lo - (c + 1)) (hi - (c + 1)) g) q t ∧ K t q'
        else K

section
variable {L : Re → Nat → Nat → Prop}

theorem loop_enter {x : Ir} {g : Bool} {lo hi c q t w : Nat} (hc : c < hi) (hm : IrM L x q t)
    (hr : IrM L (.loop x (lo - (c + 1)) (hi - (c + 1)) g) t w) : IrM L (.loop x (lo - c) (hi - c) g) q w :=
  .loopStep (Nat.sub_pos_of_lt hc) hm (by rw [Nat.sub_sub, Nat.sub_sub]; exact hr)

variable (L)

theorem lang_ge (r : Ir) : ∀ (a B : Nat) (K : Lang) (ip : Nat) (rc : Int) (s : List Nat) (md : Mode), a + clen r ≤ ip →
    lang L r a B K ip rc s md = K := by
  induction r with
  | leaf r =>
    intro a B K ip rc s md h
    have := leafLen_pos r
    simp only [clen] at h
    simp only [lang]
    rw [if_neg (by omega)]
  | jump lo hi g =>
    intro a B K ip rc s md h
    simp only [clen] at h
    simp only [lang]
    rw [if_neg (by omega)]
  | eps => intro a B K ip rc s md _; rfl
  | cat x y ihx ihy =>
    intro a B K ip rc s md h
    simp only [clen] at h
    simp only [lang]
    rw [if_neg (by omega)]
    exact ihy _ _ _ _ _ _ _ (by omega)
  | alt x y ihx ihy =>
    intro a B K ip rc s md h
    simp only [clen] at h
    simp only [lang]
    rw [if_neg (by omega), if_neg (by omega), if_neg (by omega)]
    exact ihy _ _ _ _ _ _ _ (by omega)
  | star x g ih =>
    intro a B K ip rc s md h
    simp only [clen] at h
    simp only [lang]
    rw [if_neg (by omega), if_neg (by omega), if_neg (by omega)]
  | plus x g ih =>
    intro a B K ip rc s md h
    simp only [clen] at h
    simp only [lang]
    split
    · rfl
    · rename_i h0
      rw [if_neg h0] at h
      rw [if_neg (by omega), if_neg (by omega)]
  | opt x g ih =>
    intro a B K ip rc s md h
    simp only [clen] at h
    simp only [lang]
    rw [if_neg (by omega)]
    exact ih _ _ _ _ _ _ _ (by omega)
  | loop x lo hi g ih =>
    intro a B K ip rc s md h
    simp only [clen] at h
    simp only [lang]
    rw [if_neg (by omega), if_neg (by omega), if_neg (by omega)]

theorem lang_entry {code : Code} {r : Ir} {a b : Nat} (hs : Seg code r a b) (B : Nat) (K : Lang) (s : List Nat) (q q' : Nat) :
    lang L r a B K a (-1) s .run q q' → ∃ t, IrM L r q t ∧ K t q' := by
  induction hs generalizing B K s q q' with
  | leaf _ =>
    intro h
    simp only [lang, if_true] at h
    obtain ⟨t, ht, hk⟩ := h
    exact ⟨t, .leaf ht, hk⟩
  | eps => intro h; simp only [lang] at h; exact ⟨q, .eps, h⟩
  | @jump a lo hi g _ _ _ _ =>
    intro h
    simp only [lang, if_true] at h
    obtain ⟨j, t, h1, h2, hp, hk⟩ := h
    simp only [rc0, if_true, Nat.zero_add] at h1 h2
    exact ⟨t, .jump h1 h2 hp, hk⟩
  | @star x a m g _ _ h1 _ _ ih =>
    intro h
    simp only [lang, if_true] at h
    exact h
  | @plus x a m g h1 hlt _ _ ih =>
    intro h
    have hm : m = a + clen x := h1.len
    have hne : ¬ clen x = 0 := by omega
    have hlt' : a < a + clen x := by omega
    simp only [lang, hne, hlt', if_true, if_false] at h
    obtain ⟨t, ht, hk⟩ := ih _ _ _ _ _ h
    rcases hk with hk | ⟨t2, ht2, hk2⟩
    · exact ⟨t, .plusOne ht, hk⟩
    · exact ⟨t2, .plusStep ht ht2, hk2⟩
  | @plusNil x a g h1 ih =>
    intro h
    have h0 : clen x = 0 := by have := h1.len; omega
    simp only [lang, h0, if_true] at h
    -- the empty body accepts its continuation
    rw [← lang_ge L x a B K a (-1) s .run (by omega)] at h
    obtain ⟨t, ht, hk⟩ := ih _ _ _ _ _ h
    exact ⟨t, .plusOne ht, hk⟩
  | @opt x a m g _ _ h1 ih =>
    intro h
    simp only [lang, if_true] at h
    exact h
  | @cat x y a m b h1 h2 ih1 ih2 =>
    intro h
    obtain rfl : m = a + clen x := h1.len
    -- with `x` empty the entry of the whole is the entry of `y`, which is what the empty `x` accepts
    have h' : ∃ s', lang L x a B (lang L y (a + clen x) B K (a + clen x) (-1) s' .run) a (-1) s .run q q' := by
      simp only [lang] at h
      by_cases hlt : a < a + clen x
      · rw [if_pos hlt] at h; exact ⟨_, h⟩
      · rw [if_neg hlt] at h
        have e0 : a + clen x = a := by omega
        refine ⟨s, ?_⟩
        rw [lang_ge L x a B _ a (-1) s .run (Nat.le_of_eq e0), e0]
        rwa [e0] at h
    obtain ⟨s', h'⟩ := h'
    obtain ⟨t, ht, hk⟩ := ih1 _ _ _ _ _ h'
    obtain ⟨t2, ht2, hk2⟩ := ih2 _ _ _ _ _ hk
    exact ⟨t2, .cat ht ht2, hk2⟩
  | @alt x y a m b _ _ h1 _ _ h2 ih1 ih2 =>
    intro h
    have hm : m = a + 4 + clen x := by have := h1.len; omega
    simp only [lang, if_true] at h
    rw [← hm] at h
    rcases h with h | h
    · obtain ⟨t, ht, hk⟩ := ih1 _ _ _ _ _ h
      exact ⟨t, .altL ht, hk⟩
    · obtain ⟨t, ht, hk⟩ := ih2 _ _ _ _ _ h
      exact ⟨t, .altR ht, hk⟩
  | @loop x a m lo hi g _ _ _ h1 _ _ _ _ _ _ ih =>
    intro h
    simp only [lang, if_true] at h
    exact h

theorem lang_end {code : Code} {r : Ir} {a b : Nat} (hs : Seg code r a b) (B : Nat) (K : Lang) (rc : Int) (s : List Nat) (md : Mode) :
    lang L r a B K b rc s md = K :=
  lang_ge L r a B K b rc s md (Nat.le_of_eq hs.len.symm)

end

/-- `h`: the last clause of `Valid (.jump …)`; turns `sync`'s `if rc = -1 then 0 else rc` into `rc0 rc` -/
theorem jump_counter {rc : Int} {m : Mode} {hi : Nat} (h : (m = .run ∧ rc = -1) ∨ (m ≠ .run ∧ 1 ≤ rc ∧ rc ≤ hi)) :
    (if rc = -1 then (0 : Int) else rc) = (rc0 rc : Nat) ∧ rc0 rc ≤ hi ∧ (m ≠ .run → 1 ≤ rc0 rc ∧ rc = (rc0 rc : Nat)) := by
  rcases h with ⟨h0, rfl⟩ | ⟨h0, h1, h2⟩
  · exact ⟨rfl, Nat.zero_le _, fun h => absurd h0 h⟩
  · have := rc0_pos h1
    exact ⟨by rw [if_neg (by omega), this], by omega, fun _ => ⟨by omega, this.symm⟩⟩

section
variable {L : Re → Nat → Nat → Prop} {X Y : Ir} {a B ip : Nat} {K : Lang} {rc : Int} {s : List Nat} {m : Mode} {g : Bool}

/-- the address split `lang` makes at a composite shape, read from inside the part `X` or at its end -/
theorem lang_closed {a' B' : Nat} {K' Z : Lang} (hip : ip ≤ a' + clen X) :
    (if ip < a' + clen X then lang L X a' B' K' ip rc s m else if ip = a' + clen X then K' else Z) = lang L X a' B' K' ip rc s m := by
  by_cases hlt : ip < a' + clen X
  · rw [if_pos hlt]
  · rw [if_neg hlt, Nat.le_antisymm hip (Nat.not_lt.1 hlt), if_pos rfl, lang_ge L X _ _ _ _ _ _ _ (Nat.le_refl _)]

/-- at the end of `X` the state must be the one in which `Y` is entered -/
theorem lang_cat_fst (hip : ip ≤ a + clen X) (hend : ip = a + clen X → rc = -1 ∧ m = .run ∧ s.length = B) :
    lang L (.cat X Y) a B K ip rc s m =
      lang L X a B (lang L Y (a + clen X) B K (a + clen X) (-1) (low s B) .run) ip rc s m := by
  simp only [lang]
  by_cases hlt : ip < a + clen X
  · rw [if_pos hlt]
  · obtain rfl := Nat.le_antisymm hip (Nat.not_lt.1 hlt)
    obtain ⟨rfl, rfl, rfl⟩ := hend rfl
    rw [if_neg hlt, lang_ge L X _ _ _ _ _ _ _ (Nat.le_refl _), low_self]

theorem lang_cat_snd (hip : a + clen X ≤ ip) : lang L (.cat X Y) a B K ip rc s m = lang L Y (a + clen X) B K ip rc s m := by
  simp only [lang]
  rw [if_neg (Nat.not_lt.2 hip)]

theorem lang_alt_fst (h0 : a + 4 ≤ ip) (hip : ip ≤ a + 4 + clen X) :
    lang L (.alt X Y) a B K ip rc s m = lang L X (a + 4) B K ip rc s m := by
  simp only [lang]
  rw [if_neg (show ¬ ip = a by omega), lang_closed hip]

theorem lang_alt_snd (hip : a + 4 + clen X + 3 ≤ ip) :
    lang L (.alt X Y) a B K ip rc s m = lang L Y (a + 4 + clen X + 3) B K ip rc s m := by
  simp only [lang]
  rw [if_neg (show ¬ ip = a by omega), if_neg (show ¬ ip < a + 4 + clen X by omega), if_neg (show ¬ ip = a + 4 + clen X by omega)]

theorem lang_star_in (h0 : a + 4 ≤ ip) (hip : ip ≤ a + 4 + clen X) :
    lang L (.star X g) a B K ip rc s m = lang L X (a + 4) B (Then L (.star X g) K) ip rc s m := by
  simp only [lang]
  rw [if_neg (show ¬ ip = a by omega), lang_closed hip]; rfl

theorem lang_plus_in (hne : clen X ≠ 0) (hip : ip ≤ a + clen X) :
    lang L (.plus X g) a B K ip rc s m =
      lang L X a B (fun q q' => K q q' ∨ ∃ t, IrM L (.plus X g) q t ∧ K t q') ip rc s m := by
  simp only [lang]
  rw [if_neg hne, lang_closed hip]

theorem lang_loop_in {lo hi : Nat} (h0 : a + 9 ≤ ip) (hip : ip ≤ a + 9 + clen X) :
    lang L (.loop X lo hi g) a B K ip rc s m = lang L X (a + 9) (B + 1)
      (Then L (.loop X (lo - (cntAt s B + 1)) (hi - (cntAt s B + 1)) g) K) ip rc s m := by
  simp only [lang]
  rw [if_neg (show ¬ ip = a by omega), lang_closed hip]; rfl

theorem lang_star_at : lang L (.star X g) a B K a rc s m = Then L (.star X g) K := by
  simp only [lang, if_true]; rfl

theorem lang_opt_at : lang L (.opt X g) a B K a rc s m = Then L (.opt X g) K := by
  simp only [lang, if_true]; rfl

theorem lang_loop_at {lo hi : Nat} : lang L (.loop X lo hi g) a B K a rc s m = Then L (.loop X lo hi g) K := by
  simp only [lang, if_true]; rfl

theorem lang_opt_in (h0 : a + 4 ≤ ip) : lang L (.opt X g) a B K ip rc s m = lang L X (a + 4) B K ip rc s m := by
  simp only [lang]
  rw [if_neg (show ¬ ip = a by omega)]

end

/-- the state at a leaf instruction, at a control instruction, and just behind a segment (not `isCtl`) -/
def Ctl (a B ip : Nat) (rc : Int) (s : List Nat) (m : Mode) : Prop := ip = a ∧ rc = -1 ∧ m = .run ∧ s.length = B

/-- states a fiber can be in while inside the code of `r` (placed at `a`, loop nesting depth `B`) -/
def Valid : Ir → Nat → Nat → Nat → Int → List Nat → Mode → Prop
  | .leaf _, a, B, ip, rc, s, m => Ctl a B ip rc s m
  | .eps, _, _, _, _, _, _ => False
  | .jump _ hi _, a, B, ip, rc, s, m => ip = a ∧ s.length = B ∧ ((m = .run ∧ rc = -1) ∨ (m ≠ .run ∧ 1 ≤ rc ∧ rc ≤ hi))
  | .cat x y, a, B, ip, rc, s, m => Valid x a B ip rc s m ∨ Valid y (a + clen x) B ip rc s m
  | .alt x y, a, B, ip, rc, s, m => Ctl a B ip rc s m ∨ Valid x (a + 4) B ip rc s m ∨
      Ctl (a + 4 + clen x) B ip rc s m ∨ Valid y (a + 4 + clen x + 3) B ip rc s m
  | .star x _, a, B, ip, rc, s, m => Ctl a B ip rc s m ∨ Valid x (a + 4) B ip rc s m ∨ Ctl (a + 4 + clen x) B ip rc s m
  | .plus x _, a, B, ip, rc, s, m => Valid x a B ip rc s m ∨ (0 < clen x ∧ Ctl (a + clen x) B ip rc s m)
  | .opt x _, a, B, ip, rc, s, m => Ctl a B ip rc s m ∨ Valid x (a + 4) B ip rc s m
  | .loop x _ hi _, a, B, ip, rc, s, m => Ctl a B ip rc s m ∨ (Valid x (a + 9) (B + 1) ip rc s m ∧ cntAt s B < hi) ∨
      (Ctl (a + 9 + clen x) (B + 1) ip rc s m ∧ cntAt s B < hi)

def AtEnd (b B : Nat) (g : Fiber) (m : Mode) : Prop := Ctl b B g.ip g.rc g.stack m

theorem range_sub {a a' n n' B B' ip len : Nat} (h : a' ≤ ip ∧ ip < a' + n' ∧ B' ≤ len) (hB : B ≤ B')
    (ha : a ≤ a' ∧ a' + n' ≤ a + n) : a ≤ ip ∧ ip < a + n ∧ B ≤ len :=
  ⟨Nat.le_trans ha.1 h.1, Nat.lt_of_lt_of_le h.2.1 ha.2, Nat.le_trans hB h.2.2⟩

theorem Ctl.range {a B ip : Nat} {rc : Int} {s : List Nat} {m : Mode} (h : Ctl a B ip rc s m) :
    a ≤ ip ∧ ip < a + 1 ∧ B ≤ s.length :=
  ⟨Nat.le_of_eq h.1.symm, h.1 ▸ Nat.lt_succ_self _, Nat.le_of_eq h.2.2.2.symm⟩

/-- every clause of `Valid` is an instruction (one byte suffices) or a sub-shape placed inside `[a, a + clen r)` -/
theorem Valid.range (r : Ir) : ∀ {a B ip : Nat} {rc : Int} {s : List Nat} {m : Mode}, Valid r a B ip rc s m →
    a ≤ ip ∧ ip < a + clen r ∧ B ≤ s.length := by
  induction r with
  | leaf r => intro a B ip rc s m h; exact range_sub (Ctl.range h) (Nat.le_refl _) ⟨Nat.le_refl _, Nat.add_le_add_left (leafLen_pos r) _⟩
  | jump lo hi g =>
    intro a B ip rc s m h
    exact ⟨Nat.le_of_eq h.1.symm, h.1 ▸ Nat.lt_add_of_pos_right (Nat.succ_pos 4), Nat.le_of_eq h.2.1.symm⟩
  | eps => intro a B ip rc s m h; exact h.elim
  | cat x y ihx ihy =>
    intro a B ip rc s m h
    simp only [clen]
    rcases h with h | h
    · exact range_sub (ihx h) (Nat.le_refl _) (by omega)
    · exact range_sub (ihy h) (Nat.le_refl _) (by omega)
  | alt x y ihx ihy =>
    intro a B ip rc s m h
    simp only [clen]
    rcases h with h | h | h | h
    · exact range_sub h.range (Nat.le_refl _) (by omega)
    · exact range_sub (ihx h) (Nat.le_refl _) (by omega)
    · exact range_sub h.range (Nat.le_refl _) (by omega)
    · exact range_sub (ihy h) (Nat.le_refl _) (by omega)
  | star x g ih =>
    intro a B ip rc s m h
    simp only [clen]
    rcases h with h | h | h
    · exact range_sub h.range (Nat.le_refl _) (by omega)
    · exact range_sub (ih h) (Nat.le_refl _) (by omega)
    · exact range_sub h.range (Nat.le_refl _) (by omega)
  | plus x g ih =>
    intro a B ip rc s m h
    simp only [clen]
    rcases h with h | ⟨h0, h⟩
    · have r := ih h
      rw [if_neg (by omega)]
      exact range_sub r (Nat.le_refl _) (by omega)
    · rw [if_neg (Nat.ne_of_gt h0)]
      exact range_sub h.range (Nat.le_refl _) (by omega)
  | opt x g ih =>
    intro a B ip rc s m h
    simp only [clen]
    rcases h with h | h
    · exact range_sub h.range (Nat.le_refl _) (by omega)
    · exact range_sub (ih h) (Nat.le_refl _) (by omega)
  | loop x lo hi g ih =>
    intro a B ip rc s m h
    simp only [clen]
    rcases h with h | ⟨h, _⟩ | ⟨h, _⟩
    · exact range_sub h.range (Nat.le_refl _) (by omega)
    · exact range_sub (ih h) (Nat.le_succ _) (by omega)
    · exact range_sub h.range (Nat.le_succ _) (by omega)

theorem valid_range {code : Code} {r : Ir} {a b : Nat} (hs : Seg code r a b) {B ip : Nat} {rc : Int} {s : List Nat} {m : Mode}
    (h : Valid r a B ip rc s m) : a ≤ ip ∧ ip < b ∧ B ≤ s.length :=
  hs.len ▸ Valid.range r h

theorem entry_ok {code : Code} {r : Ir} {a b : Nat} (hs : Seg code r a b) (B : Nat) (s : List Nat) (hB : s.length = B) :
    Valid r a B a (-1) s .run ∨ a = b := by
  induction hs generalizing B with
  | leaf _ => exact .inl ⟨rfl, rfl, rfl, hB⟩
  | jump _ _ _ _ => exact .inl ⟨rfl, hB, .inl ⟨rfl, rfl⟩⟩
  | eps => exact .inr rfl
  | star _ _ _ _ _ _ => exact .inl (.inl ⟨rfl, rfl, rfl, hB⟩)
  | @plus x a m g h1 hlt _ _ ih =>
    rcases ih B hB with h | h
    · exact .inl (.inl h)
    · omega
  | plusNil _ _ => exact .inr rfl
  | opt _ _ _ _ => exact .inl (.inl ⟨rfl, rfl, rfl, hB⟩)
  | @cat x y a m b h1 h2 ih1 ih2 =>
    rcases ih1 B hB with h | h
    · exact .inl (.inl h)
    · rcases ih2 B hB with h' | h'
      · refine .inl (.inr ?_)
        have hm : m = a + clen x := h1.len
        rw [← hm, ← h]; rw [← h] at h'; exact h'
      · exact .inr (by omega)
  | alt _ _ _ _ _ _ _ _ => exact .inl (.inl ⟨rfl, rfl, rfl, hB⟩)
  | loop _ _ _ _ _ _ _ _ _ _ _ => exact .inl (.inl ⟨rfl, rfl, rfl, hB⟩)

/-- how the run of `e` reads its input: `L r q t` — the single instruction of `r` takes the run from `q` matched bytes to `t`
    matched bytes; `ok bm` — `bm` matched bytes stay inside the data.  Instances (Lemmas/ReDir.lean): forwards / backwards,
    one-byte / two-byte (wide) characters. -/
structure Dir (e : Env) where
  L : Re → Nat → Nat → Prop
  ok : Nat → Prop
  cons : ∀ {r : Re} {a : Nat} {f : Fiber} {bm : Nat}, LeafCode e.code r a → f.ip = a → isConsuming (u8 e.code a) = true →
      ok bm → consumeOk e bm f = true → L r bm (bm + e.cs)
  any : ∀ {f : Fiber} {bm : Nat}, (u8 e.code f.ip = OP_REPEAT_ANY_GREEDY ∨ u8 e.code f.ip = OP_REPEAT_ANY_UNGREEDY) →
      ok bm → consumeOk e bm f = true → L .any bm (bm + e.cs)
  zw : ∀ {r : Re} {a : Nat} {bm : Nat}, LeafCode e.code r a → isConsuming (u8 e.code a) = false → ok bm →
      zeroWidthOk e bm (u8 e.code a) = true → L r bm bm
  ok0 : ok 0
  okScan : ∀ {bm : Nat}, e.fl.scan = true → bm ≤ e.maxBytes → ok bm
  okCons : ∀ {f : Fiber} {bm : Nat}, ok bm → consumeOk e bm f = true → ok (bm + e.cs)

end YaraModel.ReEmit
