/- Byte-level facts of the arena model: little-endian fields, memcpy into a byte list, 8-byte pointer slots
   (`wr64` is the memcpy of the little-endian image of the value, `rd64` reads an 8-byte window). -/
import YaraModel.Model.Arena
namespace YaraModel.Arena

theorem leBytes8 (v : Nat) :
    leBytes 8 v = [byteAt v 0, byteAt v 1, byteAt v 2, byteAt v 3, byteAt v 4, byteAt v 5, byteAt v 6, byteAt v 7] := rfl

theorem length_leBytes (k v : Nat) : (leBytes k v).length = k := by simp [leBytes]

theorem getElem?_leBytes (k v i : Nat) : (leBytes k v)[i]? = if i < k then some (byteAt v i) else none := by
  unfold leBytes
  by_cases h : i < k
  · simp [h]
  · simp [h]

theorem byteAt_succ (v i : Nat) : byteAt v (i + 1) = byteAt (v / 256) i := by
  unfold byteAt
  rw [Nat.pow_succ', Nat.div_div_eq_div_mul]

theorem leBytes_succ (k v : Nat) : leBytes (k + 1) v = byteAt v 0 :: leBytes k (v / 256) := by
  unfold leBytes
  rw [List.range_succ_eq_map, List.map_cons, List.map_map]
  congr 1
  exact List.map_congr_left (fun i _ => byteAt_succ v i)

theorem leVal_leBytes (k v : Nat) : leVal (leBytes k v) = v % 256 ^ k := by
  induction k generalizing v with
  | zero => simp [leBytes, leVal, Nat.mod_one]
  | succ k ih =>
    have h0 : (byteAt v 0).toNat = v % 256 := by simp [byteAt]
    rw [leBytes_succ, leVal, ih, h0, Nat.pow_succ', Nat.mod_mul]

theorem leVal_lt (w : Bytes) : leVal w < 256 ^ w.length := by
  induction w with
  | nil => simp [leVal]
  | cons b t ih =>
    have := b.toNat_lt
    simp only [leVal, List.length_cons, Nat.pow_succ']
    omega

theorem leBytes_leVal (w : Bytes) : leBytes w.length (leVal w) = w := by
  induction w with
  | nil => rfl
  | cons b t ih =>
    have := b.toNat_lt
    have hb : byteAt (b.toNat + 256 * leVal t) 0 = b := by
      unfold byteAt
      rw [Nat.pow_zero, Nat.div_one, show (b.toNat + 256 * leVal t) % 256 = b.toNat by omega, UInt8.ofNat_toNat]
    rw [List.length_cons, leBytes_succ, leVal, hb, show (b.toNat + 256 * leVal t) / 256 = leVal t by omega, ih]

theorem leBytes_mod (k v : Nat) : leBytes k (v % 256 ^ k) = leBytes k v := by
  have := leBytes_leVal (leBytes k v)
  rwa [leVal_leBytes, length_leBytes] at this

theorem leVal_leBytes8 (v : Nat) : leVal (leBytes 8 v) = v % 2 ^ 64 := leVal_leBytes 8 v

theorem leVal_leBytes4 (v : Nat) : leVal (leBytes 4 v) = v % 2 ^ 32 := leVal_leBytes 4 v

theorem length_wrBytes (d : Bytes) (off : Nat) (bs : Bytes) : (wrBytes d off bs).length = d.length := by
  unfold wrBytes; split <;> simp

theorem getElem?_wrBytes (d : Bytes) (off : Nat) (bs : Bytes) (i : Nat) :
    (wrBytes d off bs)[i]? =
      if off + bs.length ≤ d.length ∧ off ≤ i ∧ i < off + bs.length then bs[i - off]? else d[i]? := by
  unfold wrBytes
  split
  · next h =>
    simp only [h, true_and, List.getElem?_mapIdx]
    cases hd : d[i]? with
    | none => rw [if_neg (by have := List.getElem?_eq_none_iff.1 hd; omega)]; rfl
    | some x =>
      split
      · rw [Option.map_some, List.getD_eq_getElem?_getD, List.getElem?_eq_getElem (by omega)]; rfl
      · rfl
  · next h => rw [if_neg (fun c => h c.1)]

theorem wrBytes_comm (d : Bytes) {o₁ o₂ : Nat} (b₁ b₂ : Bytes) (h : o₁ + b₁.length ≤ o₂ ∨ o₂ + b₂.length ≤ o₁) :
    wrBytes (wrBytes d o₁ b₁) o₂ b₂ = wrBytes (wrBytes d o₂ b₂) o₁ b₁ := by
  apply List.ext_getElem?
  intro i
  simp only [getElem?_wrBytes, length_wrBytes]
  by_cases h1 : o₁ + b₁.length ≤ d.length ∧ o₁ ≤ i ∧ i < o₁ + b₁.length <;>
    by_cases h2 : o₂ + b₂.length ≤ d.length ∧ o₂ ≤ i ∧ i < o₂ + b₂.length <;> simp [h1, h2]
  omega

theorem wrBytes_wrBytes_same (d : Bytes) (off : Nat) {b₁ b₂ : Bytes} (h : b₁.length = b₂.length) :
    wrBytes (wrBytes d off b₁) off b₂ = wrBytes d off b₂ := by
  apply List.ext_getElem?
  intro i
  simp only [getElem?_wrBytes, length_wrBytes, h]
  split <;> simp_all

theorem wrBytes_append {d : Bytes} (f : Bytes) {off : Nat} (bs : Bytes) (h : off + bs.length ≤ d.length) :
    wrBytes (d ++ f) off bs = wrBytes d off bs ++ f := by
  apply List.ext_getElem?
  intro i
  rw [getElem?_wrBytes, List.length_append]
  by_cases hi : i < d.length
  · have hi' : i < (wrBytes d off bs).length := by rw [length_wrBytes]; exact hi
    rw [List.getElem?_append_left hi', getElem?_wrBytes, List.getElem?_append_left hi]
    have : (off + bs.length ≤ d.length + f.length ∧ off ≤ i ∧ i < off + bs.length) ↔
        (off + bs.length ≤ d.length ∧ off ≤ i ∧ i < off + bs.length) := by omega
    simp only [this]
  · have hge : (wrBytes d off bs).length ≤ i := by rw [length_wrBytes]; omega
    rw [List.getElem?_append_right hge, length_wrBytes, if_neg (by omega), List.getElem?_append_right (by omega)]

theorem wrBytes_at_end (d : Bytes) {b₁ b₂ : Bytes} (h : b₂.length = b₁.length) :
    wrBytes (d ++ b₁) d.length b₂ = d ++ b₂ := by
  apply List.ext_getElem?
  intro i
  rw [getElem?_wrBytes, List.length_append, h]
  by_cases hi : i < d.length
  · rw [if_neg (by omega), List.getElem?_append_left hi, List.getElem?_append_left hi]
  · rw [List.getElem?_append_right (by omega), List.getElem?_append_right (by omega)]
    by_cases hb : i - d.length < b₁.length
    · rw [if_pos ⟨by omega, by omega, by omega⟩]
    · rw [if_neg (by omega), List.getElem?_eq_none (by omega), List.getElem?_eq_none (by omega)]

def win (d : Bytes) (off : Nat) : Bytes := (d.drop off).take 8

theorem rd64_eq (d : Bytes) (off : Nat) : rd64 d off = leVal (win d off) := rfl

theorem getElem?_win (d : Bytes) (off i : Nat) : (win d off)[i]? = if i < 8 then d[off + i]? else none := by
  unfold win
  rw [List.getElem?_take]
  split
  · rw [List.getElem?_drop]
  · rfl

theorem length_win {d : Bytes} {off : Nat} (h : off + 8 ≤ d.length) : (win d off).length = 8 := by
  unfold win; simp; omega

theorem win_congr {d d' : Bytes} {off : Nat} (h : ∀ i, i < 8 → d[off + i]? = d'[off + i]?) :
    win d off = win d' off := by
  apply List.ext_getElem?
  intro i
  rw [getElem?_win, getElem?_win]
  split
  · exact h i ‹_›
  · rfl

theorem win_wrBytes_same {d : Bytes} {off : Nat} {bs : Bytes} (h8 : bs.length = 8) (h : off + 8 ≤ d.length) :
    win (wrBytes d off bs) off = bs := by
  apply List.ext_getElem?
  intro i
  rw [getElem?_win, getElem?_wrBytes, h8]
  by_cases hi : i < 8
  · rw [if_pos hi, if_pos ⟨h, by omega, by omega⟩, Nat.add_sub_cancel_left]
  · rw [if_neg hi, List.getElem?_eq_none (by omega)]

theorem win_wrBytes_other {d : Bytes} {off : Nat} {bs : Bytes} {o : Nat} (h : o + 8 ≤ off ∨ off + bs.length ≤ o) :
    win (wrBytes d off bs) o = win d o := by
  apply win_congr
  intro i hi
  rw [getElem?_wrBytes, if_neg (by omega)]

theorem wrBytes_win (d : Bytes) (off : Nat) : wrBytes d off (win d off) = d := by
  apply List.ext_getElem?
  intro i
  rw [getElem?_wrBytes]
  split
  · rename_i hi
    have hl : (win d off).length ≤ 8 := by unfold win; rw [List.length_take]; omega
    rw [getElem?_win, if_pos (by omega)]
    congr 1; omega
  · rfl

theorem wr64_eq_wrBytes (d : Bytes) (off v : Nat) : wr64 d off v = wrBytes d off (leBytes 8 v) := by
  unfold wr64 wrBytes
  rw [length_leBytes]
  congr 2
  funext i x
  split
  · rename_i h
    simp [getElem?_leBytes, show i - off < 8 by omega]
  · rfl

theorem length_wr64 (d : Bytes) (off v : Nat) : (wr64 d off v).length = d.length := by
  rw [wr64_eq_wrBytes, length_wrBytes]

theorem rd64_lt {d : Bytes} {off : Nat} (h : off + 8 ≤ d.length) : rd64 d off < 2 ^ 64 := by
  have := leVal_lt (win d off)
  rwa [length_win h] at this

theorem wr64_rd64_id (d : Bytes) (off : Nat) : wr64 d off (rd64 d off) = d := by
  by_cases h : off + 8 ≤ d.length
  · have := leBytes_leVal (win d off)
    rw [length_win h] at this
    rw [wr64_eq_wrBytes, rd64_eq, this, wrBytes_win]
  · unfold wr64; rw [if_neg h]

theorem wr64_mod (d : Bytes) (off v : Nat) : wr64 d off (v % 2 ^ 64) = wr64 d off v := by
  rw [wr64_eq_wrBytes, wr64_eq_wrBytes]
  exact congrArg _ (leBytes_mod 8 v)

theorem wr64_append {d : Bytes} (f : Bytes) {off : Nat} (v : Nat) (h : off + 8 ≤ d.length) :
    wr64 (d ++ f) off v = wr64 d off v ++ f := by
  rw [wr64_eq_wrBytes, wr64_eq_wrBytes]
  exact wrBytes_append f _ (by rw [length_leBytes]; exact h)

theorem rd64_append {d : Bytes} (f : Bytes) {off : Nat} (h : off + 8 ≤ d.length) : rd64 (d ++ f) off = rd64 d off := by
  rw [rd64_eq, rd64_eq, win_congr (fun i hi => List.getElem?_append_left (by omega))]

theorem wr64_append_slot (d : Bytes) (p v : Nat) : wr64 (d ++ leBytes 8 p) d.length v = d ++ leBytes 8 v := by
  rw [wr64_eq_wrBytes]
  exact wrBytes_at_end d (by rw [length_leBytes, length_leBytes])

theorem rd64_at_end (d : Bytes) {w : Bytes} (h : w.length = 8) : rd64 (d ++ w) d.length = leVal w := by
  rw [rd64_eq, win, List.drop_left, ← h, List.take_length]

end YaraModel.Arena
