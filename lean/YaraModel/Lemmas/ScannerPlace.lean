/- C13 helper lemmas: the place operators and the match collection depend on (base, offset) only through base + offset.
   `addCands_abs` and `collect_partition` are about parameters WITHOUT chained strings (`hnc : ∀ s, P.chain s = none`): with chains the
   collection does depend on how the data is cut into blocks (Thm/C13, `pieces_in_different_blocks_never_combine`).
   The `case caseN` names of `fun_induction addCands` are explained in the header of Lemmas/ScannerFrame.lean. -/
import YaraModel.Spec.ScannerPlace
import YaraModel.Lemmas.ScannerFrame
namespace YaraModel.Scan

theorem aget_absT (t : MatchTable) (s : Nat) : aget (absT t) s = (tget t s).map absM := by
  have hp : ((fun p : Nat × List (Nat × Nat) => p.1 == s) ∘ fun p : Nat × List Match => (p.1, p.2.map absM)) =
      fun p => p.1 == s := rfl
  simp only [aget, tget, absT, List.find?_map, hp]
  cases t.find? (fun p => p.1 == s) <;> rfl

theorem found_spec (t : MatchTable) (s : Nat) : PlaceOps.found t s = PlaceSpec.found (absT t) s := by
  simp [PlaceOps.found, PlaceSpec.found, aget_absT]

theorem count_spec (t : MatchTable) (s : Nat) : PlaceOps.count t s = PlaceSpec.count (absT t) s := by
  simp [PlaceOps.count, PlaceSpec.count, aget_absT]

theorem foundAt_spec (t : MatchTable) (s off : Nat) : PlaceOps.foundAt t s off = PlaceSpec.foundAt (absT t) s off := by
  simp only [PlaceOps.foundAt, PlaceSpec.foundAt, aget_absT, List.any_map]
  rfl

theorem foundIn_spec (t : MatchTable) (s lo hi : Nat) : PlaceOps.foundIn t s lo hi = PlaceSpec.foundIn (absT t) s lo hi := by
  simp only [PlaceOps.foundIn, PlaceSpec.foundIn, aget_absT, List.any_map]
  rfl

theorem countIn_spec (t : MatchTable) (s lo hi : Nat) : PlaceOps.countIn t s lo hi = PlaceSpec.countIn (absT t) s lo hi := by
  simp only [PlaceOps.countIn, PlaceSpec.countIn, aget_absT, List.filter_map, List.length_map]
  rfl

theorem offset_spec (t : MatchTable) (s i : Nat) : PlaceOps.offset t s i = PlaceSpec.offset (absT t) s i := by
  simp only [PlaceOps.offset, PlaceSpec.offset, aget_absT]
  split
  · rfl
  · simp only [List.getElem?_map, Option.map_map]; rfl

theorem length_spec (t : MatchTable) (s i : Nat) : PlaceOps.length t s i = PlaceSpec.length (absT t) s i := by
  simp only [PlaceOps.length, PlaceSpec.length, aget_absT]
  split
  · rfl
  · simp only [List.getElem?_map, Option.map_map]; rfl

theorem ofAt_spec (t : MatchTable) (ss : List Nat) (off : Nat) : PlaceOps.ofAt t ss off = PlaceSpec.ofAt (absT t) ss off := by
  simp [PlaceOps.ofAt, PlaceSpec.ofAt, foundAt_spec]

theorem ofIn_spec (t : MatchTable) (ss : List Nat) (lo hi : Nat) : PlaceOps.ofIn t ss lo hi = PlaceSpec.ofIn (absT t) ss lo hi := by
  simp [PlaceOps.ofIn, PlaceSpec.ofIn, foundIn_spec]

/-- `insMatch` on absolute occurrences; exists only to state `insMatch_abs` -/
def insA (o : Nat × Nat) : List (Nat × Nat) → List (Nat × Nat)
  | [] => [o]
  | x :: xs => if x.1 = o.1 then x :: xs else if o.1 < x.1 then o :: x :: xs else x :: insA o xs

theorem insMatch_abs (m : Match) (l : List Match) : (insMatch m l).map absM = insA (absM m) (l.map absM) := by
  induction l with
  | nil => rfl
  | cons x xs ih =>
    simp only [insMatch, List.map_cons, insA, absM, Match.pos]
    split
    · rfl
    · split
      · rfl
      · simp only [List.map_cons, absM, Match.pos] at ih ⊢
        rw [ih]

/-- `tset` on an `AbsTable`; exists only to state `tset_abs` -/
def tsetA (t : AbsTable) (s : Nat) (l : List (Nat × Nat)) : AbsTable :=
  if t.any (fun p => p.1 == s) then t.map (fun p => if p.1 == s then (s, l) else p) else t ++ [(s, l)]

theorem tset_abs (t : MatchTable) (s : Nat) (l : List Match) : absT (tset t s l) = tsetA (absT t) s (l.map absM) := by
  simp only [tset, tsetA, absT, List.any_map, Function.comp_def]
  split
  · simp only [List.map_map]
    apply List.map_congr_left
    intro p _
    simp only [Function.comp_def]
    split <;> rfl
  · simp

variable {P : Params} {cb : Nat → CbRet} {fast : Bool} {set : Settings} {b : Block} {c : Core} {w : World}

theorem Core.AbsEq.refl (c : Core) : Core.AbsEq c c := ⟨rfl, rfl⟩

theorem Core.AbsEq.exists {c c' : Core} (h : Core.AbsEq c c') :
    ∃ t', absT c.found = absT t' ∧ c' = { c with found := t' } := by
  refine ⟨c'.found, h.found, ?_⟩
  have := h.rest
  simp only [Core.mk.injEq] at this ⊢
  simp [this]

theorem tget_abs_eq {t t' : MatchTable} (h : absT t = absT t') (s : Nat) : (tget t s).map absM = (tget t' s).map absM := by
  rw [← aget_absT, ← aget_absT, h]

theorem tget_abs_length {t t' : MatchTable} (h : absT t = absT t') (s : Nat) : (tget t' s).length = (tget t s).length := by
  simpa using (congrArg List.length (tget_abs_eq h s)).symm

theorem tget_abs_isEmpty {t t' : MatchTable} (h : absT t = absT t') (s : Nat) : (tget t' s).isEmpty = (tget t s).isEmpty := by
  have := tget_abs_length h s
  cases h1 : tget t s <;> cases h2 : tget t' s <;> simp_all

theorem absCands_cons_eq {b b' : Block} {k : Cand} {ks ks' : List Cand} (h : absCands b (k :: ks) = absCands b' ks') :
    ∃ k' ks'', ks' = k' :: ks'' ∧ k'.str = k.str ∧ b'.base + k'.off = b.base + k.off ∧ k'.len = k.len ∧
      absCands b ks = absCands b' ks'' := by
  cases ks' with
  | nil => simp [absCands] at h
  | cons k' ks'' =>
    simp only [absCands, List.map_cons, List.cons.injEq, Prod.mk.injEq] at h
    exact ⟨k', ks'', rfl, h.1.1.symm, h.1.2.1.symm, h.1.2.2.symm, h.2⟩

/-- By the branches of `addCands` on the left; the right side takes the same branch because the tests look at the lengths of
    the match lists only, and the one write, `tset … (insMatch …)`, commutes with `absT` (`tset_abs`, `insMatch_abs`). -/
theorem addCands_abs {b' : Block} {ks ks' : List Cand} {c' : Core} (hnc : ∀ s, P.chain s = none)
    (hc : Core.AbsEq c c') (hk : absCands b ks = absCands b' ks') :
    Core.AbsEq (addCands P cb fast b ks c w).1 (addCands P cb fast b' ks' c' w).1 ∧
    (addCands P cb fast b ks c w).2 = (addCands P cb fast b' ks' c' w).2 := by
  obtain ⟨t', h, rfl⟩ := hc.exists
  clear hc
  fun_induction addCands P cb fast b ks c w generalizing ks' t'
  case case1 =>
    obtain rfl : ks' = [] := by simpa [absCands] using hk.symm
    exact ⟨⟨h, rfl⟩, rfl⟩
  case case4 hch _ => rw [hnc] at hch; cases hch
  all_goals
    obtain ⟨k', ks', rfl, hs, hp, hl, hrest⟩ := absCands_cons_eq hk
    rw [addCands]
    simp only [hs, tget_abs_length h, tget_abs_isEmpty h, hnc]
  case case2 hd ih => rw [if_pos hd]; exact ih hrest _ h
  case case3 hd hf ih => rw [if_neg hd, if_pos hf]; exact ih hrest _ h
  case case5 hd hf _ _ hlim _ _ _ _ _ hr hcb ih =>
    rw [if_neg hd, if_neg hf, if_pos hlim]
    simp only [hcb]
    obtain ⟨h1, h2⟩ := ih hrest _ h
    rw [hr] at h1 h2
    exact ⟨h1, congrArg (fun r => (r.1, Msg.tooManyMatches _ :: r.2.1, r.2.2)) h2⟩
  case case6 hd hf _ _ hlim _ _ hcb hne =>
    rw [if_neg hd, if_neg hf, if_pos hlim]
    simp only [hcb]
    cases ‹CbRet› with
    | cont => exact absurd rfl hne
    | _ => exact ⟨⟨h, rfl⟩, trivial⟩
  case case7 hd hf _ c1 hlim ih =>
    rw [if_neg hd, if_neg hf, if_neg hlim]
    have h' : absT c1.found = absT t' := h
    refine ih hrest _ ?_
    simp only [tset_abs, insMatch_abs, h', tget_abs_eq h', absM, Match.pos, hp, hl]

theorem addCands_unconfirmed_nochain {ks : List Cand} (hnc : ∀ s, P.chain s = none) : (addCands P cb fast b ks c w).1.unconfirmed = c.unconfirmed := by
  fun_induction addCands P cb fast b ks c w
  case case1 | case6 => rfl
  case case2 ih | case3 ih | case7 ih => exact ih
  case case4 hch _ => rw [hnc] at hch; cases hch
  case case5 hr _ ih => rw [hr] at ih; exact ih

theorem clear_unconfirmed_id (h : c.unconfirmed = []) : ({ c with unconfirmed := [] } : Core) = c := by
  cases c; simp_all

theorem addCands_append {ks1 ks2 : List Cand} :
    addCands P cb fast b (ks1 ++ ks2) c w =
      match addCands P cb fast b ks1 c w with
      | (c1, w1, ms1, .success) =>
        let r := addCands P cb fast b ks2 c1 w1
        (r.1, r.2.1, ms1 ++ r.2.2.1, r.2.2.2)
      | r => r := by
  fun_induction addCands P cb fast b ks1 c w
  case case1 => rfl
  -- the tests of the branch decide the same branch for `k :: (ks ++ ks2)`; then the induction hypothesis
  all_goals rw [List.cons_append, addCands]
  case case2 | case3 | case4 | case6 | case7 => simp +zetaDelta only [↓reduceIte, Bool.false_eq_true, *]
  case case5 e _ _ _ => simp +zetaDelta only [↓reduceIte, Bool.false_eq_true, *]; cases e <;> rfl

theorem collect_nil_cons {rest : List (Block × List Cand)} :
    collect P cb fast ((b, []) :: rest) c w = collect P cb fast rest { c with unconfirmed := [] } w := by
  simp [collect, addCands]

theorem collect_single {ks : List Cand} :
    collect P cb fast [(b, ks)] c w = addCands P cb fast b ks { c with unconfirmed := [] } w := by
  simp only [collect]
  split
  · rename_i h; simp [h]
  · rfl

theorem collect_partition {parts : List (Block × List Cand)} {whole : Block} {ksW : List Cand} {c' : Core}
    (hnc : ∀ s, P.chain s = none) (hu : c.unconfirmed = [])
    (h : Core.AbsEq c c') (hk : absCands whole ksW = parts.flatMap fun p => absCands p.1 p.2) :
    Core.AbsEq (collect P cb fast parts c w).1 (addCands P cb fast whole ksW c' w).1 ∧
    (collect P cb fast parts c w).2 = (addCands P cb fast whole ksW c' w).2 := by
  induction parts generalizing ksW c c' w with
  | nil =>
    have : ksW = [] := by simpa [absCands] using hk
    subst this
    exact ⟨h, rfl⟩
  | cons p rest ih =>
    obtain ⟨b, ks⟩ := p
    simp only [List.flatMap_cons, absCands] at hk
    obtain ⟨k1, k2, rfl, h1, h2⟩ := List.map_eq_append_iff.mp hk
    have ha := addCands_abs (cb := cb) (fast := fast) (w := w) hnc h (by simpa [absCands] using h1.symm : absCands b ks = absCands whole k1)
    rw [addCands_append]
    simp only [collect, clear_unconfirmed_id hu]
    have huA : (addCands P cb fast b ks c w).1.unconfirmed = [] := (addCands_unconfirmed_nochain hnc).trans hu
    rcases hA : addCands P cb fast b ks c w with ⟨cA, wA, msA, eA⟩
    rw [hA] at huA
    rcases hB : addCands P cb fast whole k1 c' w with ⟨cB, wB, msB, eB⟩
    rw [hA, hB] at ha
    obtain ⟨hab, heq⟩ := ha
    obtain ⟨rfl, rfl, rfl⟩ := heq
    cases eA with
    | success =>
      obtain ⟨hc, hr⟩ := ih (ksW := k2) huA hab (by simpa [absCands] using h2)
      exact ⟨hc, congrArg (fun q => (q.1, msA ++ q.2.1, q.2.2)) hr⟩
    | _ => exact ⟨hab, rfl⟩

/-- a block whose scan is nothing but the collection of its candidates: data available, no verifier error, not an
    executable header (the entry point stays undefined) -/
def PlainBlock (P : Params) (set : Settings) (b : Block) : Prop :=
  ∃ d, b.data = some d ∧ P.scanErr d = none ∧ P.ep set.processMemory d b.size b.base = none

def blockCands (P : Params) (b : Block) : List Cand := match b.data with | some d => P.cands d | none => []

theorem scanBlock_plain (ht : set.timeout = 0) (hb : PlainBlock P set b) :
    scanBlock P cb set b c w = addCands P cb set.fastMode b (blockCands P b) { c with unconfirmed := [] } w := by
  obtain ⟨d, hd, he, hep⟩ := hb
  have hto : ∀ c', timedOut set c' w = false := by intro c'; simp [timedOut, ht]
  have hc : (if c.entryPoint.isNone then ({ c with entryPoint := none } : Core) else c) = c := by
    split
    · rename_i hn
      cases c; simp only [Option.isNone_iff_eq_none] at hn; simp_all
    · rfl
  simp only [scanBlock, hd, blockCands, he, hep, hc, hto, Bool.and_false]
  simp

theorem blockLoop_collect {blocks : List Block} (ht : set.timeout = 0) (hb : ∀ b ∈ blocks, PlainBlock P set b) :
    let o := blockLoop P cb set blocks [] c w
    (o.core, o.world, o.msgs, o.result) = collect P cb set.fastMode (blocks.map fun b => (b, blockCands P b)) c w := by
  induction blocks generalizing c w with
  | nil => rw [blockLoop_nil_go stepOf_nil]; rfl
  | cons b r ih =>
    have hsb : scanBlock P cb set b c (tick w .ok) = _ := scanBlock_plain (w := w) ht (hb b (by simp))
    simp only [List.map_cons, collect]
    rcases hA : addCands P cb set.fastMode b (blockCands P b) { c with unconfirmed := [] } w with ⟨c1, w1, ms1, e⟩
    rw [hA] at hsb
    by_cases he : e = .success
    · subst he
      rw [blockLoop_cons_go_ok stepOf_nil hsb]
      simp only
      rw [← ih (fun b' hb' => hb b' (by simp [hb']))]
      rfl
    · rw [blockLoop_cons_go_err stepOf_nil hsb he]
      split
      · rename_i h; exact absurd (congrArg (·.2.2.2) h) he
      · rfl

end YaraModel.Scan
