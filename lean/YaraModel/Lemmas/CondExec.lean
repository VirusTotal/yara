/- Where the execution layer (CondCompile, CondLoop) meets the value level (CondVals): runs that push the word of a value (`RunsV`),
   the loop protocol as the specification's quantifier (`loop_protocol`), and then `compile_runs`, the induction behind
   `compile_correct_partial` (Thm/C04.lean). -/
import YaraModel.Lemmas.CondLoop
import YaraModel.Lemmas.CondVals
namespace YaraModel.CondCompile
open YaraModel.C YaraModel.Cond YaraModel.CondVm

section
variable {env : Env} {code : List Instr} {c : Ctx} {l : LEnv} {pure : Bool}

theorem runs_boolpos (f : List Instr) (t : Ty) (w : Int)
    (ih : Runs env code f c l pure [w]) : Runs env code (f ++ strToBool t) c l pure [boolWord env.fops env.blocks t w] := by
  by_cases ht : t = .str
  · subst ht
    simp only [strToBool, boolWord, beq_self_eq_true, if_true]
    exact Runs.op (.un .OP_STR_TO_BOOL) _ _ ih (fun _ _ _ _ => rfl)
  · have : (t == Ty.str) = false := by simp [ht]
    simp only [strToBool, boolWord, this, if_false, List.append_nil, Bool.false_eq_true]
    exact ih

theorem runs_and {A B : List Instr} {wa wb : Int}
    (ha : Runs env code A c l pure [wa]) (hb : Runs env code B c l pure [wb]) :
    Runs env code (A ++ [.jfalse ((B.length : Int) + 2)] ++ B ++ [.bin .OP_AND]) c l pure
      [b2i ((!isU wa && wa != 0) && (!isU wb && wb != 0))] := by
  refine Runs.val1 ?_ (runs_short _ _ (fun v => !isU v && v == 0) _ (fun _ _ _ _ _ => rfl) (fun _ _ _ _ _ _ => rfl) ha hb)
  rw [vm_and]
  by_cases hk : (!isU wa && wa == 0) = true
  · have hw : wa = 0 := by simp at hk; exact hk.2
    subst hw
    rfl
  · rw [if_neg hk]

theorem runs_or {A B : List Instr} {wa wb : Int}
    (ha : Runs env code A c l pure [wa]) (hb : Runs env code B c l pure [wb]) :
    Runs env code (A ++ [.jtrue ((B.length : Int) + 2)] ++ B ++ [.bin .OP_OR]) c l pure [orWord wa wb] := by
  refine Runs.val1 ?_ (runs_short _ _ (fun v => !isU v && v != 0) _ (fun _ _ _ _ _ => rfl) (fun _ _ _ _ _ _ => rfl) ha hb)
  unfold orWord
  split
  · rfl
  · rename_i hk
    rw [vm_or, Bool.not_eq_true _ |>.mp hk, Bool.false_or]

/-- `Runs` of one word `w` with `WordOK t v w` -/
def RunsV (env : Env) (code frag : List Instr) (c : Ctx) (l : LEnv) (pure : Bool) (t : Ty) (v : Val) : Prop :=
  ∃ w, Runs env code frag c l pure [w] ∧ WordOK t v w

theorem RunsV.ofExact {f : List Instr} {t : Ty} {v : Val}
    (h : Runs env code f c l pure [toVm v]) : RunsV env code f c l pure t v := ⟨_, h, Or.inl rfl⟩

theorem RunsV.exact {f : List Instr} {t : Ty} {v : Val}
    (h : RunsV env code f c l pure t v) (ht : t ≠ .bool) : Runs env code f c l pure [toVm v] := by
  obtain ⟨w, hr, hw⟩ := h
  rw [← hw.exact ht]; exact hr

theorem RunsV.mono {f : List Instr} {p p' : Bool} {t : Ty} {v : Val}
    (h : RunsV env code f c l p t v) (hp : p' = true → p = true) : RunsV env code f c l p' t v := by
  obtain ⟨w, hr, hw⟩ := h
  exact ⟨w, hr.mono hp, hw⟩

theorem RunsV.ofPure {f : List Instr} {t : Ty} {v : Val}
    (h : Runs env code f c l true [toVm v]) : RunsV env code f c l pure t v := .ofExact (h.mono fun _ => rfl)

theorem runs_conv {f : List Instr} (ta tb : Ty) (wa wb : Int)
    (hf : Runs env code f c l pure [wb, wa]) :
    Runs env code (f ++ conv ta tb) c l pure [convB env.fops ta tb wb, convA env.fops ta tb wa] := by
  unfold conv convA convB
  split
  · next h1 =>
    obtain ⟨rfl, rfl⟩ : ta = .int ∧ tb = .flt := by simpa using h1
    exact Runs.opL (.intToDbl 2) [wb, wa] [wb, promoteW env.fops wa] hf (fun _ _ _ _ => rfl)
  · split
    · exact Runs.opL (.intToDbl 1) [wb, wa] [promoteW env.fops wb, wa] hf (fun _ _ _ _ => rfl)
    · rw [List.append_nil]; exact hf

theorem RunsV.boolpos {f : List Instr} {t : Ty} {v : Val}
    (h : RunsV env code f c l pure t v) (hv : ValOk t v) :
    ∃ w, Runs env code (f ++ strToBool t) c l pure [w] ∧ TruthWord v w := by
  obtain ⟨w, hr, hw⟩ := h
  exact ⟨_, runs_boolpos f t w hr, truthWord_boolpos t v w hv hw⟩

theorem orWord_ok {va vb : Val} {wa wb : Int} (ha : TruthWord va wa) (hb : TruthWord vb wb) :
    WordOK .bool (vOr va vb) (orWord wa wb) := by
  unfold orWord vOr
  rw [← tw_truth ha, ← tw_truth hb]
  by_cases hk : (!isU wa && wa != 0) = true
  · simp only [hk, if_true, Bool.true_or]
    simp only [Bool.and_eq_true, Bool.not_eq_true', bne_iff_ne, ne_eq] at hk
    exact Or.inr ⟨rfl, rfl, hk.1, hk.2⟩
  · simp only [hk, Bool.false_eq_true, if_false, Bool.false_or]
    exact Or.inl rfl

theorem runs_quant (q : QKind) (f : List Instr) (w : Int)
    (ihq : q = .num → Runs env code f c l pure [w]) : Runs env code (quantCode f q) c l pure [quantWord q w] := by
  cases q with
  | all => exact Runs.push1 _ _ (fun _ _ _ _ _ => rfl)
  | any => exact Runs.push1 _ _ (fun _ _ _ _ _ => rfl)
  | none => exact Runs.push1 _ _ (fun _ _ _ _ _ => rfl)
  | num => exact ihq rfl

end

/-- **the loop protocol computes the quantifier**: with 0/1/undefined body words `rs`, what ITER_END pushes after the
    (short-circuiting) ITER_CONDITION / ADD_M / INCR_M rounds is the specification's `loopHolds` over all the bodies -/
theorem loop_protocol (q : QKind) (vq : Val) (hq : q = .num → ValOk .int vq ∧ vq ≠ .undef)
    (rs : List Int) (hrs : BoolWords rs) (hb : rs.length < 1152921504606846976) :
    endWord (quantWord q (toVm vq)) (loopGo (quantWord q (toVm vq)) rs 0 0).1 (loopGo (quantWord q (toVm vq)) rs 0 0).2
      = toVm (loopHolds (quantOf q vq) (ones rs) rs.length) := by
  obtain ⟨t', n', h1, hle, h2, h3⟩ := loopGo_spec (quantWord q (toVm vq)) rs hrs 0 0 (Nat.le_refl 0) (by omega)
  simp only [Nat.zero_add] at h3
  rw [show ((0 : Nat) : Int) = 0 from rfl] at h1
  rw [h1, endWord_ofResult _ _ _ hle, h3, w_of q vq (ones rs) _ List.countP_le_length hq]
  have hn : n' = 0 ↔ rs.length = 0 := by rw [h2]; simp
  by_cases h : rs.length = 0
  · rw [if_pos (hn.mpr h), h, loopHolds_zero _ _ (quantOf_ne_undef hq)]; rfl
  · rw [if_neg (mt hn.mp h), loopHolds_pos _ _ _ h]

/-- the purity `compile_runs` promises: loops are boolean, so code of a non-boolean expression is always pure — and only
    such code (operands, quantifier, loop header) is ever needed pure -/
def pureOf (c : Ctx) (e : Expr) : Bool := tyOf c e != .bool || loopFree e

/-- purity of the parent `e'` (boolean) gives purity of the part `e` -/
theorem pureOf_sub {c : Ctx} {e e' : Expr} (hb : tyOf c e' = .bool) (hl : loopFree e' = true → loopFree e = true) :
    pureOf c e' = true → pureOf c e = true := by
  intro h
  simp only [pureOf, hb, bne_self_eq_false, Bool.false_or] at h
  simp [pureOf, hl h]

theorem pureOf_bin {c : Ctx} {e a b : Expr} (hb : tyOf c e = .bool) (hl : loopFree e = (loopFree a && loopFree b)) :
    pureOf c e = true → pureOf c a = true ∧ pureOf c b = true := by
  intro h
  simp only [pureOf, hb, bne_self_eq_false, Bool.false_or, hl, Bool.and_eq_true] at h
  simp [pureOf, h.1, h.2]

/-- entering a loop body: one more variable (type `ty`, value `v`, in M[4·depth+3]) -/
theorem MemInv.push {c : Ctx} {l : LEnv} {mem : List Int} (hP : MemInv c l mem) (ty : Ty) (v : Val) (ofs : Option Nat)
    (cur : Option Nat) (hv : ty ≠ .bool → getM mem (4 * c.vars.length + 3) = toVm v)
    (hcur : ∀ n, cur = some n → ∃ slot, ofs = some slot ∧ slot < 4 * (c.vars.length + 1) ∧ getM mem slot = encStr n) :
    MemInv { c with vars := c.vars ++ [ty], ofSlot := ofs } { vars := l.vars ++ [v], cur := cur } mem := by
  obtain ⟨h1, h2, _⟩ := hP
  refine ⟨by simp [h1], ?_, by simpa using hcur⟩
  intro k hk
  simp only [List.getD_eq_getElem?_getD] at hk ⊢
  by_cases hlt : k < c.vars.length
  · rw [List.getElem?_append_left hlt] at hk
    rw [List.getElem?_append_left (by omega)]
    simpa [List.getD_eq_getElem?_getD] using h2 k (by simpa [List.getD_eq_getElem?_getD] using hk)
  · by_cases heq : k = c.vars.length
    · subst heq
      rw [hv (by simpa using hk), h1]
      simp
    · rw [List.getElem?_eq_none (by simp; omega)] at hk
      exact absurd rfl hk

theorem MemInv.var {c : Ctx} {l : LEnv} {mem : List Int} (hP : MemInv c l mem) (ty : Ty) (v : Val)
    (hg : getM mem (4 * c.vars.length + 3) = toVm v) :
    MemInv { c with vars := c.vars ++ [ty] } { l with vars := l.vars ++ [v] } mem :=
  hP.push ty v c.ofSlot l.cur (fun _ => hg) (fun n hn => by
    obtain ⟨slot, hs, hlt, hgm⟩ := hP.2.2 n hn
    exact ⟨slot, hs, by omega, hgm⟩)

theorem MemInv.ofStr {c : Ctx} {l : LEnv} {mem : List Int} (hP : MemInv c l mem) (n : Nat)
    (hg : getM mem (4 * c.vars.length + 3) = encStr n) :
    MemInv { c with vars := c.vars ++ [.bool], ofSlot := some (4 * c.vars.length + 3) }
      { vars := l.vars ++ [.undef], cur := some n } mem :=
  hP.push .bool .undef _ _ (fun h => absurd rfl h) (fun m hm => by
    cases hm
    exact ⟨_, rfl, by omega, hg⟩)

theorem ones_map {α : Type} (xs : List α) (w : α → Int) (b : α → Val)
    (h : ∀ x ∈ xs, (w x == 1) = asBool (b x)) : ones (xs.map w) = countTrue (xs.map b) := by
  unfold ones countTrue
  rw [List.countP_map, List.countP_map]
  apply List.countP_congr
  intro x hx
  simp only [Function.comp]
  rw [h x hx]

theorem InitRuns.ofStart {env : Env} {code : List Instr} {c : Ctx} {l : LEnv} {f : List Instr} {args ws : List Int}
    (hf : Runs env code f c l true args) (start : Instr) (it : Iter) (hy : Yields it ws)
    (hs : ∀ pc st mem its, step env start ⟨pc, args ++ st, mem, its⟩ = some ⟨pc + 1, encIt its.length :: st, mem, its ++ [it]⟩) :
    InitRuns env code c l (f ++ [start]) ws := by
  intro pc st mem its hc hP hlen
  refine ⟨it, hy, ?_⟩
  obtain ⟨m1, e1, s1, _, p1⟩ := hf pc st mem its hc.left hP hlen
  obtain ⟨rfl, rfl⟩ := p1 rfl
  simpa [Nat.add_assoc] using Steps.trans s1 (Steps.one hc.right.head (hs _ _ _ _))

theorem init_range {env : Env} {code : List Instr} {c : Ctx} {l : LEnv} (flo fhi : List Instr) (wlo whi : Int)
    (hlo : Runs env code flo c l true [wlo]) (hhi : Runs env code fhi c l true [whi]) (ws : List Int)
    (hy : Yields (.range wlo whi) ws) : InitRuns env code c l (flo ++ fhi ++ [Instr.iterStartRange]) ws :=
  .ofStart (Runs.seq hlo hhi) _ _ hy fun _ _ _ _ => rfl

/-- `below`: nothing, or the end-of-set marker -/
theorem init_list {env : Env} {code : List Instr} {c : Ctx} {l : LEnv} (f : List Instr) (ws below : List Int)
    (hf : Runs env code f c l true (ws.reverse ++ below)) (start : Instr)
    (hs : ∀ pc st mem its, step env start ⟨pc, (ws.length : Int) :: (ws.reverse ++ (below ++ st)), mem, its⟩ =
      some ⟨pc + 1, encIt its.length :: st, mem, its ++ [.list ws 0]⟩) :
    InitRuns env code c l (f ++ [Instr.push ws.length, start]) ws := by
  have hy : Yields (.list ws 0) ws := by simpa using yields_list ws 0
  rw [show f ++ [Instr.push ws.length, start] = (f ++ [Instr.push ws.length]) ++ [start] by simp]
  exact .ofStart (Runs.seq hf (Runs.push1 _ _ fun _ _ _ _ _ => rfl)) start _ hy fun pc st mem its => by
    simpa using hs pc st mem its

theorem step_iterStartList (env : Env) (i : Instr) (hi : i = .iterStartEnum ∨ i = .iterStartTextSet) (ws : List Int)
    (pc : Nat) (st mem : List Int) (its : List Iter) :
    step env i ⟨pc, (ws.length : Int) :: (ws.reverse ++ st), mem, its⟩ =
      some ⟨pc + 1, encIt its.length :: st, mem, its ++ [.list ws 0]⟩ := by
  have h2 : (ws.reverse ++ st).drop ws.length = st := List.drop_left' (by simp)
  have h3 : (ws.reverse ++ st).take ws.length = ws.reverse := List.take_left' (by simp)
  have h1 : ¬ ((ws.length : Int) < 0 ∨ ws.length > (ws.reverse ++ st).length) := by simp
  rcases hi with rfl | rfl <;> simp only [step, Int.toNat_natCast, h1, if_false, h2, h3, List.reverse_reverse]

theorem step_iterStartStrSet (env : Env) (ws : List Int) (pc : Nat) (st mem : List Int) (its : List Iter) :
    step env .iterStartStrSet ⟨pc, (ws.length : Int) :: (ws.reverse ++ ([UNDEF] ++ st)), mem, its⟩ =
      some ⟨pc + 1, encIt its.length :: st, mem, its ++ [.list ws 0]⟩ := by
  have h2 : (ws.reverse ++ ([UNDEF] ++ st)).drop (ws.length + 1) = st := by
    have : ws.reverse ++ ([UNDEF] ++ st) = (ws.reverse ++ [UNDEF]) ++ st := by simp
    rw [this]; exact List.drop_left' (by simp)
  have h3 : (ws.reverse ++ ([UNDEF] ++ st)).take ws.length = ws.reverse := List.take_left' (by simp)
  have h1 : ¬ ((ws.length : Int) < 0 ∨ ws.length + 1 > (ws.reverse ++ ([UNDEF] ++ st)).length) := by simp
  simp only [step, Int.toNat_natCast, h1, if_false, h2, h3, List.reverse_reverse]

/-- `runs_loop` with `loop_protocol`; `word x`: what the iterator yields for item `x`, `bv x`: the body's value for `x` -/
theorem runs_loop_spec (env : Env) (code : List Instr) (c : Ctx) (l : LEnv) (q : QKind) (qe : Expr)
    (init body : List Instr) {α : Type} (vals : List α) (word : α → Int) (bv : α → Val) (c' : Ctx) (l' : α → LEnv)
    (hd : c.vars.length < 4)
    (hqok : q = .num → ValOk .int (eval env l qe) ∧ eval env l qe ≠ .undef)
    (hq : Runs env code (quantCode (compile c qe) q) c l true [quantWord q (toVm (eval env l qe))])
    (hinit : InitRuns env code c l init (vals.map word))
    (hc' : 4 * c'.vars.length = 4 * c.vars.length + 4)
    (hin : ∀ x mem, MemInv c l mem → getM mem (4 * c.vars.length + 3) = word x → MemInv c' (l' x) mem)
    (hbody : ∀ x ∈ vals, ∃ w, Runs env code body c' (l' x) false [w] ∧ TruthWord (bv x) w)
    (hlen : vals.length < 1152921504606846976) :
    Runs env code (loopCode (quantCode (compile c qe) q) init body (4 * c.vars.length)) c l false
      [toVm (loopHolds (quantOf q (eval env l qe)) (countTrue (vals.map bv)) vals.length)] := by
  have hrun := runs_loop env code c l (quantCode (compile c qe) q) init body (4 * c.vars.length) rfl (by omega)
    (quantWord q (toVm (eval env l qe))) hq vals word (fun x => nbWord (bv x)) hinit c' l' hc' hin
    hbody
  refine Runs.val1 ?_ hrun
  have hbw : BoolWords (vals.map fun x => nbWord (bv x)) := List.forall_mem_map.mpr fun x _ => nbWord_bool (bv x)
  rw [loop_protocol q (eval env l qe) hqok _ hbw (by simpa using hlen)]
  rw [ones_map vals _ bv (fun x _ => nbWord_eq_one (bv x))]
  simp

theorem intRange_words (a b : Int) : (intRange (.int a) (.int b)).map toVm = rangeWords a b := by
  simp [intRange, rangeWords, List.map_map, Function.comp_def]

theorem yields_intRange {vlo vhi : Val} (hlo : ValOk .int vlo) (hhi : ValOk .int vhi)
    (hrng : ∀ a b, vlo = .int a → vhi = .int b → INT64_MIN ≤ a ∧ b ≤ INT64_MAX ∧ b - a < 1152921504606846975)
    (hne : ∀ v ∈ intRange vlo vhi, v ≠ .int UNDEF) :
    Yields (.range (toVm vlo) (toVm vhi)) ((intRange vlo vhi).map toVm) ∧ (intRange vlo vhi).length < 1152921504606846976 := by
  rcases hlo with rfl | ⟨a, rfl, _⟩
  · exact ⟨yields_range_undef _ _ (Or.inl (by simp)), by simp [intRange]⟩
  · rcases hhi with rfl | ⟨b, rfl, _⟩
    · exact ⟨yields_range_undef _ _ (Or.inr (by simp)), by simp [intRange]⟩
    · obtain ⟨r1, r2, r3⟩ := hrng a b rfl rfl
      refine ⟨?_, by rw [intRange_length]; omega⟩
      rw [intRange_words]
      exact yields_range a b r2 r1 fun i h1 h2 hi => hne _ ((mem_intRange a b _).mpr ⟨i, h1, h2, rfl⟩) (by rw [hi])

theorem evalList_length (env : Env) (l : LEnv) : ∀ items : List Expr, (evalList env l items).length = items.length
  | [] => by simp [evalList]
  | e :: es => by simp [evalList, evalList_length env l es]

theorem operand_runs {env : Env} {code : List Instr} {c : Ctx} {l : LEnv} {e : Expr} {t : Ty}
    (ih : RunsV env code (compile c e) c l (pureOf c e) (tyOf c e) (eval env l e))
    (hw : WF env c l e) (ht : tyOf c e = t) (hb : t ≠ .bool) :
    Runs env code (compile c e) c l true [toVm (eval env l e)] ∧ ValOk t (eval env l e) := by
  subst ht
  rw [show pureOf c e = true by simp [pureOf, hb]] at ih
  exact ⟨ih.exact hb, wf_typed env c l e hw⟩

theorem quant_operand {env : Env} {code : List Instr} {c : Ctx} {l : LEnv} {q : QKind} {qe : Expr}
    (hwq : q = .num → WF env c l qe ∧ tyOf c qe = .int ∧ eval env l qe ≠ .undef)
    (ih : q = .num → RunsV env code (compile c qe) c l (pureOf c qe) (tyOf c qe) (eval env l qe)) :
    Runs env code (quantCode (compile c qe) q) c l true [quantWord q (toVm (eval env l qe))] ∧
    (q = .num → ValOk .int (eval env l qe) ∧ eval env l qe ≠ .undef) :=
  ⟨runs_quant q _ _ (fun h => (operand_runs (ih h) (hwq h).1 (hwq h).2.1 (by decide)).1),
   fun h => ⟨(operand_runs (ih h) (hwq h).1 (hwq h).2.1 (by decide)).2, (hwq h).2.2⟩⟩

theorem runs_marked {env : Env} {code fq fs : List Instr} {c : Ctx} {l : LEnv} {qw : Int} {ws : List Int}
    (hq : Runs env code fq c l true [qw]) (hs : Runs env code fs c l true ws.reverse) :
    Runs env code (fq ++ [Instr.pushU] ++ fs) c l true (ws.reverse ++ ([UNDEF] ++ [qw])) :=
  Runs.seq (Runs.seq hq (Runs.push1 _ _ (fun _ _ _ _ _ => rfl))) hs

theorem isU_strset (set : List Nat) : ∀ w ∈ set.map encStr, isU w = false :=
  List.forall_mem_map.mpr fun _ _ => isUndef_encPtr _ _

theorem isU_ruleset (env : Env) (set : List Nat) : ∀ w ∈ set.map (fun k => b2i (env.ruleMatched k)), isU w = false :=
  List.forall_mem_map.mpr fun _ _ => isUndef_b2i _

/-- with the operand types `WF` allows, every arithmetic operator is compiled the way `+ - * \\` are: for the integer-only
    operators `conv` is empty and `numTy` is `.int` -/
theorem compile_arith (c : Ctx) (op : ArOp) (a b : Expr)
    (hta : tyOf c a = .int ∨ (isFltOp op = true ∧ tyOf c a = .flt)) (htb : tyOf c b = .int ∨ (isFltOp op = true ∧ tyOf c b = .flt)) :
    compile c (.arith op a b) =
      compile c a ++ compile c b ++ conv (tyOf c a) (tyOf c b) ++ [.bin (arithOp (numTy (tyOf c a) (tyOf c b)) op)] := by
  cases op <;> simp [isFltOp] at hta htb <;> simp [compile, conv, numTy, hta, htb]

mutual
/-- **execution of every well-formed expression**: the code `compile` emits pushes the word of the value `eval` assigns
    (for a true boolean after `or`: some true word); code without loops leaves loop memory and iterators untouched -/
theorem compile_runs (env : Env) (henv : EnvOk env) (code : List Instr) :
    ∀ (e : Expr) (c : Ctx) (l : LEnv), WF env c l e →
      RunsV env code (compile c e) c l (pureOf c e) (tyOf c e) (eval env l e)
  | .int v, c, l, hw => by
    have hv : isUndef v = false := isUndef_of_ne (by simpa [WF] using hw)
    simp only [compile, hv, eval]
    exact .ofPure (Runs.push1 _ _ (fun _ _ _ _ _ => rfl))
  | .flt _, c, l, _ | .str _, c, l, _ | .filesize, c, l, _ | .ext _, c, l, _ | .undefOf _, c, l, _ | .tt, c, l, _
  | .ff, c, l, _ => by
    simp only [compile, eval]
    exact .ofPure (Runs.push1 _ _ (fun _ _ _ _ _ => rfl))
  | .var k, c, l, hw => by
    simp only [WF] at hw
    simp only [compile, eval]
    exact .ofPure (Runs.push1 _ _ (fun pc st mem its hP => by rw [← hP.2.1 k hw.1]; rfl))
  | .ruleRef k, c, l, _ => by
    simp only [compile, eval]
    refine .ofPure (Runs.val1 ?_ (Runs.push1 (.pushRule k) (ruleWord env k) (fun _ _ _ _ _ => rfl)))
    unfold ruleWord
    split <;> rfl
  | .count s, c, l, hw | .found s, c, l, hw => by
    simp only [WF] at hw
    simp only [compile, eval, matchesOf_idx env c l s hw]
    exact .ofPure (Runs.val1 (by rw [ms_enc]; rfl)
      (Runs.pushOp (f := []) _ [] _ (Runs.nil env code c l true) (runs_pushStr env code c l true s hw) (fun _ _ _ _ => rfl)))
  | .countIn s lo hi, c, l, hw | .foundIn s lo hi, c, l, hw => by
    simp only [WF] at hw
    obtain ⟨hs, hwlo, hwhi, htlo, hthi⟩ := hw
    obtain ⟨rlo, vlo⟩ := operand_runs (compile_runs env henv code lo c l hwlo) hwlo htlo (by decide)
    obtain ⟨rhi, vhi⟩ := operand_runs (compile_runs env henv code hi c l hwhi) hwhi hthi (by decide)
    simp only [compile, eval, matchesOf_idx env c l s hs]
    refine .ofPure (Runs.val1 ?_
      (Runs.pushOp _ _ _ (Runs.seq rlo rhi) (runs_pushStr env code c l true s hs) (fun _ _ _ _ => rfl)))
    rw [ms_enc]
    first | exact w_countIn _ _ _ vlo vhi | exact w_foundIn _ _ _ vlo vhi
  | .foundAt s pos, c, l, hw => by
    simp only [WF] at hw
    obtain ⟨hs, hwp, htp⟩ := hw
    obtain ⟨rp, vp⟩ := operand_runs (compile_runs env henv code pos c l hwp) hwp htp (by decide)
    simp only [compile, eval, matchesOf_idx env c l s hs]
    exact .ofPure (Runs.val1 (by rw [ms_enc]; exact w_foundAt _ _ vp)
      (Runs.pushOp .foundAt _ _ rp (runs_pushStr env code c l true s hs) (fun _ _ _ _ => rfl)))
  | .offset s i, c, l, hw | .length s i, c, l, hw => by
    simp only [WF] at hw
    obtain ⟨hs, hwp, htp, _⟩ := hw
    obtain ⟨rp, vp⟩ := operand_runs (compile_runs env henv code i c l hwp) hwp htp (by decide)
    simp only [compile, eval, matchesOf_idx env c l s hs]
    refine .ofPure (Runs.val1 ?_ (Runs.pushOp _ _ _ rp (runs_pushStr env code c l true s hs) (fun _ _ _ _ => rfl)))
    rw [ms_enc]
    first | exact w_offset _ _ vp | exact w_length _ _ vp
  | .matches a re nc, c, l, hw => by
    simp only [WF] at hw
    obtain ⟨ra, va⟩ := operand_runs (compile_runs env henv code a c l hw.1) hw.1 hw.2 (by decide)
    simp only [compile, eval]
    exact .ofPure (Runs.val1 (w_matches re nc _ va)
      (Runs.pushOp .matches _ _ ra (Runs.push1 _ _ (fun _ _ _ _ _ => rfl)) (fun _ _ _ _ => rfl)))
  | .read k off, c, l, hw => by
    simp only [WF] at hw
    obtain ⟨ro, vo⟩ := operand_runs (compile_runs env henv code off c l hw.1) hw.1 hw.2.1 (by decide)
    simp only [compile, eval]
    exact .ofPure (Runs.val1 (vm_read henv k _ vo hw.2.2.2) (Runs.op (.un (readOp k)) _ _ ro (fun _ _ _ _ => rfl)))
  | .bnot e, c, l, hw => by
    simp only [WF] at hw
    obtain ⟨re, ve⟩ := operand_runs (compile_runs env henv code e c l hw.1) hw.1 hw.2.1 (by decide)
    simp only [compile, eval]
    exact .ofPure (Runs.val1 (vm_bnot _ ve) (Runs.op (.un .OP_BITWISE_NOT) _ _ re (fun _ _ _ _ => rfl)))
  | .neg e, c, l, hw => by
    simp only [WF] at hw
    rcases hw.2.1 with hty | hty
    · obtain ⟨re, ve⟩ := operand_runs (compile_runs env henv code e c l hw.1) hw.1 hty (by decide)
      simp only [compile, hty, eval]
      exact .ofPure (Runs.val1 (vm_neg _ ve) (Runs.op (.un .OP_INT_MINUS) _ _ re (fun _ _ _ _ => rfl)))
    · obtain ⟨re, ve⟩ := operand_runs (compile_runs env henv code e c l hw.1) hw.1 hty (by decide)
      simp only [compile, hty, eval]
      exact .ofPure (Runs.val1 (vm_neg_flt _ ve) (Runs.op (.un .OP_DBL_MINUS) _ _ re (fun _ _ _ _ => rfl)))
  | .strop op a b, c, l, hw => by
    simp only [WF] at hw
    obtain ⟨hwa, hwb, h1, h2⟩ := hw
    obtain ⟨ra, va⟩ := operand_runs (compile_runs env henv code a c l hwa) hwa h1 (by decide)
    obtain ⟨rb, vb⟩ := operand_runs (compile_runs env henv code b c l hwb) hwb h2 (by decide)
    simp only [compile, eval]
    exact .ofPure (Runs.val1 (vm_strop _ _ _ va vb) (Runs.op (.bin (strOpc op)) _ _ (Runs.seq ra rb) (fun _ _ _ _ => rfl)))
  | .arith op a b, c, l, hw => by
    simp only [WF] at hw
    obtain ⟨hwa, hwb, hca, hcb, _, hpr⟩ := hw
    obtain ⟨ra, va⟩ := operand_runs (compile_runs env henv code a c l hwa) hwa rfl (by rcases hca with h | ⟨_, h⟩ <;> rw [h] <;> decide)
    obtain ⟨rb, vb⟩ := operand_runs (compile_runs env henv code b c l hwb) hwb rfl (by rcases hcb with h | ⟨_, h⟩ <;> rw [h] <;> decide)
    rw [compile_arith c op a b hca hcb]
    simp only [eval]
    exact .ofPure (Runs.val1 (vm_arith_num op _ _ _ _ hca hcb va vb hpr)
      (Runs.op (.bin _) _ _ (runs_conv _ _ _ _ (Runs.seq ra rb)) (fun _ _ _ _ => rfl)))
  | .cmp op a b, c, l, hw => by
    simp only [WF] at hw
    obtain ⟨hwa, hwb, hty, hpr⟩ := hw
    obtain ⟨ra, va⟩ := operand_runs (compile_runs env henv code a c l hwa) hwa rfl
      (by rcases hty with ⟨h | h, _⟩ | ⟨h, _⟩ <;> rw [h] <;> decide)
    obtain ⟨rb, vb⟩ := operand_runs (compile_runs env henv code b c l hwb) hwb rfl
      (by rcases hty with ⟨_, h | h⟩ | ⟨_, h⟩ <;> rw [h] <;> decide)
    simp only [compile, eval]
    exact .ofPure (Runs.val1 (vm_cmp_num op _ _ _ _ hty va vb hpr)
      (Runs.op (.bin _) _ _ (runs_conv _ _ _ _ (Runs.seq ra rb)) (fun _ _ _ _ => rfl)))
  | .not e, c, l, hw | .defined e, c, l, hw => by
    simp only [WF] at hw
    obtain ⟨w, hr, htw⟩ := (compile_runs env henv code e c l hw).boolpos (wf_typed env c l e hw)
    simp only [compile, eval]
    refine .ofExact (Runs.val1 ?_ (Runs.op _ _ _ (hr.mono (pureOf_sub rfl id)) (fun _ _ _ _ => rfl)))
    first | exact tw_not htw | exact tw_defined htw
  | .and a b, c, l, hw => by
    simp only [WF] at hw
    obtain ⟨wa, hra, htwa⟩ := (compile_runs env henv code a c l hw.1).boolpos (wf_typed env c l a hw.1)
    obtain ⟨wb, hrb, htwb⟩ := (compile_runs env henv code b c l hw.2).boolpos (wf_typed env c l b hw.2)
    simp only [compile, eval, vAnd]
    rw [← tw_truth htwa, ← tw_truth htwb]
    exact .ofExact (runs_and (hra.mono fun h => (pureOf_bin rfl rfl h).1) (hrb.mono fun h => (pureOf_bin rfl rfl h).2))
  | .or a b, c, l, hw => by
    simp only [WF] at hw
    obtain ⟨wa, hra, htwa⟩ := (compile_runs env henv code a c l hw.1).boolpos (wf_typed env c l a hw.1)
    obtain ⟨wb, hrb, htwb⟩ := (compile_runs env henv code b c l hw.2).boolpos (wf_typed env c l b hw.2)
    have hr := runs_or (pure := pureOf c (.or a b)) (hra.mono fun h => (pureOf_bin rfl rfl h).1)
      (hrb.mono fun h => (pureOf_bin rfl rfl h).2)
    exact ⟨orWord wa wb, by simpa [compile] using hr, orWord_ok htwa htwb⟩
  | .ofStr q qe set, c, l, hw => by
    simp only [WF] at hw
    obtain ⟨hq, hqok⟩ := quant_operand hw (fun h => compile_runs env henv code qe c l (hw h).1)
    simp only [compile, eval]
    refine .ofPure (Runs.val1 ?_ (Runs.op (.of_ false) _ _ (runs_marked hq (runs_strset set))
      (step_of_set env false _ (isU_strset set) _)))
    simp only [Bool.false_eq_true, if_false, List.length_map]
    rw [count_strset env set (fun ms => !ms.isEmpty)]
    exact w_of q _ _ _ List.countP_le_length hqok
  | .ofRules q qe set, c, l, hw => by
    simp only [WF] at hw
    obtain ⟨hq, hqok⟩ := quant_operand hw (fun h => compile_runs env henv code qe c l (hw h).1)
    simp only [compile, eval]
    refine .ofPure (Runs.val1 ?_ (Runs.op (.of_ true) _ _ (runs_marked hq (runs_ruleset set))
      (step_of_set env true _ (isU_ruleset env set) _)))
    simp only [if_true, List.length_map]
    rw [count_ruleset env set]
    exact w_of q _ _ _ List.countP_le_length hqok
  | .pctStr p set, c, l, hw => by
    simp only [WF] at hw
    obtain ⟨rp, vp⟩ := operand_runs (compile_runs env henv code p c l hw.1) hw.1 hw.2.1 (by decide)
    simp only [compile, eval]
    refine .ofPure (Runs.val1 ?_ (Runs.op (.ofPercent false) _ _ (runs_marked rp (runs_strset set))
      (step_ofPercent_set env false _ (isU_strset set) _)))
    simp only [Bool.false_eq_true, if_false, List.length_map]
    rw [count_strset env set (fun ms => !ms.isEmpty)]
    exact w_pct _ _ _ (by simpa using hw.2.2) vp
  | .pctRules p set, c, l, hw => by
    simp only [WF] at hw
    obtain ⟨rp, vp⟩ := operand_runs (compile_runs env henv code p c l hw.1) hw.1 hw.2.1 (by decide)
    simp only [compile, eval]
    refine .ofPure (Runs.val1 ?_ (Runs.op (.ofPercent true) _ _ (runs_marked rp (runs_ruleset set))
      (step_ofPercent_set env true _ (isU_ruleset env set) _)))
    simp only [if_true, List.length_map]
    rw [count_ruleset env set]
    exact w_pct _ _ _ (by simpa using hw.2.2) vp
  | .ofStrIn q qe set lo hi, c, l, hw => by
    simp only [WF] at hw
    obtain ⟨hwq, hwlo, hwhi, htlo, hthi⟩ := hw
    obtain ⟨hq, hqok⟩ := quant_operand hwq (fun h => compile_runs env henv code qe c l (hwq h).1)
    obtain ⟨rlo, vlo⟩ := operand_runs (compile_runs env henv code lo c l hwlo) hwlo htlo (by decide)
    obtain ⟨rhi, vhi⟩ := operand_runs (compile_runs env henv code hi c l hwhi) hwhi hthi (by decide)
    simp only [compile, eval]
    refine .ofPure (Runs.val1 ?_ (Runs.op .ofFoundIn _ _ (Runs.seq (Runs.seq (runs_marked hq (runs_strset set)) rlo) rhi)
      (step_ofFoundIn_set env _ (isU_strset set) _ _ _)))
    rcases vlo with hlo | ⟨a, hlo, ha⟩
    · simp [hlo]
    · rcases vhi with hhi | ⟨b, hhi, hb⟩
      · simp [hlo, hhi]
      · simp only [hlo, hhi, toVm, isU, isUndef_of_ne ha, isUndef_of_ne hb, Bool.or_self, Bool.false_eq_true, if_false,
          List.length_map]
        rw [count_strset env set (fun ms => ms.any (inRange a b))]
        exact w_of q _ _ _ List.countP_le_length hqok
  | .ofStrAt q qe set pos, c, l, hw => by
    simp only [WF] at hw
    obtain ⟨hwq, hwp, htp⟩ := hw
    obtain ⟨hq, hqok⟩ := quant_operand hwq (fun h => compile_runs env henv code qe c l (hwq h).1)
    obtain ⟨rp, vp⟩ := operand_runs (compile_runs env henv code pos c l hwp) hwp htp (by decide)
    simp only [compile, eval]
    refine .ofPure (Runs.val1 ?_ (Runs.op .ofFoundAt _ _ (Runs.seq (runs_marked hq (runs_strset set)) rp)
      (step_ofFoundAt_set env _ (isU_strset set) _ _)))
    rcases vp with hp | ⟨a, hp, ha⟩
    · simp [hp]
    · simp only [hp, toVm, isU, isUndef_of_ne ha, Bool.false_eq_true, if_false, List.length_map]
      rw [count_strset env set (fun ms => ms.any fun m => m.1 == a)]
      exact w_of q _ _ _ List.countP_le_length hqok
  | .forRange q qe lo hi body, c, l, hw => by
    simp only [WF] at hw
    obtain ⟨hwq, hwlo, hwhi, htlo, hthi, hd, hrng, hitems⟩ := hw
    obtain ⟨hq, hqok⟩ := quant_operand hwq (fun h => compile_runs env henv code qe c l (hwq h).1)
    obtain ⟨hlo, tlo⟩ := operand_runs (compile_runs env henv code lo c l hwlo) hwlo htlo (by decide)
    obtain ⟨hhi, thi⟩ := operand_runs (compile_runs env henv code hi c l hwhi) hwhi hthi (by decide)
    obtain ⟨hy, hlen⟩ := yields_intRange tlo thi hrng fun v hv => (hitems v hv).2
    apply RunsV.ofExact
    simp only [compile, eval]
    apply runs_loop_spec env code c l q qe _ _
      (intRange (eval env l lo) (eval env l hi)) toVm
      (fun v => eval env { l with vars := l.vars ++ [v] } body) { c with vars := c.vars ++ [.int] }
      (fun v => { l with vars := l.vars ++ [v] }) hd hqok hq
    · exact init_range _ _ _ _ hlo hhi _ hy
    · simp; omega
    · exact fun v mem hP hg => MemInv.var hP .int v hg
    · exact fun v hv => ((compile_runs env henv code body _ _ (hitems v hv).1).mono (p' := false) nofun).boolpos
        (wf_typed env _ _ body (hitems v hv).1)
    · exact hlen
  | .forEnum q qe items body, c, l, hw => by
    simp only [WF] at hw
    obtain ⟨hwq, hwl, hd, hn, hitems⟩ := hw
    obtain ⟨hq, hqok⟩ := quant_operand hwq (fun h => compile_runs env henv code qe c l (hwq h).1)
    have hl0 := compileList_runs env henv code items c l hwl
    apply RunsV.ofExact
    simp only [compile, eval]
    have hlen : ((evalList env l items).map toVm).length = items.length := by simp [evalList_length]
    apply runs_loop_spec env code c l q qe _ _
      (evalList env l items) toVm (fun v => eval env { l with vars := l.vars ++ [v] } body)
      { c with vars := c.vars ++ [enumTy c items] } (fun v => { l with vars := l.vars ++ [v] }) hd hqok hq
    · rw [← hlen]
      by_cases hs : (enumTy c items == Ty.str) = true
      · simp only [hs, if_true]
        exact init_list _ _ [] (by simpa using hl0) _ (step_iterStartList env _ (Or.inr rfl) _)
      · simp only [hs, Bool.false_eq_true, if_false]
        exact init_list _ _ [] (by simpa using hl0) _ (step_iterStartList env _ (Or.inl rfl) _)
    · simp; omega
    · exact fun v mem hP hg => MemInv.var hP _ v hg
    · exact fun v hv => ((compile_runs env henv code body _ _ (hitems v hv)).mono (p' := false) nofun).boolpos (wf_typed env _ _ body (hitems v hv))
    · rw [evalList_length]; exact hn
  | .forOf q qe set body, c, l, hw => by
    simp only [WF] at hw
    obtain ⟨hwq, hd, hn, hitems⟩ := hw
    obtain ⟨hq, hqok⟩ := quant_operand hwq (fun h => compile_runs env henv code qe c l (hwq h).1)
    apply RunsV.ofExact
    simp only [compile, eval]
    apply runs_loop_spec env code c l q qe _ _
      set encStr (fun n => eval env { vars := l.vars ++ [.undef], cur := some n } body)
      { c with vars := c.vars ++ [.bool], ofSlot := some (4 * c.vars.length + 3) }
      (fun n => { vars := l.vars ++ [.undef], cur := some n }) hd hqok hq
    · -- ITER_START_STRING_SET also pops the end-of-set marker below the strings
      have hpush : Runs env code ([Instr.pushU] ++ set.map fun n => Instr.push (encStr n)) c l true
          ((set.map encStr).reverse ++ [UNDEF]) :=
        Runs.seq (Runs.push1 _ _ (fun _ _ _ _ _ => rfl)) (runs_strset set)
      have hlen : (set.map encStr).length = set.length := by simp
      rw [← hlen]
      exact init_list _ _ [UNDEF] hpush _ (step_iterStartStrSet env _)
    · simp; omega
    · exact fun n mem hP hg => MemInv.ofStr hP n hg
    · exact fun n hn => ((compile_runs env henv code body _ _ (hitems n hn)).mono (p' := false) nofun).boolpos (wf_typed env _ _ body (hitems n hn))
    · exact hn

theorem compileList_runs (env : Env) (henv : EnvOk env) (code : List Instr) :
    ∀ (items : List Expr) (c : Ctx) (l : LEnv), WFList env c l items →
      Runs env code (compileList c items) c l true ((evalList env l items).map toVm).reverse
  | [], c, l, _ => by simpa [compileList, evalList] using Runs.nil env code c l true
  | e :: es, c, l, hw => by
    simp only [WFList] at hw
    have h1 := (operand_runs (compile_runs env henv code e c l hw.1) hw.1 rfl hw.2.2.1).1
    have h2 := compileList_runs env henv code es c l hw.2.2.2
    simpa [compileList, evalList] using Runs.seq h1 h2
end

/-- the rule's code, placed at pc 0 and run from the empty state, leaves the specification's verdict for every fuel above
    the number of steps -/
theorem compile_correct_fuel (env : Env) (henv : EnvOk env) (cond : Expr)
    (hwf : WF env (ctxOfEnv env) {} cond) :
    ∃ n, ∀ fuel, n < fuel → modelVerdict env cond fuel = some (ruleVerdict env cond) := by
  let c := ctxOfEnv env
  obtain ⟨w, hrun, htw⟩ := (compile_runs env henv (compileRule c cond) cond c {} hwf).boolpos (wf_typed env c {} cond hwf)
  have hinv : MemInv c {} ({} : St).mem :=
    ⟨rfl, fun k hk => absurd (by simp [c, ctxOfEnv]) hk, fun n hn => by simp at hn⟩
  obtain ⟨mem', ext, ⟨n, hn⟩, _⟩ := hrun 0 [] _ [] (CodeAt.whole _) hinv rfl
  refine ⟨n, fun fuel hf => ?_⟩
  have hr := run_of_runN_le env (compileRule c cond) n {} _ hn (by simp [compileRule]) fuel hf
  simp only [modelVerdict]
  rw [hr]
  simp only [verdictOf, List.append_nil, ruleVerdict]
  rw [← tw_truth htw]

/-- for the non-vacuity examples, whose environments are literals -/
instance (env : Env) : Decidable (EnvOk env) := by unfold EnvOk; exact inferInstance

end YaraModel.CondCompile
