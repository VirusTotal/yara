/- What yr_rules_from_arena's summary test sees after a successful arena load: for ANY stream, buffer j of the
   loaded arena is unallocated exactly when the size field of table entry j in the file is 0; the same test with one size
   field overwritten (`loadRules_patch_size`), whose hypotheses a saved image meets (end of the file). -/
import YaraModel.Lemmas.ArenaCorrupt
namespace YaraModel.Arena
open YaraModel.Gen.ArenaLayout

theorem readBodies_shape (alloc : Nat → Nat) (hnz : ∀ i, alloc i ≠ 0) (i : Nat) (sizes : List Nat) (s : Bytes) :
    ∀ bufs s', readBodies alloc i sizes s = .ok (bufs, s') →
      bufs.length = sizes.length ∧ ∀ j, (bufs.getD j {}).base = 0 ↔ sizes.getD j 0 = 0 := by
  fun_induction readBodies alloc i sizes s with
  | case1 => intro bufs s' h; cases h; exact ⟨rfl, fun j => by simp⟩
  | case3 | case4 => intro bufs s' h; cases h
  | case2 i rest s ih =>
    cases h1 : readBodies alloc (i + 1) rest s with
    | error e => intro _ _ h; cases h
    | ok p =>
      intro _ _ h; cases h
      obtain ⟨hl, hb⟩ := ih _ _ h1
      exact ⟨by simp [hl], fun j => by cases j with | zero => simp | succ j => exact hb j⟩
  | case5 i size rest s hz _ _ _ ih =>
    cases h1 : readBodies alloc (i + 1) rest (s.drop size) with
    | error e => intro _ _ h; cases h
    | ok p =>
      intro _ _ h; cases h
      obtain ⟨hl, hb⟩ := ih _ _ h1
      exact ⟨by simp [hl], fun j => by cases j with | zero => simp [hz, hnz] | succ j => exact hb j⟩

theorem parseHeader_ok {s : Bytes} {n : Nat} {s1 : Bytes} (h : parseHeader s = .ok (n, s1)) :
    n = (s.getD hdrNumBuffersOff 0).toNat ∧ s1 = s.drop headerSize := by
  revert h
  fun_cases parseHeader s <;> intro h <;> cases h
  exact ⟨rfl, rfl⟩

theorem load_shape (cfg : LoaderCfg) (alloc : Nat → Nat) (hnz : ∀ i, alloc i ≠ 0) (s : Bytes) (A' : Arena)
    (h : load cfg alloc s = .ok A') :
    A'.bufs.length = (s.getD hdrNumBuffersOff 0).toNat ∧
      ∀ j, j < A'.bufs.length → ((A'.bufAt j).base = 0 ↔ rdLE tblSizeSize s (sizeFieldAt j) = 0) := by
  rw [load_eq] at h
  cases h1 : parseHeader s with
  | error e => rw [h1] at h; cases h
  | ok p1 =>
    obtain ⟨n, s1⟩ := p1
    obtain ⟨hn, rfl⟩ := parseHeader_ok h1
    rw [h1] at h
    simp only at h
    rcases parseTable_cases n (s.drop headerSize) with h2 | h2
    · rw [h2] at h; cases h
    rw [h2] at h
    simp only at h
    split at h
    · cases h
    cases h3 : readBodies alloc 0 ((List.range n).map fun i => rdLE tblSizeSize (s.drop headerSize) (tableEntrySize * i + tblSizeOff))
        ((s.drop headerSize).drop (tableEntrySize * n)) with
    | error e => rw [h3] at h; cases h
    | ok p3 =>
      rw [h3] at h
      obtain ⟨hl, hb⟩ := readBodies_shape alloc hnz _ _ _ _ _ h3
      have hk := applyRelocs_keys cfg _ _ A' h
      have hlen : A'.bufs.length = n := by
        rw [← List.length_map (f := key), hk, List.length_map, hl, List.length_map, List.length_range]
      refine ⟨hlen.trans hn, fun j hj => ?_⟩
      rw [bufAt_eq_getD, (getD_of_keys hk j).1, hb j, List.getD_eq_getElem?_getD, List.getElem?_map, List.getElem?_range (hlen ▸ hj)]
      simp only [Option.map_some, Option.getD_some, rdLE, List.drop_drop, sizeFieldAt, Nat.add_assoc]

/-- **yr_rules_load_stream on any stream**: after a successful arena load the only further test is that the summary
    buffer exists (`yr_arena_get_ptr` asserts `buffer_id < num_buffers`, then `summary == NULL`): it depends on the
    header's buffer count and on the size field of table entry 11 alone -/
theorem loadRules_eq (cfg : LoaderCfg) (alloc : Nat → Nat) (hnz : ∀ i, alloc i ≠ 0) (s : Bytes) :
    loadRules cfg alloc s =
      match load cfg alloc s with
      | .error e => .error e
      | .ok A' =>
        if (s.getD hdrNumBuffersOff 0).toNat ≤ summarySection then .error .assertFail
        else if rdLE tblSizeSize s (sizeFieldAt summarySection) = 0 then .error .corruptFile
        else .ok A' := by
  unfold loadRules
  cases h : load cfg alloc s with
  | error e => rfl
  | ok A' =>
    have ⟨hl, hb⟩ := load_shape cfg alloc hnz s A' h
    simp only [bind, Except.bind]
    rw [hl]
    split
    · rfl
    · exact ite_cond_congr (propext (hb summarySection (by rw [hl]; omega)))

theorem sizeFieldAt_eq (i : Nat) : sizeFieldAt i = 12 * i + 14 := by
  simp only [sizeFieldAt, headerSize, tableEntrySize, tblSizeOff]; omega

theorem loadRules_patch_size (cfg : LoaderCfg) (alloc : Nat → Nat) (hnz : ∀ i, alloc i ≠ 0) (img : Bytes) {n : Nat}
    (hnb : (img.getD hdrNumBuffersOff 0).toNat = n) (hlen : headerSize + tableEntrySize * n ≤ img.length)
    (hsum : summarySection < n) (hsz : rdLE tblSizeSize img (sizeFieldAt summarySection) ≠ 0)
    (i : Nat) (hi : i < n) (z : Nat) (hz : z < 2 ^ 32) (A' : Arena)
    (hA : load cfg alloc (patch img (sizeFieldAt i) (leBytes 4 z)) = .ok A') :
    loadRules cfg alloc (patch img (sizeFieldAt i) (leBytes 4 z)) =
      if i = summarySection ∧ z = 0 then .error .corruptFile else .ok A' := by
  simp only [headerSize, tableEntrySize] at hlen
  have hoff : sizeFieldAt i ≤ img.length := by rw [sizeFieldAt_eq]; omega
  rw [loadRules_eq cfg alloc hnz, hA]
  simp only
  rw [List.getD_eq_getElem?_getD, getElem?_patch_left _ _ hoff (by rw [sizeFieldAt_eq]; exact Nat.lt_add_left _ (by decide)),
    ← List.getD_eq_getElem?_getD, if_neg (by omega)]
  by_cases his : i = summarySection
  · subst his
    have := rdLE_patch_same img (leBytes 4 z) hoff
    rw [length_leBytes] at this
    show (if rdLE 4 _ _ = 0 then _ else _) = _
    rw [this, leVal_leBytes4, Nat.mod_eq_of_lt hz]
    simp only [true_and]
  · have : rdLE tblSizeSize (patch img (sizeFieldAt i) (leBytes 4 z)) (sizeFieldAt summarySection) =
        rdLE tblSizeSize img (sizeFieldAt summarySection) := by
      rcases Nat.lt_or_gt_of_ne his with hlt | hgt
      · exact rdLE_patch_after _ _ _ hoff (by rw [length_leBytes, sizeFieldAt_eq, sizeFieldAt_eq]; omega)
      · exact rdLE_patch_before _ _ _ hoff (by rw [sizeFieldAt_eq, sizeFieldAt_eq]; show _ + 4 ≤ _; omega)
    rw [this, if_neg hsz, if_neg (fun h => his h.1)]

theorem save_length_ge (a : Arena) : headerSize + tableEntrySize * a.bufs.length ≤ (save a).length := by
  rw [save_eq_image, length_image, length_bodies_toRefs]
  omega

theorem save_size_field (a : Arena) (i : Nat) (hi : i < a.bufs.length) :
    rdLE tblSizeSize (save a) (sizeFieldAt i) = (a.bufAt i).data.length % 2 ^ 32 := by
  rw [save_split, sizeFieldAt, Nat.add_assoc, rdLE_after_header, rdLE_size_table _ _ _ i (by simpa [bodies] using hi)]
  exact congrArg (· % _) ((List.getD_map List.length (bodies a) i []).trans (congrArg _ (bodies_getD a i)))

theorem save_numbufs (a : Arena) (hn : a.bufs.length ≤ maxBuffers) : ((save a).getD hdrNumBuffersOff 0).toNat = a.bufs.length := by
  have hn16 : a.bufs.length ≤ 16 := hn
  rw [save_split, header_cons]
  simp [hdrNumBuffersOff]; omega

end YaraModel.Arena
