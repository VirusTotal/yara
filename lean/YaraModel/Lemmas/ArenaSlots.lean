/- Slot algebra of the arena model: getSlot/setSlot frame lemmas and the in-place map over the
   relocation list (`mapSlots`), of which the fix-up loop, save's pointer->reference pass and
   its reference->pointer pass are instances. -/
import YaraModel.Base.List
import YaraModel.Lemmas.ArenaBytes
import YaraModel.Spec.Arena
namespace YaraModel.Arena

theorem NoOverlap.symm {r s : Ref} (h : NoOverlap r s) : NoOverlap s r := by
  unfold NoOverlap at *; omega

@[simp] theorem setSlot_relocs (a : Arena) (r : Ref) (v : Nat) : (setSlot a r v).relocs = a.relocs := rfl
@[simp] theorem setSlot_init (a : Arena) (r : Ref) (v : Nat) : (setSlot a r v).init = a.init := rfl
@[simp] theorem setSlot_unspec (a : Arena) (r : Ref) (v : Nat) : (setSlot a r v).unspec = a.unspec := rfl
@[simp] theorem setSlot_length (a : Arena) (r : Ref) (v : Nat) : (setSlot a r v).bufs.length = a.bufs.length := by
  simp [setSlot]

theorem Arena.ext' {a b : Arena} (h1 : a.bufs = b.bufs) (h2 : a.relocs = b.relocs) (h3 : a.init = b.init)
    (h4 : a.unspec = b.unspec) : a = b := by
  cases a; cases b; simp_all

/-- `ValidPtr` and the lemmas over a bare `bufs : List Buf` spell the lookup `bufs.getD i {}`; the lemmas here say `bufAt` -/
theorem bufAt_eq_getD (a : Arena) (i : Nat) : a.bufAt i = a.bufs.getD i {} := rfl

theorem bufAt_eq (a : Arena) (i : Nat) : a.bufAt i = (a.bufs[i]?).getD {} := by
  simp [Arena.bufAt]

theorem map_modify {α β : Type} (f : α → β) (g : α → α) (g' : β → β) (h : ∀ x, f (g x) = g' (f x)) (l : List α) (i : Nat) :
    (l.modify i g).map f = (l.map f).modify i g' := by
  apply List.ext_getElem?
  intro j
  simp only [List.getElem?_map, List.getElem?_modify]
  by_cases hj : i = j
  · subst hj; cases l[i]? <;> simp [h]
  · simp [hj]

theorem map_modify_same {α β : Type} (f : α → β) (g : α → α) (h : ∀ x, f (g x) = f x) (l : List α) (i : Nat) :
    (l.modify i g).map f = l.map f := by
  rw [map_modify f g id h, List.modify_id]

/-- the model writes a buffer update as `setBuf`; the transformers of the proofs (`pokeA`, `setMeta`, `appendBuf`) are `modify`s -/
theorem setBuf_bufAt (a : Arena) (b : Nat) (g : Buf → Buf) : a.setBuf b (g (a.bufAt b)) = { a with bufs := a.bufs.modify b g } := by
  unfold Arena.setBuf Arena.bufAt
  congr 1
  apply List.ext_getElem?
  intro j
  rw [List.getElem?_set, List.getElem?_modify, List.getD_eq_getElem?_getD]
  by_cases h : b = j
  · subst h
    by_cases hl : b < a.bufs.length
    · simp [hl]
    · simp [hl]
  · simp [h]

theorem bufAt_setSlot (a : Arena) (r : Ref) (v : Nat) (i : Nat) :
    (setSlot a r v).bufAt i =
      if i = r.buf ∧ i < a.bufs.length then { a.bufAt i with data := wr64 (a.bufAt i).data r.off v } else a.bufAt i := by
  unfold setSlot Arena.bufAt
  rw [List.getD_modify]
  by_cases h : r.buf = i
  · subst h; rfl
  · rw [if_neg (fun hc => h hc.1), if_neg (fun hc => h hc.1.symm)]

theorem bufAt_setSlot_base (a : Arena) (r : Ref) (v i : Nat) : ((setSlot a r v).bufAt i).base = (a.bufAt i).base := by
  rw [bufAt_setSlot]; split <;> rfl

theorem bufAt_setSlot_cap (a : Arena) (r : Ref) (v i : Nat) : ((setSlot a r v).bufAt i).cap = (a.bufAt i).cap := by
  rw [bufAt_setSlot]; split <;> rfl

theorem bufAt_setSlot_dirty (a : Arena) (r : Ref) (v i : Nat) : ((setSlot a r v).bufAt i).dirty = (a.bufAt i).dirty := by
  rw [bufAt_setSlot]; split <;> rfl

theorem bufAt_setSlot_len (a : Arena) (r : Ref) (v i : Nat) :
    ((setSlot a r v).bufAt i).data.length = (a.bufAt i).data.length := by
  rw [bufAt_setSlot]; split <;> simp [length_wr64]

theorem InB_setSlot (a : Arena) (r : Ref) (v : Nat) (s : Ref) : InB (setSlot a r v) s ↔ InB a s := by
  unfold InB; rw [bufAt_setSlot_len, setSlot_length]

def pokeA (a : Arena) (at_ : Ref) (bs : Bytes) : Arena :=
  { a with bufs := a.bufs.modify at_.buf (fun x => { x with data := wrBytes x.data at_.off bs }) }

theorem setBuf_poke_eq (a : Arena) (at_ : Ref) (bs : Bytes) :
    a.setBuf at_.buf { a.bufAt at_.buf with data := wrBytes (a.bufAt at_.buf).data at_.off bs } = pokeA a at_ bs :=
  setBuf_bufAt a at_.buf (fun x => { x with data := wrBytes x.data at_.off bs })

theorem setSlot_eq_pokeA (a : Arena) (s : Ref) (v : Nat) : setSlot a s v = pokeA a s (leBytes 8 v) := by
  simp only [setSlot, pokeA, wr64_eq_wrBytes]

/-- the bytes [off, off+len) of buffer `b` do not touch slot `r` (`NoOverlap r s` is `Clear r s.buf s.off 8`) -/
def Clear (r : Ref) (b off len : Nat) : Prop := r.buf ≠ b ∨ r.off + 8 ≤ off ∨ off + len ≤ r.off

theorem bufAt_pokeA (a : Arena) (at_ : Ref) (bs : Bytes) (j : Nat) :
    (pokeA a at_ bs).bufAt j =
      if at_.buf = j ∧ j < a.bufs.length then { a.bufAt j with data := wrBytes (a.bufAt j).data at_.off bs } else a.bufAt j := by
  unfold pokeA Arena.bufAt
  rw [List.getD_modify]

theorem pokeA_comm (a : Arena) {r s : Ref} (bs cs : Bytes)
    (h : r.buf ≠ s.buf ∨ r.off + bs.length ≤ s.off ∨ s.off + cs.length ≤ r.off) :
    pokeA (pokeA a r bs) s cs = pokeA (pokeA a s cs) r bs := by
  refine Arena.ext' (List.modify_comm _ fun hb x _ => ?_) (by rfl) (by rfl) (by rfl)
  simp [wrBytes_comm x.data (o₁ := r.off) (o₂ := s.off) bs cs (by omega)]

theorem pokeA_pokeA_same (a : Arena) (r : Ref) {bs cs : Bytes} (h : bs.length = cs.length) :
    pokeA (pokeA a r bs) r cs = pokeA a r cs := by
  refine Arena.ext' ?_ (by rfl) (by rfl) (by rfl)
  simp only [pokeA, List.modify_modify_eq]
  congr 1
  funext x
  simp [wrBytes_wrBytes_same _ _ h]

theorem getSlot_pokeA {a : Arena} {at_ : Ref} {bs : Bytes} {r : Ref} (h : Clear r at_.buf at_.off bs.length) :
    getSlot (pokeA a at_ bs) r = getSlot a r := by
  unfold getSlot
  rw [bufAt_pokeA]
  split
  · rw [rd64_eq, rd64_eq, win_wrBytes_other (by unfold Clear at h; omega)]
  · rfl

theorem getSlot_pokeA_same {a : Arena} {r : Ref} {bs : Bytes} (h8 : bs.length = 8) (h : InB a r) :
    getSlot (pokeA a r bs) r = leVal bs := by
  unfold getSlot
  rw [bufAt_pokeA, if_pos ⟨rfl, h.2⟩, rd64_eq, win_wrBytes_same h8 h.1]

theorem getSlot_setSlot_same {a : Arena} {r : Ref} (v : Nat) (h : InB a r) : getSlot (setSlot a r v) r = v % 2 ^ 64 := by
  rw [setSlot_eq_pokeA, getSlot_pokeA_same (length_leBytes 8 v) h, leVal_leBytes8]

theorem getSlot_setSlot_other {a : Arena} {r s : Ref} (v : Nat) (h : NoOverlap r s) :
    getSlot (setSlot a r v) s = getSlot a s := by
  rw [setSlot_eq_pokeA]
  exact getSlot_pokeA (by rw [length_leBytes]; exact h.symm)

theorem setSlot_setSlot_same (a : Arena) (r : Ref) (v w : Nat) : setSlot (setSlot a r v) r w = setSlot a r w := by
  simp only [setSlot_eq_pokeA]
  exact pokeA_pokeA_same a r (by rw [length_leBytes, length_leBytes])

theorem setSlot_comm (a : Arena) {r s : Ref} (v w : Nat) (h : NoOverlap r s) :
    setSlot (setSlot a r v) s w = setSlot (setSlot a s w) r v := by
  simp only [setSlot_eq_pokeA]
  exact pokeA_comm a _ _ (by rw [length_leBytes, length_leBytes]; exact h)

theorem setSlot_pokeA {a : Arena} {at_ : Ref} {bs : Bytes} {r : Ref} (v : Nat) (h : Clear r at_.buf at_.off bs.length) :
    setSlot (pokeA a at_ bs) r v = pokeA (setSlot a r v) at_ bs := by
  simp only [setSlot_eq_pokeA]
  exact pokeA_comm a _ _ (by rw [length_leBytes]; unfold Clear at h; omega)

theorem setSlot_getSlot_id (a : Arena) (r : Ref) : setSlot a r (getSlot a r) = a := by
  refine Arena.ext' ?_ (by rfl) (by rfl) (by rfl)
  apply List.ext_getElem?
  intro i
  simp only [setSlot, getSlot, bufAt_eq, List.getElem?_modify]
  split
  · rename_i hi
    subst hi
    cases a.bufs[r.buf]? with
    | none => rfl
    | some x => simp [wr64_rd64_id]
  · simp

theorem setSlot_mod (a : Arena) (r : Ref) (v : Nat) : setSlot a r (v % 2 ^ 64) = setSlot a r v := by
  simp only [setSlot, wr64_mod]

def mapSlots (φ : Nat → Nat) (rs : List Ref) (a : Arena) : Arena :=
  rs.foldl (fun x r => setSlot x r (φ (getSlot x r))) a

@[simp] theorem mapSlots_nil (φ : Nat → Nat) (a : Arena) : mapSlots φ [] a = a := rfl
@[simp] theorem mapSlots_cons (φ : Nat → Nat) (r : Ref) (t : List Ref) (a : Arena) :
    mapSlots φ (r :: t) a = mapSlots φ t (setSlot a r (φ (getSlot a r))) := rfl

theorem mapSlots_append (φ : Nat → Nat) (l₁ l₂ : List Ref) (a : Arena) :
    mapSlots φ (l₁ ++ l₂) a = mapSlots φ l₂ (mapSlots φ l₁ a) := by
  unfold mapSlots; rw [List.foldl_append]

/-- the shape of save's two loops (which also carry a flag) -/
theorem foldl_fst_eq_mapSlots {step : Arena × Bool → Ref → Arena × Bool} {φ : Nat → Nat}
    (h : ∀ x ok r, (step (x, ok) r).1 = setSlot x r (φ (getSlot x r))) (rs : List Ref) (x : Arena) (ok : Bool) :
    (rs.foldl step (x, ok)).1 = mapSlots φ rs x := by
  induction rs generalizing x ok with
  | nil => rfl
  | cons r t ih =>
    rw [List.foldl_cons, mapSlots_cons, ← h x ok r]
    exact ih (step (x, ok) r).1 (step (x, ok) r).2

theorem mapSlots_preserves {β : Type} (f : Arena → β) (hf : ∀ x r v, f (setSlot x r v) = f x)
    (φ : Nat → Nat) (rs : List Ref) (a : Arena) : f (mapSlots φ rs a) = f a := by
  induction rs generalizing a with
  | nil => rfl
  | cons r t ih => rw [mapSlots_cons, ih, hf]

@[simp] theorem mapSlots_relocs (φ : Nat → Nat) (rs : List Ref) (a : Arena) : (mapSlots φ rs a).relocs = a.relocs :=
  mapSlots_preserves (·.relocs) (fun _ _ _ => rfl) φ rs a

@[simp] theorem mapSlots_init (φ : Nat → Nat) (rs : List Ref) (a : Arena) : (mapSlots φ rs a).init = a.init :=
  mapSlots_preserves (·.init) (fun _ _ _ => rfl) φ rs a

@[simp] theorem mapSlots_unspec (φ : Nat → Nat) (rs : List Ref) (a : Arena) : (mapSlots φ rs a).unspec = a.unspec :=
  mapSlots_preserves (·.unspec) (fun _ _ _ => rfl) φ rs a

@[simp] theorem mapSlots_length (φ : Nat → Nat) (rs : List Ref) (a : Arena) : (mapSlots φ rs a).bufs.length = a.bufs.length :=
  mapSlots_preserves (·.bufs.length) setSlot_length φ rs a

theorem bufAt_mapSlots_base (φ : Nat → Nat) (rs : List Ref) (a : Arena) (i : Nat) :
    ((mapSlots φ rs a).bufAt i).base = (a.bufAt i).base :=
  mapSlots_preserves (fun x => (x.bufAt i).base) (fun x r v => bufAt_setSlot_base x r v i) φ rs a

theorem bufAt_mapSlots_cap (φ : Nat → Nat) (rs : List Ref) (a : Arena) (i : Nat) :
    ((mapSlots φ rs a).bufAt i).cap = (a.bufAt i).cap :=
  mapSlots_preserves (fun x => (x.bufAt i).cap) (fun x r v => bufAt_setSlot_cap x r v i) φ rs a

theorem bufAt_mapSlots_len (φ : Nat → Nat) (rs : List Ref) (a : Arena) (i : Nat) :
    ((mapSlots φ rs a).bufAt i).data.length = (a.bufAt i).data.length :=
  mapSlots_preserves (fun x => (x.bufAt i).data.length) (fun x r v => bufAt_setSlot_len x r v i) φ rs a

theorem bufAt_mapSlots_dirty (φ : Nat → Nat) (rs : List Ref) (a : Arena) (i : Nat) :
    ((mapSlots φ rs a).bufAt i).dirty = (a.bufAt i).dirty :=
  mapSlots_preserves (fun x => (x.bufAt i).dirty) (fun x r v => bufAt_setSlot_dirty x r v i) φ rs a

theorem InB_mapSlots (φ : Nat → Nat) (rs : List Ref) (a : Arena) (s : Ref) : InB (mapSlots φ rs a) s ↔ InB a s := by
  unfold InB; rw [bufAt_mapSlots_len, mapSlots_length]

theorem getSlot_mapSlots_other (φ : Nat → Nat) {t : List Ref} {r : Ref} (a : Arena) (h : ∀ s ∈ t, NoOverlap s r) :
    getSlot (mapSlots φ t a) r = getSlot a r := by
  induction t generalizing a with
  | nil => simp only [mapSlots_nil]
  | cons s t ih =>
    rw [mapSlots_cons, ih _ (fun x hx => h x (List.mem_cons_of_mem _ hx)),
      getSlot_setSlot_other _ (h s (List.mem_cons_self ..))]

theorem mapSlots_setSlot_comm (φ : Nat → Nat) {t : List Ref} {r : Ref} (a : Arena) (v : Nat)
    (h : ∀ s ∈ t, NoOverlap r s) : mapSlots φ t (setSlot a r v) = setSlot (mapSlots φ t a) r v := by
  induction t generalizing a with
  | nil => simp only [mapSlots_nil]
  | cons s t ih =>
    have hrs := h s (List.mem_cons_self ..)
    rw [mapSlots_cons, mapSlots_cons, getSlot_setSlot_other _ hrs, setSlot_comm _ _ _ hrs,
      ih _ (fun x hx => h x (List.mem_cons_of_mem _ hx))]

theorem SlotsOk.tail {a : Arena} {r : Ref} {t : List Ref} (h : SlotsOk a (r :: t)) : SlotsOk a t :=
  ⟨(List.pairwise_cons.1 h.1).2, fun s hs => h.2 s (List.mem_cons_of_mem _ hs)⟩

theorem SlotsOk.head {a : Arena} {r : Ref} {t : List Ref} (h : SlotsOk a (r :: t)) :
    (∀ s ∈ t, NoOverlap r s) ∧ InB a r :=
  ⟨(List.pairwise_cons.1 h.1).1, h.2 r (List.mem_cons_self ..)⟩

theorem SlotsOk.setSlot {a : Arena} {rs : List Ref} (h : SlotsOk a rs) (r : Ref) (v : Nat) : SlotsOk (setSlot a r v) rs :=
  ⟨h.1, fun s hs => (InB_setSlot a r v s).2 (h.2 s hs)⟩

theorem SlotsOk.mapSlots {a : Arena} {rs : List Ref} (h : SlotsOk a rs) (φ : Nat → Nat) (t : List Ref) :
    SlotsOk (mapSlots φ t a) rs :=
  ⟨h.1, fun s hs => (InB_mapSlots φ t a s).2 (h.2 s hs)⟩

theorem getSlot_mapSlots (φ : Nat → Nat) {rs : List Ref} {a : Arena} (h : SlotsOk a rs) {r : Ref} (hr : r ∈ rs) :
    getSlot (mapSlots φ rs a) r = φ (getSlot a r) % 2 ^ 64 := by
  induction rs generalizing a with
  | nil => cases hr
  | cons s t ih =>
    have ⟨hno, hin⟩ := h.head
    rw [mapSlots_cons, mapSlots_setSlot_comm _ _ _ hno]
    rcases List.mem_cons.1 hr with rfl | hmem
    · rw [getSlot_setSlot_same _ ((InB_mapSlots φ t a r).2 hin)]
    · rw [getSlot_setSlot_other _ (hno r hmem), ih h.tail hmem]

theorem mapSlots_comp (φ ψ : Nat → Nat) {rs : List Ref} {a : Arena} (h : SlotsOk a rs)
    (hφ : ∀ r ∈ rs, φ (getSlot a r) < 2 ^ 64) :
    mapSlots ψ rs (mapSlots φ rs a) = mapSlots (fun v => ψ (φ v)) rs a := by
  induction rs generalizing a with
  | nil => simp only [mapSlots_nil]
  | cons r t ih =>
    have ⟨hno, hin⟩ := h.head
    simp only [mapSlots_cons]
    rw [mapSlots_setSlot_comm φ a _ hno]
    rw [getSlot_setSlot_same _ ((InB_mapSlots φ t a r).2 hin), setSlot_setSlot_same,
      Nat.mod_eq_of_lt (hφ r (List.mem_cons_self ..))]
    rw [mapSlots_setSlot_comm ψ _ _ hno, mapSlots_setSlot_comm _ a _ hno,
      ih h.tail (fun s hs => hφ s (List.mem_cons_of_mem _ hs))]

theorem mapSlots_congr {φ ψ : Nat → Nat} {rs : List Ref} {a : Arena} (h : SlotsOk a rs)
    (hv : ∀ r ∈ rs, φ (getSlot a r) = ψ (getSlot a r)) : mapSlots φ rs a = mapSlots ψ rs a := by
  induction rs generalizing a with
  | nil => simp only [mapSlots_nil]
  | cons r t ih =>
    have ⟨hno, hin⟩ := h.head
    simp only [mapSlots_cons]
    rw [hv r (List.mem_cons_self ..)]
    apply ih (h.tail.setSlot r _)
    intro s hs
    rw [getSlot_setSlot_other _ (hno s hs)]
    exact hv s (List.mem_cons_of_mem _ hs)

theorem mapSlots_id {φ : Nat → Nat} {rs : List Ref} {a : Arena}
    (hv : ∀ r ∈ rs, φ (getSlot a r) = getSlot a r) : mapSlots φ rs a = a := by
  induction rs with
  | nil => rfl
  | cons r t ih =>
    rw [mapSlots_cons, hv r (List.mem_cons_self ..), setSlot_getSlot_id]
    exact ih (fun s hs => hv s (List.mem_cons_of_mem _ hs))

theorem withRelocs_setSlot (a : Arena) (R : List Ref) (r : Ref) (v : Nat) :
    setSlot { a with relocs := R } r v = { setSlot a r v with relocs := R } := rfl

theorem getSlot_withRelocs (a : Arena) (R : List Ref) (r : Ref) : getSlot { a with relocs := R } r = getSlot a r := rfl

theorem mapSlots_withRelocs (φ : Nat → Nat) (rs : List Ref) (a : Arena) (R : List Ref) :
    mapSlots φ rs { a with relocs := R } = { mapSlots φ rs a with relocs := R } := by
  induction rs generalizing a with
  | nil => simp only [mapSlots_nil]
  | cons r t ih => simp only [mapSlots_cons, getSlot_withRelocs, withRelocs_setSlot, ih]

end YaraModel.Arena
