/- 64-bit bounds arithmetic for C06 (D12): a translated range test that passes puts the access inside the allocation as
   natural numbers. The proofs apply the no-wrap equations of core (`BitVec.toNat_add_of_lt`, `BitVec.toNat_sub_of_le`) first,
   so that `omega` never sees `% 2^64`. Namespace `PeRva`: the frozen 4.5.2 texts with their witnesses, result range and
   iteration count of `pe_rva_to_offset`, the invariant of the Mach-O command walk. -/
import YaraModel.Model.PeRva

namespace YaraModel.C06

def InRange (base size ptr n : BitVec 64) : Prop :=
  base.toNat ≤ ptr.toNat ∧ ptr.toNat + n.toNat ≤ base.toNat + size.toNat

/-- the subtraction idiom `a <= s && x <= s - a` of the C tests -/
theorem add_le_of_le_sub {w : Nat} {s a x : BitVec w} (ha : a ≤ s) (hx : x ≤ s - a) :
    a.toNat + x.toNat ≤ s.toNat := by
  rw [BitVec.le_def, BitVec.toNat_sub_of_le ha] at hx
  exact Nat.add_le_of_le_sub' ha hx

/-- the sum idiom `!(s < a + x)` where the sum is known not to wrap (an explicit wrap test, narrow operands, a valid allocation) -/
theorem add_le_of_not_lt {w : Nat} {s a x : BitVec w} (hw : a.toNat + x.toNat < 2 ^ w) (h : ¬ s < a + x) :
    a.toNat + x.toNat ≤ s.toNat := by
  rw [BitVec.lt_def, BitVec.toNat_add_of_lt hw] at h
  exact Nat.le_of_not_lt h

/-- The test `n ≤ size && base ≤ p && p ≤ base + size - n` (pe_utils.h, dex.h, exec.c): with a valid allocation neither the
    sum nor the difference wraps. -/
theorem InRange.of_le_end_sub {base size p n : BitVec 64} (hv : base.toNat + size.toNat < 2 ^ 64)
    (hn : n ≤ size) (hb : base ≤ p) (hp : p ≤ base + size - n) : InRange base size p n := by
  have he := BitVec.toNat_add_of_lt hv
  have := add_le_of_le_sub (BitVec.le_def.2 (he ▸ Nat.le_trans hn (Nat.le_add_left ..))) hp
  rw [he, Nat.add_comm] at this
  exact ⟨hb, this⟩

theorem InRange.ofNat_mono {base size p : BitVec 64} {g r : Nat} (hr : r ≤ g) (hg : g < 2 ^ 64)
    (h : InRange base size p (BitVec.ofNat 64 g)) : InRange base size p (BitVec.ofNat 64 r) := by
  unfold InRange at h ⊢
  rw [BitVec.toNat_ofNat, Nat.mod_eq_of_lt hg] at h
  rw [BitVec.toNat_ofNat, Nat.mod_eq_of_lt (Nat.lt_of_le_of_lt hr hg)]
  omega

/-- dotnet.c compares `p + n` with `data + size`; `hv`: the buffer ends 4 GiB below the top of the address space. -/
theorem dotnet_sums {data sz p n : BitVec 64} (hv : data.toNat + sz.toNat + 2 ^ 32 ≤ 2 ^ 64)
    (hp : p.toNat ≤ data.toNat + sz.toNat) (hn : n.toNat < 2 ^ 32) :
    (data + sz).toNat = data.toNat + sz.toNat ∧ (p + n).toNat = p.toNat + n.toNat :=
  ⟨BitVec.toNat_add_of_lt (by omega), BitVec.toNat_add_of_lt (by omega)⟩

end YaraModel.C06

namespace YaraModel.PeRva
open YaraModel.Gen.Bounds

/-- frozen copy of elf.c `is_valid_ptr` as of yara 4.5.2 (the live text is regenerated into Gen.Bounds) -/
def is_valid_ptr_v452 (base size ptr ptr_size : BitVec 64) : Bool :=
  ((decide (base ≤ ptr) && decide (ptr_size ≤ size)) && decide ((ptr + ptr_size) ≤ (base + size)))

/-- frozen copy of the arena.c relocation test as of yara 4.5.2 -/
def arena_reloc_reject_v452 (buffer_id num_buffers offset used bdata : BitVec 64) : Bool :=
  ((decide (num_buffers ≤ buffer_id) || decide ((used - (8#64)) < offset)) || (bdata == (0#64)))

/-- frozen copy of the arena.c relocation test with the explicit `used < sizeof(void*)` disjunct -/
def arena_reloc_reject_v2 (buffer_id num_buffers offset used bdata : BitVec 64) : Bool :=
  (decide (num_buffers ≤ buffer_id) || (((bdata == (0#64)) || decide (used < (8#64))) || decide ((used - (8#64)) < offset)))

theorem toNat_w32 (x : BitVec 64) : (w32 x).toNat = x.toNat % 2 ^ 32 := by
  simp only [w32, BitVec.toNat_setWidth]
  exact Nat.mod_eq_of_lt (Nat.lt_of_lt_of_le (Nat.mod_lt _ (by decide)) (by decide))

/-- frozen copy of the pe.c Rich-header offset test as of yara 4.5.2 + fixes up to 5a7d1fe -/
def pe_rich_nthdr_reject_v452 (data_size nthdr_offset : BitVec 64) : Bool :=
  (decide ((data_size + (4#64)) < nthdr_offset) || decide (nthdr_offset < (4#64)))

/-- F60 witness: a 100-byte file and e_lfanew = 104 pass the test, the 4-byte read at [100,104) is outside -/
theorem pe_rich_nthdr_v452_unsound_witness :
    ∃ sz off : BitVec 64, pe_rich_nthdr_reject_v452 sz off = false ∧ ¬ (off.toNat - 4) + 4 ≤ sz.toNat :=
  ⟨100#64, 104#64, by decide, by decide⟩

/-- frozen copy of the pe.c security-directory test (32-bit sum) -/
def pe_security_dir_reject_v452 (data_size sec_va sec_size : BitVec 64) : Bool :=
  ((((sec_va == (0#64)) || decide (data_size < sec_va)) || decide (data_size < sec_size)) || decide (data_size < (w32 (sec_va + sec_size))))

/-- F61 witness: 3 GiB file, VirtualAddress = Size = 0xA0000000: the 32-bit sum is 0x40000000 -/
theorem pe_security_dir_v452_unsound_witness :
    ∃ sz va n : BitVec 64, va.toNat < 2 ^ 32 ∧ n.toNat < 2 ^ 32 ∧ pe_security_dir_reject_v452 sz va n = false ∧ ¬ va.toNat + n.toNat ≤ sz.toNat :=
  ⟨0xC0000000#64, 0xA0000000#64, 0xA0000000#64, by decide, by decide, by decide, by decide⟩

theorem finishCore_bounded (dataSize rva r x y z : Nat) (h : finishCore dataSize rva x y z = some r) :
    r < dataSize := by
  revert h
  fun_cases finishCore dataSize rva x y z <;> intro h <;> cases h
  exact Nat.lt_of_not_le ‹_›

theorem sectLoop_iterations (dataSize fa sa secOff rva fuel i : Nat) (secs : List Sect) (a a' : Acc) (n : Nat)
    (h : sectLoop dataSize fa sa secOff rva fuel i secs a = some (a', n)) : n ≤ i + fuel := by
  fun_induction sectLoop dataSize fa sa secOff rva fuel i secs a with
  | case1 => cases h; exact Nat.le_refl _
  | case3 _ _ _ _ _ _ ih => have := ih h; omega
  | case2 | case4 => cases h

/-- Invariant of the Mach-O command walk started with `parsed ≤ size`: every handled command has its whole extent inside
    the file and is at least a header long, so the walk handles at most `(size - parsed) / 8` commands. -/
theorem cmdLoop_inv (data size : BitVec 64) (fuel : Nat) (parsed : BitVec 64) (cs : List (BitVec 64))
    (hp : parsed.toNat ≤ size.toNat) :
    (∀ oc ∈ cmdLoop data size fuel parsed cs, 8 ≤ oc.2.toNat ∧ oc.1.toNat + oc.2.toNat ≤ size.toNat) ∧
    8 * (cmdLoop data size fuel parsed cs).length ≤ size.toNat - parsed.toNat ∧
    (cmdLoop data size fuel parsed cs).length ≤ fuel := by
  fun_induction cmdLoop data size fuel parsed cs
  case case6 f parsed c cs _ h2 h3 ih =>
    -- the command passed the two size tests: `8 ≤ cmdsize ≤ size - parsed`, so `parsed + cmdsize` does not wrap
    simp only [macho_cmd_too_big, macho_cmd_too_small, decide_eq_true_eq, BitVec.not_lt] at h2 h3
    have hle := C06.add_le_of_le_sub hp h2
    have he := BitVec.toNat_add_of_lt (Nat.lt_of_le_of_lt hle size.isLt)
    obtain ⟨ihm, ihl, ihf⟩ := ih (he ▸ hle)
    rw [he, Nat.sub_add_eq] at ihl
    rw [List.length_cons]
    -- `8·len ≤ size - parsed - c` and `8 ≤ c ≤ size - parsed`
    exact ⟨List.forall_mem_cons.2 ⟨⟨h3, hle⟩, ihm⟩,
      Nat.le_trans (Nat.add_le_add ihl h3) (Nat.le_of_eq (Nat.sub_add_cancel (Nat.le_sub_of_add_le' hle))), Nat.succ_le_succ ihf⟩
  all_goals exact ⟨nofun, Nat.zero_le _, Nat.zero_le _⟩

end YaraModel.PeRva
