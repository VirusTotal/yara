/-
  Soundness of the compiler and the VM together: on the code emitted for a well-formed expression (`WF`: every node kind,
  counted repeats of every emit-table row, empty alternatives) every length `yr_re_exec` reports is a match length of the
  expression — forward and backward code, one- and two-byte characters, string verification and the `matches` operator.
-/
import YaraModel.Lemmas.ReLower
import YaraModel.Lemmas.ReIrStep
import YaraModel.Lemmas.ReDir
namespace YaraModel.ReEmit
open YaraModel.Re YaraModel.ReVm

def envOf (r : Re) (buf : Bytes) (start : Nat) (fl : VmFlags) (fuel : Nat) (back : Bool := false) : Env :=
  { code := (emitCode back r).toArray, entry := 0, buf := buf, start := start, fl := fl, syncFuel := fuel }

/-- the abstract-machine half, for any way of reading the input: a length reported by the VM on `code(r') ++ [MATCH]` is
    the end of a shape match in matched bytes (its twin for a run entered at any valid state: `exec_lang`, Lemmas/ReAtomEntry.lean) -/
theorem exec_irm (e : Env) (D : Dir e) (r' : Re) (hwf : WF r') (hsz : (emit false r' 0).1.length < 32000)
    (hcode : e.code = ((emit false r' 0).1 ++ [0xAD]).toArray) (hentry : e.entry = 0) (m : Int) (c : List Nat)
    (h : exec e = .done m c) :
    Reports m c fun L => ∃ s0, s0 ≤ L ∧ D.ok L ∧ (e.fl.scan = false → s0 = 0) ∧ IrM D.L (lower r') s0 L := by
  obtain ⟨_, hseg, hmatch⟩ := emitted_seg hwf hsz hcode
  exact Reports.imp (exec_sound e m c h) fun _ ⟨_, _, hr, hm⟩ => match_sound e D hseg hmatch hentry hr hm

/-- FORWARD code, one- or two-byte (wide) characters: every reported length ends a match of the expression that begins at
    the start position (in scan mode: at a later position) -/
theorem vm_sound_fwd (r : Re) (hwf : WF r) (hsz : (emit false r 0).1.length < 32000) (buf : Bytes) (start : Nat) (hst : start ≤ buf.size)
    (fl : VmFlags) (hb : fl.backwards = false) (hsw : fl.scan = true → fl.wide = false) (fuel : Nat) (m : Int) (c : List Nat)
    (h : exec (envOf r buf start fl fuel) = .done m c) :
    Reports m c fun L => ∃ s0, s0 ≤ L ∧ start + L ≤ buf.size ∧ (fl.scan = false → s0 = 0) ∧
      Re.Matches (specFlagsG fl) buf r (start + s0) (start + L) :=
  have hrun : RunOK (envOf r buf start fl fuel) := ⟨hst, hsw⟩
  (exec_irm _ (fwdDir _ hb hrun) r hwf hsz rfl rfl m c h).imp fun _ ⟨s0, k1, k2, k3, k4⟩ =>
    ⟨s0, k1, k2.2, k3, (lower_sem hwf _ _).1 (irm_fwd (specFlagsG fl) buf start k4)⟩

/-- byte mode: the forward theorem with the start of the match as a buffer position -/
theorem envOf_sound (r : Re) (hwf : WF r) (hsz : (emit false r 0).1.length < 32000) (buf : Bytes) (start : Nat) (hst : start ≤ buf.size)
    (fl : VmFlags) (hw : fl.wide = false) (hb : fl.backwards = false) (fuel : Nat) (m : Int) (c : List Nat)
    (h : exec (envOf r buf start fl fuel) = .done m c) :
    Reports m c fun L => ∃ s0, start ≤ s0 ∧ s0 ≤ start + L ∧ start + L ≤ buf.size ∧ (fl.scan = false → s0 = start) ∧
      Re.Matches (specFlags fl) buf r s0 (start + L) :=
  (vm_sound_fwd r hwf hsz buf start hst fl hb (fun _ => hw) fuel m c h).imp fun L ⟨s0, k1, k2, k3, k4⟩ =>
    ⟨start + s0, by omega, by omega, k2, fun hh => by rw [k3 hh]; rfl, specFlagsG_eq hw ▸ k4⟩

/-- soundness of the VM on the code emitted for a well-formed expression (byte mode, forwards, any nocase / dot-all flags,
    exhaustive or not, string verification = not scan mode): every reported length is a match length of the expression at
    the start position -/
theorem vm_sound_wf (r : Re) (hwf : WF r) (hsz : (emit false r 0).1.length < 32000) (buf : Bytes) (start : Nat) (hst : start ≤ buf.size)
    (fl : VmFlags) (hw : fl.wide = false) (hb : fl.backwards = false) (hsc : fl.scan = false) (fuel : Nat) (m : Int) (c : List Nat)
    (h : exec (envOf r buf start fl fuel) = .done m c) :
    Reports m c fun L => Re.Matches (specFlags fl) buf r start (start + L) :=
  (envOf_sound r hwf hsz buf start hst fl hw hb fuel m c h).imp fun _ ⟨_, _, _, _, h3, hm⟩ => h3 hsc ▸ hm

/-- BACKWARD code (EMIT_BACKWARDS, run with RE_FLAGS_BACKWARDS), one- or two-byte characters: every reported length `L` is
    the length of a match of the expression that ENDS at the start position -/
theorem vm_sound_bwd (r : Re) (hwf : WF r) (hsz : (emit true r 0).1.length < 32000) (buf : Bytes) (start : Nat) (hst : start ≤ buf.size)
    (fl : VmFlags) (hb : fl.backwards = true) (hsc : fl.scan = false) (fuel : Nat) (m : Int) (c : List Nat)
    (h : exec (envOf r buf start fl fuel true) = .done m c) :
    Reports m c fun L => L ≤ start ∧ Re.Matches (specFlagsG fl) buf r (start - L) start := by
  rw [emit_rev] at hsz
  refine (exec_irm _ (bwdDir _ hb (.ofNoScan hst hsc)) (rev r) (rev_wf hwf) hsz (by simp only [envOf, emitCode, emit_rev]) rfl m c h).imp
    fun L ⟨s0, _, k2, k3, k4⟩ => ?_
  obtain rfl : s0 = 0 := k3 hsc
  exact ⟨k2.2, by simpa using lowerB_sem hwf _ _ (irm_bwd (specFlagsG fl) buf start k4)⟩

end YaraModel.ReEmit
