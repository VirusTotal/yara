/- C12 flags: pruning the match list of one string does not change the value of an expression that only uses that
   string in ways the pruning tolerates (`usesOk`); a condition that needs some string is false when none matched -/
import YaraModel.Base.List
import YaraModel.Spec.CondFlags
namespace YaraModel.Cond

theorem mapAt_eq_modify {α : Type} (f : α → α) : ∀ (n : Nat) (xs : List α), mapAt f n xs = xs.modify n f
  | _, [] => by rw [mapAt, List.modify_nil]
  | 0, _ :: _ => rfl
  | n + 1, x :: xs => by rw [mapAt, List.modify_succ_cons, mapAt_eq_modify f n xs]

theorem getD_mapAt {α : Type} (f : α → α) (d : α) (hd : f d = d) (n m : Nat) (xs : List α) :
    (mapAt f n xs).getD m d = if m = n then f (xs.getD n d) else xs.getD m d := by
  rw [mapAt_eq_modify, List.getD_modify]
  by_cases h : n = m
  · subst h; by_cases hl : n < xs.length <;> simp [hl, hd]
  · simp [h, Ne.symm h]

/-- `env'` is `env` with the match list of string `n` replaced by one that still answers the tolerated questions -/
structure SameBut (env env' : Env) (n : Nat) (okFound : Bool) (okAt : Int → Bool) : Prop where
  blocks : env'.blocks = env.blocks
  filesize : env'.filesize = env.filesize
  ext : env'.ext = env.ext
  rules : env'.rules = env.rules
  disabled : env'.disabled = env.disabled
  fops : env'.fops = env.fops
  other : ∀ m, m ≠ n → env'.strs.getD m [] = env.strs.getD m []
  found : okFound = true → (env'.strs.getD n []).isEmpty = (env.strs.getD n []).isEmpty
  at_ : ∀ x, okAt x = true → ((env'.strs.getD n []).any fun m => m.1 == x) = ((env.strs.getD n []).any fun m => m.1 == x)

theorem restrictAt_getD (env : Env) (n : Nat) (k : Int) (m : Nat) :
    (restrictAt env n k).strs.getD m [] =
      if m = n then (env.strs.getD n []).filter (fun p => p.1 == k) else env.strs.getD m [] :=
  getD_mapAt _ [] rfl n m env.strs

theorem firstOnly_getD (env : Env) (n m : Nat) :
    (firstOnly env n).strs.getD m [] = if m = n then (env.strs.getD n []).take 1 else env.strs.getD m [] :=
  getD_mapAt _ [] rfl n m env.strs

theorem sameBut_restrictAt (env : Env) (n : Nat) (k : Int) :
    SameBut env (restrictAt env n k) n false (fun x => x == k) where
  blocks := rfl
  filesize := rfl
  ext := rfl
  rules := rfl
  disabled := rfl
  fops := rfl
  other := fun m hm => by rw [restrictAt_getD]; simp [hm]
  found := fun h => by cases h
  at_ := fun x hx => by
    have hx' : x = k := by simpa using hx
    subst hx'
    rw [restrictAt_getD]
    simp only [if_true]
    simp only [List.any_filter, Bool.and_self]

theorem sameBut_firstOnly (env : Env) (n : Nat) : SameBut env (firstOnly env n) n true (fun _ => false) where
  blocks := rfl
  filesize := rfl
  ext := rfl
  rules := rfl
  disabled := rfl
  fops := rfl
  other := fun m hm => by rw [firstOnly_getD]; simp [hm]
  found := fun _ => by
    rw [firstOnly_getD]
    cases env.strs.getD n [] <;> simp
  at_ := fun x hx => by cases hx

def LEnv.deref (l : LEnv) : SRef → Option Nat
  | .id n => some n
  | .cur => l.cur

theorem matchesOf_congr {α : Type} (φ : List (Int × Int) → α) {env env' : Env} (l : LEnv) (s : SRef)
    (h : ∀ m, l.deref s = some m → φ (env'.strs.getD m []) = φ (env.strs.getD m [])) :
    φ (env'.matchesOf l s) = φ (env.matchesOf l s) := by
  cases s with
  | id m => exact h m rfl
  | cur =>
    simp only [Env.matchesOf]
    cases hc : l.cur with
    | none => rfl
    | some m => exact h m hc

theorem deref_ne {l : LEnv} {n : Nat} {cn : Bool} (hcur : l.cur = some n → cn = true) {s : SRef}
    (h : mayBe n cn s = false) : l.deref s ≠ some n := by
  cases s with
  | id m => simpa [mayBe, LEnv.deref] using h
  | cur => exact fun e => by simp [mayBe, hcur e] at h

section agree
variable {env env' : Env} {n : Nat} {okFound : Bool} {okAt : Int → Bool} (S : SameBut env env' n okFound okAt)
include S

theorem SameBut.obs {α : Type} (φ : List (Int × Int) → α) (m : Nat)
    (h : m = n → φ (env'.strs.getD n []) = φ (env.strs.getD n [])) :
    φ (env'.strs.getD m []) = φ (env.strs.getD m []) := by
  by_cases e : m = n
  · subst e; exact h rfl
  · rw [S.other m e]

theorem matchesOf_other (l : LEnv) (cn : Bool) (hcur : l.cur = some n → cn = true) (s : SRef)
    (h : mayBe n cn s = false) : env'.matchesOf l s = env.matchesOf l s :=
  matchesOf_congr id l s fun m hm => S.obs id m fun e => absurd (e ▸ hm) (deref_ne hcur h)

theorem isEmpty_matchesOf (l : LEnv) (cn : Bool) (hcur : l.cur = some n → cn = true) (s : SRef)
    (h : (!mayBe n cn s || okFound) = true) : (env'.matchesOf l s).isEmpty = (env.matchesOf l s).isEmpty :=
  matchesOf_congr List.isEmpty l s fun m hm => S.obs _ m fun e => S.found <| by
    cases hb : mayBe n cn s
    · exact absurd (e ▸ hm) (deref_ne hcur hb)
    · simpa [hb] using h

theorem anyAt_matchesOf (l : LEnv) (s : SRef) (x : Int) (hx : okAt x = true) :
    ((env'.matchesOf l s).any fun m => m.1 == x) = ((env.matchesOf l s).any fun m => m.1 == x) :=
  matchesOf_congr (fun ms => ms.any fun m => m.1 == x) l s fun m _ =>
    S.obs (fun ms => ms.any fun m => m.1 == x) m fun _ => S.at_ x hx

theorem countP_strs {set : List Nat} (p : List (Int × Int) → Bool)
    (h : n ∈ set → p (env'.strs.getD n []) = p (env.strs.getD n [])) :
    set.countP (fun m => p (env'.strs.getD m [])) = set.countP (fun m => p (env.strs.getD m [])) :=
  List.countP_congr fun m hm => by rw [S.obs p m fun e => h (e ▸ hm)]

theorem countFound_eq (set : List Nat) (h : (!set.contains n || okFound) = true) :
    set.countP (strFound env') = set.countP (strFound env) :=
  countP_strs S (fun ms => !ms.isEmpty) fun hn => by
    rw [List.contains_iff_mem.mpr hn] at h
    rw [S.found h]

theorem countP_any_other {set : List Nat} (hset : set.contains n = false) (q : Int × Int → Bool) :
    set.countP (fun m => (env'.strs.getD m []).any q) = set.countP (fun m => (env.strs.getD m []).any q) :=
  countP_strs S (fun ms => ms.any q) fun hn => by rw [List.contains_iff_mem.mpr hn] at hset; cases hset

theorem foundAt_lit (l : LEnv) (s : SRef) {pos : Expr} (h : litOk okAt pos = true) :
    vFoundAt (env'.matchesOf l s) (eval env' l pos) = vFoundAt (env.matchesOf l s) (eval env l pos) := by
  unfold litOk at h
  split at h
  · rename_i x; simp only [eval, vFoundAt, anyAt_matchesOf S l s x h]
  · cases h

theorem lookupExt_eq (name : String) : lookupExt env' name = lookupExt env name := by
  simp [lookupExt, S.ext]

end agree

/-- **Agreement of `eval`**, by the recursion of `usesOk` (`cn` is `mayBe`'s `curN`).  Of its alternatives (numbered in the order of the definition) only
    38, `forOf`, and 39/40, the expression lists, are addressed by number.  The recursor of `Expr` (named cases) cannot serve:
    `cn` changes at `forOf`, so its hypotheses would quantify over `cn`, which the left side `eval env' l e` of the rewrite does
    not determine; the recursion of `usesOk` carries `cn` as an index, so each hypothesis comes with the `cn` of its case. -/
theorem agree {env env' : Env} {n : Nat} {okFound : Bool} {okAt : Int → Bool} (S : SameBut env env' n okFound okAt)
    (e : Expr) (cn : Bool) :
    ∀ (l : LEnv), (l.cur = some n → cn = true) → usesOk n okFound okAt cn e = true → eval env' l e = eval env l e := by
  have hm : env'.ruleMatched = env.ruleMatched := by funext k; simp only [Env.ruleMatched, S.rules, S.disabled]
  induction cn, e using usesOk.induct n
    (motive_2 := fun cn es => ∀ (l : LEnv), (l.cur = some n → cn = true) → usesOkList n okFound okAt cn es = true →
      evalList env' l es = evalList env l es)
  -- `for … of set`: the body runs with the placeholder bound to the members of `set`, so `cn` becomes `set.contains n`
  case case38 cn q qe set body ihq ihb =>
    intro l hc h
    simp only [usesOk, Bool.and_eq_true] at h
    have hb : ∀ m ∈ set, eval env' { vars := l.vars ++ [.undef], cur := some m } body =
        eval env { vars := l.vars ++ [.undef], cur := some m } body := fun m hm =>
      ihb _ (fun e => List.contains_iff_mem.mpr (Option.some.inj e ▸ hm)) h.2
    simp only [eval, ihq l hc h.1, List.map_congr_left hb]
  case case39 => rfl
  case case40 =>
    rename_i l hc h
    simp only [usesOkList, Bool.and_eq_true] at h
    simp +contextual only [evalList, implies_true, *]
  -- Every other constructor evaluates its subexpressions in the same or an extended loop context; where it looks at the
  -- strings, the side condition `usesOk` writes there is the premise of one of the lemmas above.
  all_goals
    intro l hc
    dsimp only [usesOk, eval]
    simp +contextual only [Bool.and_eq_true, Bool.not_eq_true', if_false, if_true, Bool.false_eq_true,
      S.filesize, S.blocks, S.fops, S.rules, S.disabled, lookupExt_eq S, matchesOf_other S l _ hc, isEmpty_matchesOf S l _ hc,
      foundAt_lit S, countFound_eq S, countP_any_other S, implies_true, *]

theorem agreeList {env env' : Env} {n : Nat} {okFound : Bool} {okAt : Int → Bool} (S : SameBut env env' n okFound okAt) :
    ∀ (es : List Expr) (cn : Bool) (l : LEnv), (l.cur = some n → cn = true) → usesOkList n okFound okAt cn es = true →
      evalList env' l es = evalList env l es
  | [], _, _, _, _ => rfl
  | e :: es, cn, l, hc, h => by
    simp only [usesOkList, Bool.and_eq_true] at h
    simp only [evalList, agree S e cn l hc h.1, agreeList S es cn l hc h.2]

theorem matchesOf_nil (env : Env) (h0 : ∀ n, env.strs.getD n [] = []) (l : LEnv) (s : SRef) : env.matchesOf l s = [] := by
  cases s with
  | id m => exact h0 m
  | cur =>
    simp only [Env.matchesOf]
    cases l.cur with
    | none => rfl
    | some m => exact h0 m

theorem asBool_undef : asBool .undef = false := by decide
theorem asBool_false : asBool (.bool false) = false := by decide

theorem countP_strFound_nil (env : Env) (h0 : ∀ n, env.strs.getD n [] = []) (set : List Nat) :
    set.countP (strFound env) = 0 := by
  rw [List.countP_eq_zero]
  intro m _
  unfold strFound
  rw [h0 m]
  decide

theorem countP_any_nil (env : Env) (h0 : ∀ n, env.strs.getD n [] = []) (set : List Nat) (p : Int × Int → Bool) :
    set.countP (fun m => (env.strs.getD m []).any p) = 0 := by
  rw [List.countP_eq_zero]
  intro m _
  rw [h0 m]
  simp

theorem quant_needs (env : Env) (l : LEnv) (q : QKind) (qe : Expr) {set : List Nat} (hn : set.isEmpty = false)
    (hq : (match q, qe with
        | .all, _ => true
        | .any, _ => true
        | .num, .int k => decide (k > 0)
        | _, _ => false) = true) :
    asBool (quantHolds (quantOf q (eval env l qe)) 0 set.length) = false := by
  have hn : set.length ≠ 0 := by simpa using hn
  split at hq
  · have : (0 == set.length) = false := by simp; omega
    simp [quantOf, quantHolds, this, asBool_false]
  · simp [quantOf, quantHolds, asBool, truthy]
  · next k =>
    have hk : k > 0 := by simpa using hq
    have h0 : (k == 0) = false := by simp; omega
    have h1 : ¬ (k ≤ 0) := by omega
    simp [eval, quantOf, quantHolds, h0, h1, asBool, truthy]
  · cases hq

theorem needsMatch_false (env : Env) (h0 : ∀ n, env.strs.getD n [] = []) (e : Expr) :
    ∀ (l : LEnv), needsMatch e = true → asBool (eval env l e) = false := by
  -- cases in the order of `needsMatch`: 1 found, 2/3 foundAt/foundIn, 4 ofStr, 5/6 ofStrIn/ofStrAt, 7 `P% of` literal, 8 and, 9 or, 10 rest
  fun_induction needsMatch e
  case case1 s => intro l _; simp [eval, matchesOf_nil env h0, asBool, truthy]
  case case2 s _ | case3 s _ _ =>
    intro l _
    simp only [eval, matchesOf_nil env h0, vFoundAt, vFoundIn]
    split <;> simp [asBool, truthy]
  case case4 q qe set =>
    intro l h
    simp only [Bool.and_eq_true, Bool.not_eq_true'] at h
    simp only [eval, countP_strFound_nil env h0]
    exact quant_needs env l q qe h.1 h.2
  case case5 q qe set _ _ | case6 q qe set _ =>
    intro l h
    simp only [Bool.and_eq_true, Bool.not_eq_true'] at h
    simp only [eval]
    split
    · simp only [countP_any_nil env h0]
      exact quant_needs env l q qe h.1 h.2
    · exact asBool_undef
  case case7 p set =>
    intro l h
    simp only [Bool.and_eq_true, Bool.not_eq_true', List.isEmpty_eq_false_iff, decide_eq_true_eq] at h
    have hn : (0 : Int) < (set.length : Int) := by
      have : set.length ≠ 0 := by simpa using h.1
      omega
    have hp : 0 < p * (set.length : Int) := Int.mul_pos (by omega) hn
    simp [eval, countP_strFound_nil env h0, pctHolds, asBool, truthy, hp]
  case case8 a b iha ihb =>
    intro l h
    simp only [Bool.or_eq_true] at h
    simp only [eval, vAnd]
    rcases h with h | h
    · simp only [iha l h, Bool.false_and, asBool_false]
    · simp only [ihb l h, Bool.and_false, asBool_false]
  case case9 a b iha ihb =>
    intro l h
    simp only [Bool.and_eq_true] at h
    simp only [eval, vOr, iha l h.1, ihb l h.2, Bool.or_self, asBool_false]
  case case10 => intro _ h; cases h

end YaraModel.Cond
