/- C10/C13: the block phase (`addCands`, `scanBlock`, `blockLoop`) — which fields it leaves alone, which result codes
   it can produce, and the equations of the loop by the outcome of the iterator call.

   The cases of `fun_induction` come in the order of the branches of the definition, and `case caseN x₁ … xₙ` names the
   LAST n of what case N offers, which is, in order:
   `addCands`  1 no candidate left;
               2 string disabled: `hd ih`;   3 fast-mode skip: `hd hf ih`;   4 piece of a chain: `hd hf ci hch ih`;
               5 limit reached and the callback continues: `hd hf hch c hlim w c' w' ms e hr hcb ih`
                 (`c` the state with `reqEval` set, let-bound; `hcb : call cb _ = (.cont, w)`; `hr` the recursive call's result);
               6 limit reached and the callback refuses: `hd hf hch c hlim r w hcb hne`;
               7 match inserted: `hd hf hch c hlim ih`;
   `blockLoop` 1 not ready: `hs`;   2 iterator error: `hs`;   3 end of the blocks: `hs`   (`hs : stepOf sched = …`);
               4 block scanned: `hs c' w' ms hb o ih`   (`hb : scanBlock … = (c', w', ms, .success)`, `o` the rest of the loop, let-bound);
               5 block scan failed: `hs c' w' ms e he hb`. -/
import YaraModel.Model.Scanner
namespace YaraModel.Scan

variable {P : Params} {cb : Nat → CbRet} {set : Settings} {fast : Bool} {b : Block} {c c' : Core} {w w' : World}
  {ms : List Msg} {e : Err} {rest : List Block} {sched sc : List Act}

/-- the fields the block loop never writes -/
structure Frame (c c' : Core) : Prop where
  modules : c'.modules = c.modules
  notebook : c'.notebook = c.notebook
  swStart : c'.swStart = c.swStart

theorem Frame.refl (c : Core) : Frame c c := ⟨rfl, rfl, rfl⟩

theorem Frame.trans {a b c : Core} (h1 : Frame a b) (h2 : Frame b c) : Frame a c :=
  ⟨h2.modules.trans h1.modules, h2.notebook.trans h1.notebook, h2.swStart.trans h1.swStart⟩

theorem chainStep_frame {k : Cand} {ci : ChainInfo} : Frame c (chainStep P b k ci c) := by
  fun_cases chainStep P b k ci c
  all_goals exact ⟨rfl, rfl, rfl⟩

theorem addCands_frame {ks : List Cand} : Frame c (addCands P cb fast b ks c w).1 := by
  fun_induction addCands P cb fast b ks c w
  case case1 => exact .refl _
  case case2 ih | case3 ih => exact ih
  case case4 ih => exact chainStep_frame.trans ih
  case case5 hr _ ih => rw [hr] at ih; exact ⟨ih.1, ih.2, ih.3⟩
  case case6 => exact ⟨rfl, rfl, rfl⟩
  case case7 ih => exact ⟨ih.1, ih.2, ih.3⟩

theorem addCands_result {ks : List Cand} :
    (addCands P cb fast b ks c w).2.2.2 ≠ .blockNotReady := by
  fun_induction addCands P cb fast b ks c w
  case case1 | case6 => exact nofun
  case case2 ih | case3 ih | case4 ih | case7 ih => exact ih
  case case5 hr _ ih => rw [hr] at ih; exact ih

-- `scanBlock`, cases: 1 no data, 2 timed out, 3 verifier error, 4 candidates added
theorem scanBlock_frame (h : scanBlock P cb set b c w = (c', w', ms, e)) : Frame c c' := by
  have h0 (ep : Option Nat) :
      Frame c { (if c.entryPoint.isNone then { c with entryPoint := ep } else c) with unconfirmed := [] } := by
    split <;> exact ⟨rfl, rfl, rfl⟩
  rw [show c' = (scanBlock P cb set b c w).1 by rw [h]]
  fun_cases scanBlock P cb set b c w
  · exact .refl c
  · exact h0 _
  · exact h0 _
  · exact (h0 _).trans addCands_frame

theorem scanBlock_result (h : scanBlock P cb set b c w = (c', w', ms, e)) : e ≠ .blockNotReady := by
  rw [show e = (scanBlock P cb set b c w).2.2.2 by rw [h]]
  fun_cases scanBlock P cb set b c w
  · exact nofun
  · exact nofun
  · exact nofun
  · exact addCands_result

theorem blockLoop_frame : Frame c (blockLoop P cb set rest sched c w).core := by
  fun_induction blockLoop P cb set rest sched c w
  case case1 | case2 | case3 => exact .refl _
  case case4 hb _ ih => exact (scanBlock_frame hb).trans ih
  case case5 hb => exact scanBlock_frame hb

theorem stepOf_nil : stepOf [] = .go .ok [] := rfl

theorem blockLoop_notReady (h : stepOf sched = .notReady sc) :
    blockLoop P cb set rest sched c w = ⟨c, rest, sc, .blockNotReady, .blockNotReady, w, []⟩ := by
  unfold blockLoop; rw [h]

theorem blockLoop_fail {e : Nat} (h : stepOf sched = .fail e sc) :
    blockLoop P cb set rest sched c w = ⟨c, rest, sc, .iter e, .iter e, w, []⟩ := by
  unfold blockLoop; rw [h]

theorem blockLoop_nil_go {a : Act} (h : stepOf sched = .go a sc) :
    blockLoop P cb set [] sched c w = ⟨c, [], sc, .success, .success, tick w a, []⟩ := by
  unfold blockLoop; rw [h]

def LoopOut.pre (ms : List Msg) (o : LoopOut) : LoopOut := { o with msgs := ms ++ o.msgs }

theorem blockLoop_cons_go_ok {r : List Block} {a : Act} (h : stepOf sched = .go a sc)
    (hb : scanBlock P cb set b c (tick w a) = (c', w', ms, .success)) :
    blockLoop P cb set (b :: r) sched c w = (blockLoop P cb set r sc c' w').pre ms := by
  conv => lhs; unfold blockLoop; rw [h]
  simp only [hb]; rfl

theorem blockLoop_cons_go_err {r : List Block} {a : Act} (h : stepOf sched = .go a sc)
    (hb : scanBlock P cb set b c (tick w a) = (c', w', ms, e)) (he : e ≠ .success) :
    blockLoop P cb set (b :: r) sched c w = ⟨c', r, sc, .success, e, w', ms⟩ := by
  conv => lhs; unfold blockLoop; rw [h]
  simp only [hb]

end YaraModel.Scan
