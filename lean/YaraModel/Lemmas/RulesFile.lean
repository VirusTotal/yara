/- Soundness of the static handle check of Model/RulesFile.lean: a balanced program holds no FILE handle when it
   returns, whatever the library calls it makes answer. -/
import YaraModel.Model.RulesFile
namespace YaraModel.RulesFile

theorem balanced_sound (p : List Stmt) (opened : Bool) (o : List Bool) (h : balanced p opened = true) : exec p opened o = 0 := by
  -- one goal per path through the first statement, in the order of `exec`'s equations: `[]` 1–2, `fopen` 3, `retIfNull` 4–5,
  -- `call` 6, `failOnError` 7–9, `failClose` 10–11, `fclose` 12, `ret` 13–14; `h` becomes what `balanced` asks of the rest
  fun_induction exec p opened o <;> simp only [balanced, Bool.and_eq_true] at h
  case case3 t _ o ih => exact ih (by cases o.headD true; exact h.2; exact h.1)
  case case4 ih => exact ih (by simpa using h)
  case case6 ih | case10 ih | case12 ih => exact ih h
  case case7 ih => exact ih h.2
  -- the paths that return: with the handle open `h` is absurd, otherwise `0 = 0`
  case case8 => cases h.1
  case case1 | case13 => cases h
  all_goals rfl

end YaraModel.RulesFile
