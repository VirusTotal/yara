/- The block walker against the memory-map specification: on every ascending layout of non-empty
   blocks the walker returns the addressed bytes, for every offset and length. -/
import YaraModel.Lemmas.HashMathWalk
namespace YaraModel.HM
open Spec

def toMem (bs : List Block) : List (Nat × Bytes) := bs.map fun b => (b.base, b.data)

def Layout : List Block → Prop
  | [] => True
  | [b] => 0 < b.size
  | b :: b' :: rest => 0 < b.size ∧ b.base + b.size ≤ b'.base ∧ Layout (b' :: rest)

/-- `Layout` with a lower bound for the first base: the invariant of the inductions below. -/
def Above (lo : Nat) : List Block → Prop
  | [] => True
  | b :: rest => lo ≤ b.base ∧ 0 < b.size ∧ Above (b.base + b.size) rest

theorem Layout.head_pos {b : Block} {rest : List Block} (h : Layout (b :: rest)) : 0 < b.size := by
  cases rest with
  | nil => exact h
  | cons b' r => exact h.1

theorem Layout.above_tail {b : Block} {rest : List Block} (h : Layout (b :: rest)) :
    Above (b.base + b.size) rest := by
  induction rest generalizing b with
  | nil => trivial
  | cons b' r ih => exact ⟨h.2.1, h.2.2.head_pos, ih h.2.2⟩

theorem Layout.above {b : Block} {rest : List Block} (h : Layout (b :: rest)) : Above b.base (b :: rest) :=
  ⟨Nat.le_refl _, h.head_pos, h.above_tail⟩

theorem memAt_in (base : Nat) (d : Bytes) (m : List (Nat × Bytes)) (i : Nat) (hi : i < d.length) :
    memAt ((base, d) :: m) (base + i) = some d[i] := by
  rw [memAt, if_pos ⟨Nat.le_add_right _ _, Nat.add_lt_add_left hi _⟩, Nat.add_sub_cancel_left,
    List.getElem?_eq_getElem hi]

theorem memAt_out (base : Nat) (d : Bytes) (m : List (Nat × Bytes)) (a : Nat)
    (h : ¬ (base ≤ a ∧ a < base + d.length)) : memAt ((base, d) :: m) a = memAt m a := by
  rw [memAt, if_neg h]

theorem memAt_below (bs : List Block) (lo : Nat) (h : Above lo bs) (a : Nat) (ha : a < lo) :
    memAt (toMem bs) a = none := by
  induction bs generalizing lo with
  | nil => rfl
  | cons b rest ih =>
    have hlo : lo ≤ b.base := h.1
    exact (memAt_out _ _ _ a (by omega)).trans (ih _ h.2.2 (by omega))

theorem memAt_lt_memEnd (m : List (Nat × Bytes)) (a : Nat) (h : memAt m a ≠ none) : a < memEnd m := by
  induction m with
  | nil => exact absurd rfl h
  | cons p rest ih =>
    obtain ⟨base, d⟩ := p
    rw [memEnd]
    by_cases hin : base ≤ a ∧ a < base + d.length
    · omega
    · rw [memAt_out base d rest a hin] at h
      have := ih h
      omega

theorem readFrom_none (m : List (Nat × Bytes)) (a n : Nat) (h : memAt m a = none) :
    readFrom m a (n + 1) = none := by
  rw [readFrom, h]

theorem readFrom_add (m : List (Nat × Bytes)) (a n1 n2 : Nat) :
    readFrom m a (n1 + n2) = (readFrom m a n1).bind fun x => (readFrom m (a + n1) n2).map (x ++ ·) := by
  induction n1 generalizing a with
  | zero =>
    rw [Nat.zero_add, Nat.add_zero, readFrom]
    cases readFrom m a n2 <;> rfl
  | succ n ih =>
    rw [Nat.add_right_comm, readFrom, readFrom, ih (a + 1), Nat.add_assoc a 1 n, Nat.add_comm 1 n]
    cases memAt m a <;> cases readFrom m (a + 1) n <;> cases readFrom m (a + (n + 1)) n2 <;> rfl

theorem readFrom_head (base : Nat) (d : Bytes) (m : List (Nat × Bytes)) (i n : Nat) (h : i + n ≤ d.length) :
    readFrom ((base, d) :: m) (base + i) n = some (slice d i n) := by
  induction n generalizing i with
  | zero => rfl
  | succ n ih =>
    have hi : i < d.length := by omega
    rw [readFrom, memAt_in base d m i hi, Nat.add_assoc, ih (i + 1) (by omega)]
    unfold slice
    rw [List.drop_eq_getElem_cons hi, List.take_succ_cons]

theorem readFrom_skip (base : Nat) (d : Bytes) (m : List (Nat × Bytes)) (a n : Nat) (h : base + d.length ≤ a) :
    readFrom ((base, d) :: m) a n = readFrom m a n := by
  induction n generalizing a with
  | zero => rfl
  | succ n ih => rw [readFrom, readFrom, memAt_out base d m a (by omega), ih (a + 1) (by omega)]

theorem readFrom_cross (base : Nat) (d : Bytes) (m : List (Nat × Bytes)) (i e : Nat) (hi : i ≤ d.length)
    (he : base + d.length ≤ e) :
    readFrom ((base, d) :: m) (base + i) (e - (base + i)) =
      (readFrom m (base + d.length) (e - (base + d.length))).map (d.drop i ++ ·) := by
  rw [show e - (base + i) = (d.length - i) + (e - (base + d.length)) by omega, readFrom_add,
    readFrom_head base d m i _ (Nat.le_of_eq (Nat.add_sub_of_le hi)), Nat.add_assoc, Nat.add_sub_of_le hi,
    readFrom_skip base d m _ _ (Nat.le_refl _), slice_eq_drop d i _ (Nat.le_of_eq (Nat.add_sub_of_le hi).symm)]
  rfl

/-- The loop in any state.  With `past` set, `off` is the end of the block just consumed and bytes are still wanted (`hp`):
    the next block must start exactly there.  The bytes read end where the range or the mapped memory ends. -/
theorem walk_eq_readFrom (bs : List Block) (lo : Nat) (hl : Above lo bs) (off len : Nat) (past : Bool)
    (hp : past = true → off ≤ lo ∧ 0 < len) :
    walk bs off len past =
      if past = false ∧ memAt (toMem bs) off = none then none
      else readFrom (toMem bs) off (min (off + len) (memEnd (toMem bs)) - off) := by
  have hpt : ∀ p : Prop, ¬ (true = false ∧ p) := fun _ h => Bool.noConfusion h.1
  have hsn : ∀ (p : Prop) (x : UInt8), ¬ (p ∧ some x = none) := fun _ x h => Option.some_ne_none x h.2
  induction bs generalizing lo off len past with
  | nil =>
    cases past with
    | false => rfl
    | true => rw [if_neg (hpt _), toMem, List.map_nil, memEnd, Nat.min_zero, Nat.zero_sub]; rfl
  | cons b rest ih =>
    obtain ⟨hlo, hpos, hrest⟩ := hl
    have hE : memEnd (toMem (b :: rest)) = max (b.base + b.size) (memEnd (toMem rest)) := rfl
    have hM : toMem (b :: rest) = (b.base, b.data) :: toMem rest := rfl
    have hs : b.data.length = b.size := rfl
    by_cases hin : b.base ≤ off ∧ off < b.base + b.size
    · obtain ⟨i, rfl⟩ := Nat.exists_eq_add_of_le hin.1
      have hi : i < b.size := Nat.lt_of_add_lt_add_left hin.2
      rw [walk_in b rest i len past hi, hM, memAt_in b.base b.data _ i hi, if_neg (hsn _ _), ← hM, hE, hM]
      by_cases hb : i + len ≤ b.size
      · rw [if_pos hb,
          Nat.min_eq_left (Nat.le_trans (Nat.add_assoc _ _ _ ▸ Nat.add_le_add_left hb _) (Nat.le_max_left _ _)),
          Nat.add_sub_cancel_left, readFrom_head _ _ _ i len hb]
      · -- the bytes read end beyond the end of `b`, at the same address as for `rest`
        have hlt : b.size < i + len := Nat.lt_of_not_le hb
        have he : b.base + b.size + (i + len - b.size) = b.base + i + len := by
          rw [Nat.add_assoc, Nat.add_sub_of_le (Nat.le_of_lt hlt), Nat.add_assoc]
        rw [if_neg hb, ih _ hrest _ _ true (fun _ => ⟨Nat.le_refl _, Nat.sub_pos_of_lt hlt⟩), if_neg (hpt _),
          readFrom_cross b.base b.data _ i (min (b.base + i + len) (max (b.base + b.size) _)) (Nat.le_of_lt hi)
            (Nat.le_min.2 ⟨Nat.add_assoc _ _ _ ▸ Nat.add_le_add_left (Nat.le_of_lt hlt) _, Nat.le_max_left _ _⟩),
          he, hs, ← Nat.sub_min_sub_right, ← Nat.sub_min_sub_right, Nat.max_comm, ← Nat.sub_eq_max_sub]
    · rw [walk_out b rest off len past hin]
      cases past with
      | true =>
        obtain ⟨hle, hlen⟩ := hp rfl
        have hm : memAt (toMem (b :: rest)) off = none :=
          memAt_below (b :: rest) b.base ⟨Nat.le_refl _, hpos, hrest⟩ off (by omega)
        obtain ⟨k, hk⟩ : ∃ k, min (off + len) (memEnd (toMem (b :: rest))) - off = k + 1 :=
          ⟨_, (Nat.succ_pred_eq_of_pos (Nat.sub_pos_of_lt (Nat.lt_min.2
            ⟨Nat.lt_add_of_pos_right hlen, Nat.lt_of_lt_of_le (by omega) (Nat.le_max_left _ _)⟩))).symm⟩
        rw [hk, readFrom_none _ _ _ hm]
        rfl
      | false =>
        rw [if_neg Bool.false_ne_true, ih _ hrest off len false Bool.false_ne_true.elim, hM, memAt_out _ _ _ off hin]
        by_cases hm : memAt (toMem rest) off = none
        · rw [if_pos ⟨rfl, hm⟩, if_pos ⟨rfl, hm⟩]
        · have hge : b.base + b.size ≤ off := Nat.le_of_not_lt fun h => hm (memAt_below rest _ hrest off h)
          have hlt := memAt_lt_memEnd _ _ hm
          rw [if_neg (fun h => hm h.2), if_neg (fun h => hm h.2), readFrom_skip _ _ _ off _ hge, ← hM, hE,
            Nat.max_eq_right (Nat.le_of_lt (Nat.lt_of_le_of_lt hge hlt))]

end YaraModel.HM
