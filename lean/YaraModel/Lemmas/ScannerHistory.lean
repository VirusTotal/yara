/- C10: one call (`scanCall`) — result codes of its phases, what `_exit` establishes, the invariant of a scanner between
   calls, the fresh-scan branch forgets the past — and histories of calls (`stepH`). -/
import YaraModel.Lemmas.ScannerFrame
import YaraModel.Spec.Scanner
namespace YaraModel.Scan

variable {P : Params} {v : Variant} {cb : Nat → CbRet} {stack : Nat} {set : Settings} {s : Sc} {c : Core} {it : It} {w : World}
  {o : LoopOut}

/- cases (rule: header of Lemmas/ScannerFrame.lean): `loadModules` 1 none left, 2 already loaded, 3 / 4 error answered to the first /
   second message, 5 loaded;   `runProg` 1 ret, 2 fail, 3 check: timed out, 4 check: go on, 5 walk;   `execRules` 1 none left,
   2 evaluation error, 3 evaluated, 4 skipped;   `report` 1 none left, 2 nothing to send, 3 abort, 4 error, 5 continue -/
theorem loadModules_result {pm : Bool} {ms : List Nat} : (loadModules P cb pm ms c it w).result ≠ .blockNotReady := by
  fun_induction loadModules P cb pm ms c it w
  case case1 | case3 | case4 => exact nofun
  case case2 ih | case5 ih => exact ih

theorem runProg_result {p : Prog} : (runProg set c p it w).1 ≠ .err .blockNotReady := by
  fun_induction runProg set c p it w
  case case1 | case2 | case3 => exact nofun
  case case4 ih | case5 ih => exact ih

theorem execRules_result {fs : Option Nat} {rs : List (Nat × Rule)} :
    (execRules P set fs stack rs c it w).2.2.2 ≠ .blockNotReady := by
  fun_induction execRules P set fs stack rs c it w
  case case1 => exact nofun
  case case2 hr => exact fun h => runProg_result (by rw [hr]; exact congrArg EvalRes.err h)
  case case3 ih | case4 ih => exact ih

theorem exec_result {fs : Option Nat} : (exec P cb set fs stack c it w).result ≠ .blockNotReady := by
  simp only [exec]
  split
  · exact loadModules_result
  · exact execRules_result

/-- `yr_modules_unload_all` is unconditional -/
theorem exec_modules {fs : Option Nat} : (exec P cb set fs stack c it w).core.modules = [] := by
  simp only [exec]
  split <;> rfl

theorem report_result {rs : List (Nat × Rule)} : (report cb set c rs w).2.2 ≠ some .blockNotReady := by
  fun_induction report cb set c rs w
  case case1 | case3 | case4 => exact nofun
  case case2 ih => exact ih
  case case5 hr ih => rw [hr] at ih; exact ih

theorem exitClean_clean {rc : Err} (hm : c.modules = []) (h : rc ≠ .blockNotReady) : (exitClean c rc).Clean := by
  simp only [exitClean, if_neg h, Core.cleanMatches]
  exact ⟨rfl, rfl, rfl, rfl, rfl, rfl, rfl, hm⟩

theorem exitClean_notReady (c : Core) : exitClean c .blockNotReady = c := by simp [exitClean]

@[simp] theorem CallOut.pre_rc (ms : List Msg) (r : CallOut) : (r.pre ms).rc = r.rc := rfl
@[simp] theorem CallOut.pre_sc (ms : List Msg) (r : CallOut) : (r.pre ms).sc = r.sc := rfl
@[simp] theorem CallOut.pre_it (ms : List Msg) (r : CallOut) : (r.pre ms).it = r.it := rfl
@[simp] theorem CallOut.pre_world (ms : List Msg) (r : CallOut) : (r.pre ms).world = r.world := rfl
@[simp] theorem CallOut.pre_msgs (ms : List Msg) (r : CallOut) : (r.pre ms).msgs = ms ++ r.msgs := rfl

/-- the four exits of `afterLoop` (block loop failed or suspended; evaluation failed; reporting stopped; all done) as
    one case analysis -/
theorem afterLoop_cases (P : Params) (cb : Nat → CbRet) (stack : Nat) (s : Sc) (it : It) (o : LoopOut) :
    let r := afterLoop P cb stack s it o
    r.sc.set = s.set ∧
    ((o.result ≠ .success ∧ r.rc = o.result ∧ r.sc.core = exitClean o.core o.result) ∨
     (o.result = .success ∧ r.rc ≠ .blockNotReady ∧ ∃ c, c.modules = [] ∧ r.sc.core = exitClean c r.rc)) := by
  simp only [afterLoop, CallOut.pre_rc, CallOut.pre_sc]
  fun_cases afterLoop0 P cb stack s it o
  case case1 h => exact ⟨rfl, .inl ⟨h, rfl, rfl⟩⟩
  all_goals     -- the other three exits, in the order of the docstring
    refine ⟨rfl, .inr ⟨Decidable.not_not.mp ‹¬o.result ≠ .success›, ?_, _, exec_modules, rfl⟩⟩
  · exact exec_result
  · rename_i hr
    exact fun he => report_result (by rw [hr, ← he])
  · exact nofun

theorem afterLoop_clean (hm : o.core.modules = []) (h : (afterLoop P cb stack s it o).rc ≠ .blockNotReady) :
    (afterLoop P cb stack s it o).sc.core.Clean := by
  rcases (afterLoop_cases P cb stack s it o).2 with ⟨_, h2, h3⟩ | ⟨_, h2, c, hc, h3⟩
  · rw [h3]; exact exitClean_clean hm (h2 ▸ h)
  · rw [h3]; exact exitClean_clean hc h2

theorem afterLoop_notReady (h : (afterLoop P cb stack s it o).rc = .blockNotReady) :
    o.result = .blockNotReady ∧ (afterLoop P cb stack s it o).sc.core = o.core := by
  rcases (afterLoop_cases P cb stack s it o).2 with ⟨_, h2, h3⟩ | ⟨_, h2, _⟩
  · have : o.result = .blockNotReady := h2 ▸ h
    exact ⟨this, by rw [h3, this, exitClean_notReady]⟩
  · exact absurd h h2

def Resumes (v : Variant) (s : Sc) (it : It) : Prop :=
  it.lastError = .blockNotReady ∧ (s.core.notebook = true ∨ v.resumeNeedsPending = false)

/-- `Resumes` is the test `scanCall` makes -/
theorem resumes_iff :
    (decide (it.lastError = .blockNotReady) && (s.core.notebook || !v.resumeNeedsPending)) = true ↔ Resumes v s it := by
  simp [Resumes]

theorem not_resumes_fixed (h : it.lastError ≠ .blockNotReady ∨ s.core.notebook = false) : ¬ Resumes .fixed s it :=
  fun ⟨hl, hn⟩ => h.elim (· hl) fun hf => hn.elim (fun ht => by rw [hf] at ht; cases ht) nofun

theorem scanCall_noCallback (hcb : s.set.hasCallback = false) :
    scanCall P v cb stack s it w = ⟨{ s with core := exitClean s.core .callbackRequired }, it, w, [], .callbackRequired⟩ := by
  simp [scanCall, hcb]

theorem scanCall_resume (hcb : s.set.hasCallback = true) (hr : Resumes v s it) :
    scanCall P v cb stack s it w = afterLoop P cb stack s it (blockLoop P cb s.set it.rest it.sched s.core w) := by
  simp [scanCall, hcb, resumes_iff.2 hr]

theorem scanCall_fresh (hcb : s.set.hasCallback = true) (hr : ¬ Resumes v s it) :
    scanCall P v cb stack s it w =
      afterLoop P cb stack s it (blockLoop P cb s.set it.all it.sched (freshInit P v s.core w) w) := by
  simp [scanCall, hcb, mt resumes_iff.1 hr]

/-- loaded modules never survive a call; and unless a suspended scan is pending, everything is clean -/
structure Inv (c : Core) : Prop where
  modules : c.modules = []
  clean : c.notebook = false → c.Clean

theorem Inv.fresh : Inv Core.fresh := ⟨rfl, fun _ => ⟨rfl, rfl, rfl, rfl, rfl, rfl, rfl, rfl⟩⟩

theorem Core.Clean.inv (h : c.Clean) : Inv c := ⟨h.modules, fun _ => h⟩

theorem freshInit_modules : (freshInit P v c w).modules = c.modules := by
  simp only [freshInit]; split <;> rfl

theorem freshInit_notebook : (freshInit P v c w).notebook = true := rfl

theorem scanCall_clean (hm : s.core.modules = []) (h : (scanCall P v cb stack s it w).rc ≠ .blockNotReady) :
    (scanCall P v cb stack s it w).sc.core.Clean := by
  revert h
  simp only [scanCall]
  split
  · intro _; exact exitClean_clean (rc := .callbackRequired) hm nofun
  · split <;> intro h
    · exact afterLoop_clean (blockLoop_frame.modules.trans hm) h
    · exact afterLoop_clean (blockLoop_frame.modules.trans (freshInit_modules.trans hm)) h

/-- `hn`: always so with `resumeNeedsPending` -/
theorem scanCall_suspended (hm : s.core.modules = []) (hn : Resumes v s it → s.core.notebook = true)
    (h : (scanCall P v cb stack s it w).rc = .blockNotReady) :
    (scanCall P v cb stack s it w).sc.core.modules = [] ∧ (scanCall P v cb stack s it w).sc.core.notebook = true := by
  revert h
  simp only [scanCall]
  split
  · exact nofun
  · split <;> intro h <;> rw [(afterLoop_notReady h).2]
    · rename_i hle
      exact ⟨blockLoop_frame.modules.trans hm, blockLoop_frame.notebook.trans (hn (resumes_iff.1 hle))⟩
    · exact ⟨blockLoop_frame.modules.trans (freshInit_modules.trans hm), blockLoop_frame.notebook.trans freshInit_notebook⟩

theorem freshInit_forgets (h : Inv c) : freshInit P .fixed c w = freshInit P .fixed Core.fresh w := by
  obtain ⟨ep, nb, fo, un, rf, re, ns, sd, mo, sw⟩ := c
  obtain ⟨rfl, hc⟩ : mo = [] ∧ _ := ⟨h.modules, h.clean⟩
  cases nb with
  | true => rfl     -- a pending scan is cleaned first
  | false =>
    obtain ⟨_, rfl, rfl, rfl, _, rfl, rfl, _⟩ := hc rfl
    rfl

/-- `Sc.fileSize` is written after the block loop and read by nothing (conditions get the iterator's `file_size`): what two
    scanners do can be compared with it erased -/
def Sc.noFs (s : Sc) : Sc := { s with fileSize := none }
def CallOut.noFs (o : CallOut) : CallOut := { o with sc := o.sc.noFs }
def HSt.noFs (a : HSt) : HSt := { a with sc := a.sc.noFs }

theorem afterLoop_noFs {s' : Sc} (h : s.set = s'.set) :
    (afterLoop P cb stack s it o).noFs = (afterLoop P cb stack s' it o).noFs := by
  unfold afterLoop afterLoop0
  by_cases hr : o.result ≠ .success
  · simp only [if_pos hr, h]; rfl     -- the stale `fileSize` is kept, and erased on both sides
  · simp only [if_neg hr, h]          -- `fileSize` is overwritten: the scanner enters through its settings only

theorem scanCall_noFs : (scanCall P v cb stack s it w).noFs = (scanCall P v cb stack s.noFs it w).noFs := by
  simp only [scanCall, show s.noFs.set = s.set from rfl, show s.noFs.core = s.core from rfl]
  split
  · rfl
  · split <;> exact afterLoop_noFs rfl

/-- a call that does not resume cannot tell `s` from a new scanner (`Sc.fresh`) -/
theorem scanCall_fresh_eq (hcb : s.set.hasCallback = true) (hi : Inv s.core)
    (hne : it.lastError ≠ .blockNotReady ∨ s.core.notebook = false) :
    (scanCall P .fixed cb stack s it w).noFs = (scanCall P .fixed cb stack (Sc.fresh s.set) it w).noFs := by
  rw [scanCall_fresh hcb (not_resumes_fixed hne), scanCall_fresh (s := Sc.fresh s.set) hcb (not_resumes_fixed (.inr rfl)),
    freshInit_forgets hi]
  exact afterLoop_noFs rfl

theorem scanCall_set : (scanCall P v cb stack s it w).sc.set = s.set := by
  simp only [scanCall]
  split
  · rfl
  · split <;> exact (afterLoop_cases ..).1

/-- between the calls of a history: the scanner's invariant, and a notebook exactly while a scan is suspended -/
structure HInv (st : HSt) : Prop where
  inv : Inv st.sc.core
  susp : st.lastRc = .blockNotReady → st.sc.core.notebook = true
  idle : st.lastRc ≠ .blockNotReady → st.sc.core.notebook = false

theorem HInv.init (set : Settings) (w : World) : HInv (HSt.init set w) :=
  ⟨Inv.fresh, nofun, fun _ => rfl⟩

theorem HInv.of_scanCall {st : HSt}
    (hc : st.sc.core = (scanCall P v cb stack s it w).sc.core) (hr : st.lastRc = (scanCall P v cb stack s it w).rc)
    (hm : s.core.modules = [])
    (hn : Resumes v s it → s.core.notebook = true) : HInv st := by
  have hs := scanCall_suspended (P := P) (cb := cb) (stack := stack) (w := w) hm hn
  have hcl := scanCall_clean (P := P) (v := v) (cb := cb) (stack := stack) (it := it) (w := w) hm
  rw [← hc, ← hr] at hs hcl
  refine ⟨?_, fun h => (hs h).2, fun h => (hcl h).notebook⟩
  by_cases h : st.lastRc = .blockNotReady
  · exact ⟨(hs h).1, fun hf => by rw [(hs h).2] at hf; cases hf⟩
  · exact (hcl h).inv

/-- `hv`: see `reuseOk` -/
theorem stepH_inv {st : HSt} {op : HOp} (h : HInv st) (hv : (∃ x, op = .reuse x) → v.resumeNeedsPending = true) :
    HInv (stepH P v st op).1 := by
  -- one goal per branch of `stepH`: start, cont (suspended / not), reuse, config, proc (none / some)
  fun_cases stepH P v st op
  case case1 => exact .of_scanCall rfl rfl h.inv.modules fun r => nomatch r.1
  case case2 hl _ => exact .of_scanCall rfl rfl h.inv.modules fun _ => h.susp hl
  case case4 x _ => exact .of_scanCall rfl rfl h.inv.modules fun r => r.2.resolve_right (hv ⟨x, rfl⟩ ▸ nofun)
  case case5 => exact ⟨h.inv, h.susp, h.idle⟩
  case case3 | case6 => exact h
  case case7 => exact .of_scanCall rfl rfl h.inv.modules fun r => nomatch r.1

theorem stepH_set (P : Params) (v : Variant) (st : HSt) (op : HOp) :
    (stepH P v st op).1.sc.set = match op with | .config s => s | _ => st.sc.set := by
  fun_cases stepH P v st op
  case case1 | case2 | case4 => exact scanCall_set
  all_goals rfl

/-- histories that re-use an iterator object without resetting its `last_error` are only meaningful for the code that
    resumes only when a scan is pending -/
def reuseOk (v : Variant) (ops : List HOp) : Prop := ∀ op ∈ ops, (∃ x, op = .reuse x) → v.resumeNeedsPending = true

theorem reuseOk_fixed (ops : List HOp) : reuseOk .fixed ops := fun _ _ _ => rfl

theorem runH_inv {st : HSt} {ops : List HOp} (h : HInv st) (hv : reuseOk v ops) : HInv (runH P v st ops) := by
  induction ops generalizing st with
  | nil => exact h
  | cons op ops ih => exact ih (stepH_inv h (hv op (by simp))) (fun o ho => hv o (by simp [ho]))

/-- `a`, `b` are idle: `HSt.after` ignores its first argument -/
theorem after_noFs {o o' : CallOut} (h : o.noFs = o'.noFs) (cb : Nat → CbRet) (stack : Nat) (a b : HSt) :
    (a.after o cb stack).noFs = (b.after o' cb stack).noFs ∧ some (o.msgs, o.rc) = some (o'.msgs, o'.rc) :=
  ⟨congrArg (fun q : CallOut => (⟨q.sc, q.it, cb, stack, q.world, q.rc⟩ : HSt)) h,
   (congrArg (fun q : CallOut => some (q.msgs, q.rc)) h :)⟩

theorem stepH_noFs (a : HSt) (op : HOp) :
    (stepH P v a op).1.noFs = (stepH P v a.noFs op).1.noFs ∧ (stepH P v a op).2 = (stepH P v a.noFs op).2 := by
  cases op with
  | start x => exact after_noFs scanCall_noFs x.cb x.stack a a.noFs
  | cont =>
    simp only [stepH, show a.noFs.lastRc = a.lastRc from rfl]
    split
    · exact after_noFs scanCall_noFs a.cb a.stack a a.noFs
    · exact ⟨rfl, rfl⟩
  | reuse x => exact after_noFs scanCall_noFs x.cb x.stack a a.noFs
  | config set => exact ⟨rfl, rfl⟩
  | proc mem =>
    cases mem with
    | none => exact ⟨rfl, rfl⟩
    | some x =>
      have e := after_noFs (scanCall_noFs (P := P) (v := v) (cb := x.cb) (stack := x.stack) (it := x.it)
        (s := { a.sc with set := { a.sc.set with processMemory := true } }) (w := { a.w with nmsg := 0 })) x.cb x.stack a a.noFs
      exact ⟨congrArg (fun h : HSt => { h with sc := { h.sc with set := a.sc.set } }) e.1, e.2⟩

theorem tracesH_noFs (a : HSt) (ops : List HOp) : tracesH P v a ops = tracesH P v a.noFs ops := by
  induction ops generalizing a with
  | nil => rfl
  | cons op ops ih =>
    have h := stepH_noFs (P := P) (v := v) a op
    simp only [tracesH]
    rw [h.2, ih, ih (stepH P v a.noFs op).1, h.1]

theorem tracesH_congr {a b : HSt} (ops : List HOp) (h : a.noFs = b.noFs) : tracesH P v a ops = tracesH P v b ops := by
  rw [tracesH_noFs a, tracesH_noFs b, h]

/-- **History independence, general form** (code with the fixes). `st`: a scanner with any past (`HInv`, which every
    history establishes: `runH_inv`); `b`: a new scanner with the same settings at the same time. An operation that starts
    a scan afresh — `start`, or `reuse` of the iterator object while no scan is suspended, whatever stale `last_error` it
    carries — followed by ANY further operations `ops` yields, call by call, the same traces on both. -/
theorem tracesH_forgets_history (P : Params) (st b : HSt) (op : HOp) (ops : List HOp)
    (hinv : HInv st) (hcb : st.sc.set.hasCallback = true) (hsc : b.sc = Sc.fresh st.sc.set) (hw : b.w = st.w)
    (hop : (∃ x, op = .start x) ∨
      ((∃ x, op = .reuse x) ∧ st.lastRc ≠ .blockNotReady ∧ b.it.lastError = st.it.lastError)) :
    tracesH P .fixed st (op :: ops) = tracesH P .fixed b (op :: ops) := by
  have key (x : Start) (it : It) (hne : it.lastError ≠ .blockNotReady ∨ st.sc.core.notebook = false) :=
    after_noFs (scanCall_fresh_eq (P := P) (cb := x.cb) (stack := x.stack) (w := { st.w with nmsg := 0 }) hcb hinv.inv hne)
      x.cb x.stack st b
  simp only [tracesH]
  rcases hop with ⟨x, rfl⟩ | ⟨⟨x, rfl⟩, hidle, hle⟩
  · have e := key x x.it (.inl (by simp [Start.it]))
    simp only [stepH, hsc, hw]
    rw [e.2, tracesH_congr _ e.1]
  · have e := key x { x.it with lastError := st.it.lastError } (.inr (hinv.idle hidle))
    simp only [stepH, hsc, hw, hle]
    rw [e.2, tracesH_congr _ e.1]

end YaraModel.Scan
