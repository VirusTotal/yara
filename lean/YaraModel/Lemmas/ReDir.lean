/-
  How a run reads its input: the instances of `Dir` (Lemmas/ReIr.lean), and one instruction of the model of `yr_re_exec`
  against the one-character tests of Spec/Re.lean.
    `At e bm p` — after `bm` matched bytes the run reads the character at byte position `p` (forwards: start + bm,
    backwards: start - cs - bm), the character lies inside the buffer, and in wide mode its high byte is 0.
    forwards:  `L r q t` = the expression of the instruction matches buf[start+q, start+t)
    backwards: `L r q t` = it matches buf[start-t, start-q)
-/
import YaraModel.Lemmas.ReIr
namespace YaraModel.ReEmit
open YaraModel.Re YaraModel.ReVm

/-- `specFlagsG` keeps the run's `wide` (soundness), `specFlags` forces it off (completeness); bridge: `specFlagsG_eq` -/
def specFlags (v : VmFlags) : Flags := { wide := false, nocase := v.nocase, dotall := v.dotall }
def specFlagsG (v : VmFlags) : Flags := { wide := v.wide, nocase := v.nocase, dotall := v.dotall }

theorem specFlagsG_cs (e : Env) : (specFlagsG e.fl).cs = e.cs := rfl

theorem specFlagsG_eq {fl : VmFlags} (hw : fl.wide = false) : specFlagsG fl = specFlags fl := by
  unfold specFlagsG specFlags; rw [hw]

theorem byteAt_eq {buf : Bytes} {i : Nat} (h : i < buf.size) : buf[i]? = some (byteAt buf (i : Int)) := by
  unfold byteAt
  have : ¬ ((i : Int) < 0) := by omega
  simp only [this, if_false, Int.toNat_natCast]
  rw [Array.getElem?_eq_getElem h]; simp

/-- the specification's character test (the lookups `buf[p]?`, `buf[p+1]?`) as the VM makes it: a bounds test, then two reads -/
theorem charOk_eq (fl : Flags) (buf : Bytes) (t : UInt8 → Bool) (p : Nat) :
    charOk fl buf t p =
      (decide (p + fl.cs ≤ buf.size) && (t (byteAt buf (p : Int)) && (!fl.wide || byteAt buf ((p : Int) + 1) == 0))) := by
  unfold charOk Flags.cs
  by_cases h0 : p < buf.size
  · rw [byteAt_eq h0]
    cases fl.wide
    · simp [Nat.succ_le_iff, h0]
    · by_cases h1 : p + 1 < buf.size
      · rw [show ((p : Int) + 1) = ((p + 1 : Nat) : Int) from rfl, byteAt_eq h1]
        simp [Nat.succ_le_iff, h1, Bool.and_comm]
      · rw [Array.getElem?_eq_none (Nat.le_of_not_lt h1)]
        simp [Nat.succ_le_iff, h1]
  · rw [Array.getElem?_eq_none (Nat.le_of_not_lt h0)]
    have : ¬ p + (if fl.wide = true then 2 else 1) ≤ buf.size := by split <;> omega
    simp [this]

theorem toNat_beq (c b : UInt8) : (c.toNat == b.toNat) = (c == b) := by
  rw [Bool.eq_iff_iff]; simp [UInt8.toNat_inj]

theorem toNat_and_beq (c m v : UInt8) : ((c.toNat &&& m.toNat) == v.toNat) = ((c &&& m) == v) := by
  rw [← UInt8.toNat_and, toNat_beq]

structure At (e : Env) (bm p : Nat) : Prop where
  inp : e.inp bm = (p : Int)
  inBuf : p + e.cs ≤ e.buf.size
  hi : e.fl.wide = true → byteAt e.buf ((p : Int) + 1) = 0

theorem cs_wide {e : Env} (hw : e.fl.wide = true) : e.cs = 2 := if_pos hw

theorem cs_byte {e : Env} (hw : e.fl.wide = false) : e.cs = 1 := if_neg (by rw [hw]; exact Bool.false_ne_true)

theorem cs_pos (e : Env) : 0 < e.cs := by unfold Env.cs; split <;> omega

theorem consumeTest_at {e : Env} {bm p : Nat} (hat : At e bm p) {f : Fiber} (hc : consumeOk e bm f = true) :
    consumeTest e.code e.fl f.ip e.buf e.cs (p : Int) = true := by
  unfold consumeOk at hc
  simp only [Bool.and_eq_true] at hc
  have := hc.2
  rwa [hat.inp] at this

theorem charOk_at {e : Env} {bm p : Nat} (hat : At e bm p) {t : UInt8 → Bool} (ht : t (byteAt e.buf (p : Int)) = true) :
    charOk (specFlagsG e.fl) e.buf t p = true := by
  rw [charOk_eq, specFlagsG_cs, decide_eq_true hat.inBuf, ht]
  show (true && (true && (!e.fl.wide || byteAt e.buf ((p : Int) + 1) == 0))) = true
  cases hw : e.fl.wide
  · rfl
  · rw [hat.hi hw]; rfl

theorem wordChar_at {e : Env} {bm p : Nat} (hat : At e bm p) : isWordCharAt e.buf e.cs (p : Int) = isWordByte (byteAt e.buf (p : Int)) := by
  unfold isWordCharAt
  by_cases hw : e.fl.wide = true
  · have hcs := cs_wide hw
    rw [hcs, hat.hi hw]; simp
  · have hcs := cs_byte (Bool.eq_false_iff.2 hw)
    rw [hcs]; simp

section
variable {code : Code} {fl : VmFlags} {ip : Nat} {buf : Bytes} {cs : Nat} {p : Int}

theorem opTest_any (hop : u8 code ip = OP_ANY ∨ u8 code ip = OP_REPEAT_ANY_GREEDY ∨ u8 code ip = OP_REPEAT_ANY_UNGREEDY) :
    consumeTest code fl ip buf cs p = testAny (specFlagsG fl) (byteAt buf p) := by
  unfold consumeTest
  simp only [hop, if_true]
  rfl

theorem opTest_lit {b : UInt8} (hop : u8 code ip = OP_LITERAL) (harg : u8 code (ip + 1) = b.toNat) :
    consumeTest code fl ip buf cs p = testLit (specFlagsG fl) b (byteAt buf p) := by
  unfold consumeTest testLit
  rw [hop, harg]
  show (if fl.nocase = true then lower (byteAt buf p) == lower (UInt8.ofNat b.toNat) else (byteAt buf p).toNat == b.toNat) = _
  rw [UInt8.ofNat_toNat, toNat_beq]
  rfl

theorem opTest_notLit {b : UInt8} (hop : u8 code ip = OP_NOT_LITERAL) (harg : u8 code (ip + 1) = b.toNat) :
    consumeTest code fl ip buf cs p = (byteAt buf p != b) := by
  unfold consumeTest
  rw [hop, harg]
  exact congrArg (!·) (toNat_beq _ _)

theorem opTest_masked {v m : UInt8} (hop : u8 code ip = OP_MASKED_LITERAL) (h1 : u8 code (ip + 1) = v.toNat) (h2 : u8 code (ip + 2) = m.toNat) :
    consumeTest code fl ip buf cs p = testMasked v m (byteAt buf p) := by
  unfold consumeTest
  rw [hop, h1, h2]
  exact toNat_and_beq _ _ _

theorem opTest_maskedNot {v m : UInt8} (hop : u8 code ip = OP_MASKED_NOT_LITERAL) (h1 : u8 code (ip + 1) = v.toNat) (h2 : u8 code (ip + 2) = m.toNat) :
    consumeTest code fl ip buf cs p = !testMasked v m (byteAt buf p) := by
  unfold consumeTest
  rw [hop, h1, h2]
  exact congrArg (!·) (toNat_and_beq _ _ _)

theorem opTest_cls {cb : Nat} {neg : Bool} (hop : u8 code ip = OP_CLASS) (hneg : u8 code (ip + 1) = (if neg then 1 else 0))
    (hbits : ∀ c : UInt8, classBit code ip c = inBitmap cb c) :
    consumeTest code fl ip buf cs p = testCls (specFlagsG fl) cb neg (byteAt buf p) := by
  unfold consumeTest testCls
  rw [hop, hneg]
  show (if ((if neg = true then 1 else 0) != 0) = true then
      !(classBit code ip (byteAt buf p) || (fl.nocase && classBit code ip (altercase (byteAt buf p))))
    else (classBit code ip (byteAt buf p) || (fl.nocase && classBit code ip (altercase (byteAt buf p))))) = _
  rw [hbits, hbits]
  cases neg <;> simp [specFlagsG]

theorem opTest_simple :
    (u8 code ip = OP_WORD_CHAR → consumeTest code fl ip buf cs p = isWordCharAt buf cs p) ∧
    (u8 code ip = OP_NON_WORD_CHAR → consumeTest code fl ip buf cs p = !isWordCharAt buf cs p) ∧
    (u8 code ip = OP_SPACE → consumeTest code fl ip buf cs p = isSpaceByte (byteAt buf p)) ∧
    (u8 code ip = OP_NON_SPACE → consumeTest code fl ip buf cs p = !isSpaceByte (byteAt buf p)) ∧
    (u8 code ip = OP_DIGIT → consumeTest code fl ip buf cs p = isDigitByte (byteAt buf p)) ∧
    (u8 code ip = OP_NON_DIGIT → consumeTest code fl ip buf cs p = !isDigitByte (byteAt buf p)) := by
  unfold consumeTest
  refine ⟨?_, ?_, ?_, ?_, ?_, ?_⟩ <;> intro hop <;>
    simp only [hop, OP_ANY, OP_REPEAT_ANY_GREEDY, OP_REPEAT_ANY_UNGREEDY, OP_LITERAL, OP_NOT_LITERAL, OP_MASKED_LITERAL, OP_MASKED_NOT_LITERAL,
      OP_CLASS, OP_WORD_CHAR, OP_NON_WORD_CHAR, OP_SPACE, OP_NON_SPACE, OP_DIGIT, OP_NON_DIGIT, Nat.reduceEqDiff, or_self, if_false, if_true]
end

/-- a consuming leaf: the test of its instruction is the one-character test `t` by which the specification defines the node
    (`sf`: specification flags with the run's nocase / dot-all; for `\w \W` the word test must see a whole character) -/
theorem leaf_test {code : Code} {r : Re} {a : Nat} (hc : LeafCode code r a) (hcons : isConsuming (u8 code a) = true) {fl : VmFlags}
    {sf : Flags} (hn : sf.nocase = fl.nocase) (hd : sf.dotall = fl.dotall) : ∃ t : UInt8 → Bool,
    (∀ buf P Q, Re.Matches sf buf r P Q ↔ charOk sf buf t P = true ∧ Q = P + sf.cs) ∧
    ∀ buf cs p, isWordCharAt buf cs p = isWordByte (byteAt buf p) → consumeTest code fl a buf cs p = t (byteAt buf p) := by
  obtain ⟨w, n, d⟩ := sf
  subst hn hd
  have key : ∀ {r : Re} {t : UInt8 → Bool}, (∀ buf P, r.ends ⟨w, fl.nocase, fl.dotall⟩ buf P = step ⟨w, fl.nocase, fl.dotall⟩ buf t P) →
      ∀ buf P Q, Re.Matches ⟨w, fl.nocase, fl.dotall⟩ buf r P Q ↔
        charOk ⟨w, fl.nocase, fl.dotall⟩ buf t P = true ∧ Q = P + Flags.cs ⟨w, fl.nocase, fl.dotall⟩ :=
    fun h buf P Q => by rw [← ends_iff_Matches, h, mem_step]
  have ts := fun buf cs p => opTest_simple (code := code) (fl := fl) (ip := a) (buf := buf) (cs := cs) (p := p)
  cases hc with
  | lit hop harg => exact ⟨_, key fun _ _ => rfl, fun _ _ _ _ => opTest_lit hop harg⟩
  | notLit hop harg => exact ⟨_, key fun _ _ => rfl, fun _ _ _ _ => opTest_notLit hop harg⟩
  | masked hop h1 h2 => exact ⟨_, key fun _ _ => rfl, fun _ _ _ _ => opTest_masked hop h1 h2⟩
  | maskedNot hop h1 h2 => exact ⟨_, key fun _ _ => rfl, fun _ _ _ _ => opTest_maskedNot hop h1 h2⟩
  | any hop => exact ⟨_, key fun _ _ => rfl, fun _ _ _ _ => opTest_any (.inl hop)⟩
  | cls hop hneg hbits => exact ⟨_, key fun _ _ => rfl, fun _ _ _ _ => opTest_cls hop hneg hbits⟩
  | wordCh hop => exact ⟨_, key fun _ _ => rfl, fun buf cs p hw => ((ts buf cs p).1 hop).trans hw⟩
  | nonWordCh hop => exact ⟨_, key fun _ _ => rfl, fun buf cs p hw => ((ts buf cs p).2.1 hop).trans (congrArg (!·) hw)⟩
  | space hop => exact ⟨_, key fun _ _ => rfl, fun buf cs p _ => (ts buf cs p).2.2.1 hop⟩
  | nonSpace hop => exact ⟨_, key fun _ _ => rfl, fun buf cs p _ => (ts buf cs p).2.2.2.1 hop⟩
  | digit hop => exact ⟨_, key fun _ _ => rfl, fun buf cs p _ => (ts buf cs p).2.2.2.2.1 hop⟩
  | nonDigit hop => exact ⟨_, key fun _ _ => rfl, fun buf cs p _ => (ts buf cs p).2.2.2.2.2 hop⟩
  | bol h1 | eol h1 | wordB h1 | nonWordB h1 => rw [h1] at hcons; exact absurd hcons (by decide)

theorem leaf_consume_at {e : Env} {bm p : Nat} (hat : At e bm p) {r : Re} {f : Fiber} (hc : LeafCode e.code r f.ip)
    (hcons : isConsuming (u8 e.code f.ip) = true) (hok : consumeOk e bm f = true) : Re.Matches (specFlagsG e.fl) e.buf r p (p + e.cs) := by
  obtain ⟨t, hm, ht⟩ := leaf_test hc hcons (sf := specFlagsG e.fl) rfl rfl
  exact (hm _ _ _).2 ⟨charOk_at hat (by rw [← ht _ _ _ (wordChar_at hat)]; exact consumeTest_at hat hok), rfl⟩

theorem consume_anyrep_at {e : Env} {bm p : Nat} (hat : At e bm p) {f : Fiber}
    (hop : isAnyOp (u8 e.code f.ip)) (hc : consumeOk e bm f = true) :
    Re.Matches (specFlagsG e.fl) e.buf .any p (p + e.cs) :=
  .any (charOk_at hat (by rw [← opTest_any (.inr hop)]; exact consumeTest_at hat hc))

theorem consumeOk_parts {e : Env} {bm : Nat} {f : Fiber} (hc : consumeOk e bm f = true) :
    bm < e.maxBytes ∧ (e.fl.wide = true → byteAt e.buf (e.inp bm + 1) = 0) := by
  unfold consumeOk at hc
  simp only [Bool.and_eq_true, Bool.not_eq_true', Bool.or_eq_false_iff, decide_eq_false_iff_not] at hc
  refine ⟨by omega, ?_⟩
  intro hw
  have h2 := hc.1.2
  have hcs := cs_wide hw
  rw [hcs] at h2
  simpa using h2

theorem maxBytes_bound (e : Env) : (e.fl.backwards = false → e.start ≤ e.buf.size → e.start + e.maxBytes ≤ e.buf.size) ∧
    (e.fl.backwards = true → e.maxBytes ≤ e.start) := by
  constructor
  · intro hb hs
    unfold Env.maxBytes Env.fwdSize
    simp only [hb, Bool.false_eq_true, if_false]
    omega
  · intro hb
    unfold Env.maxBytes Env.bwdSize
    simp only [hb, if_true]
    omega

theorem maxBytes_mod (e : Env) : e.maxBytes % e.cs = 0 := by
  unfold Env.maxBytes
  exact Nat.sub_mod_eq_zero_of_mod_eq (Nat.mod_mod _ _).symm

theorem char_fits {cs bm M : Nat} (hb : bm % cs = 0) (hM : M % cs = 0) (h : bm < M) : bm + cs ≤ M := by
  rcases Nat.eq_zero_or_pos cs with rfl | hc
  · simp at hb; omega
  · obtain ⟨i, rfl⟩ := Nat.dvd_of_mod_eq_zero hb
    obtain ⟨j, rfl⟩ := Nat.dvd_of_mod_eq_zero hM
    have : i < j := Nat.lt_of_mul_lt_mul_left h
    calc cs * i + cs = cs * (i + 1) := by rw [Nat.mul_succ]
      _ ≤ cs * j := Nat.mul_le_mul_left _ this

theorem at_fwd {e : Env} (hb : e.fl.backwards = false) (hs : e.start ≤ e.buf.size) {bm : Nat} (hd : bm % e.cs = 0) {f : Fiber}
    (hc : consumeOk e bm f = true) : At e bm (e.start + bm) := by
  obtain ⟨h1, h2⟩ := consumeOk_parts hc
  have hinp : e.inp bm = ((e.start + bm : Nat) : Int) := by simp [Env.inp, hb]
  have := char_fits hd (maxBytes_mod e) h1
  have := (maxBytes_bound e).1 hb hs
  exact ⟨hinp, by omega, fun hw => by rw [← hinp]; exact h2 hw⟩

theorem at_bwd {e : Env} (hb : e.fl.backwards = true) (hs : e.start ≤ e.buf.size) {bm : Nat} (hd : bm % e.cs = 0) {f : Fiber}
    (hc : consumeOk e bm f = true) : bm + e.cs ≤ e.start ∧ At e bm (e.start - e.cs - bm) := by
  obtain ⟨h1, h2⟩ := consumeOk_parts hc
  have hle : bm + e.cs ≤ e.start := Nat.le_trans (char_fits hd (maxBytes_mod e) h1) ((maxBytes_bound e).2 hb)
  have hinp : e.inp bm = ((e.start - e.cs - bm : Nat) : Int) := by simp [Env.inp, hb]; omega
  exact ⟨hle, hinp, by omega, fun hw => by rw [← hinp]; exact h2 hw⟩

/-- the model's "a word character starts at byte index x" (bounds test + `_yr_re_is_word_char`) is the specification's -/
theorem word_int (e : Env) (x : Int) :
    ((decide (x + (e.cs : Int) ≤ (e.buf.size : Int)) && decide (x ≥ 0)) && isWordCharAt e.buf e.cs x) =
      (if 0 ≤ x then wordAt (specFlagsG e.fl) e.buf x.toNat else false) := by
  by_cases hx : 0 ≤ x
  · -- at a byte index both sides are `charOk_eq`'s: the bounds test, then `_yr_re_is_word_char`
    obtain ⟨i, rfl⟩ : ∃ i : Nat, x = (i : Int) := ⟨x.toNat, by omega⟩
    have hcs : (e.cs != 2) = !(specFlagsG e.fl).wide := by
      show (e.cs != 2) = !e.fl.wide
      unfold Env.cs; cases e.fl.wide <;> rfl
    rw [if_pos hx, Int.toNat_natCast, wordAt, charOk_eq, specFlagsG_cs, isWordCharAt, hcs, decide_eq_true hx, Bool.and_true]
    exact congrArg (· && _) (decide_eq_decide.2 (by omega))
  · simp [hx]

theorem word_before (e : Env) (P : Nat) :
    (if 0 ≤ (P : Int) - (e.cs : Int) then wordAt (specFlagsG e.fl) e.buf ((P : Int) - (e.cs : Int)).toNat else false) =
      wordBefore (specFlagsG e.fl) e.buf P := by
  unfold wordBefore
  rw [specFlagsG_cs]
  by_cases hp : e.cs ≤ P
  · have e1 : ((P : Int) - (e.cs : Int)).toNat = P - e.cs := by omega
    simp [e1, hp]
  · simp [hp]

/-- the model compares the characters before and after the current position `P`; read forwards the current character is the
    one after `P`, read backwards the one before it -/
theorem zw_boundary {e : Env} {bm P : Nat}
    (h : (e.fl.backwards = false ∧ e.inp bm = (P : Int)) ∨ (e.fl.backwards = true ∧ e.inp bm = (P : Int) - (e.cs : Int))) :
    zeroWidthOk e bm OP_WORD_BOUNDARY = isBoundary (specFlagsG e.fl) e.buf P := by
  have hat : (if (0 : Int) ≤ (P : Int) then wordAt (specFlagsG e.fl) e.buf (P : Int).toNat else false) = wordAt (specFlagsG e.fl) e.buf P := by
    simp
  unfold zeroWidthOk isBoundary
  simp only [OP_WORD_BOUNDARY, OP_NON_WORD_BOUNDARY, Nat.reduceEqDiff, true_or, if_true, if_false]
  rw [word_int, word_int]
  rcases h with ⟨hb, hinp⟩ | ⟨hb, hinp⟩
  · simp only [hb, hinp, Bool.false_eq_true, if_false]
    rw [word_before, hat]
  · simp only [hb, hinp, if_true]
    rw [show (P : Int) - (e.cs : Int) - -(e.cs : Int) = (P : Int) by omega, word_before, hat]
    exact bne_comm

theorem zw_bol_fwd {e : Env} (hb : e.fl.backwards = false) {bm : Nat} (hz : zeroWidthOk e bm OP_MATCH_AT_START = true) : e.start + bm = 0 := by
  unfold zeroWidthOk at hz
  simp [OP_MATCH_AT_START, OP_WORD_BOUNDARY, OP_NON_WORD_BOUNDARY, hb, Env.bwdSize] at hz
  omega

theorem zw_eol_fwd {e : Env} (hb : e.fl.backwards = false) {bm : Nat} (hle : e.start + bm ≤ e.buf.size)
    (hz : zeroWidthOk e bm OP_MATCH_AT_END = true) : e.start + bm = e.buf.size := by
  unfold zeroWidthOk at hz
  simp [OP_MATCH_AT_END, OP_MATCH_AT_START, OP_WORD_BOUNDARY, OP_NON_WORD_BOUNDARY, hb, Env.fwdSize] at hz
  omega

theorem zw_bol_bwd {e : Env} (hb : e.fl.backwards = true) {bm : Nat} (hle : bm ≤ e.start)
    (hz : zeroWidthOk e bm OP_MATCH_AT_START = true) : e.start - bm = 0 := by
  unfold zeroWidthOk at hz
  simp [OP_MATCH_AT_START, OP_WORD_BOUNDARY, OP_NON_WORD_BOUNDARY, hb, Env.bwdSize] at hz
  omega

theorem zw_eol_bwd {e : Env} (hb : e.fl.backwards = true) {bm : Nat} : zeroWidthOk e bm OP_MATCH_AT_END = false := by
  unfold zeroWidthOk
  simp [OP_MATCH_AT_END, OP_MATCH_AT_START, OP_WORD_BOUNDARY, OP_NON_WORD_BOUNDARY, hb]

/-- `P`: the boundary between the matched part and the rest -/
theorem leaf_zw_at {e : Env} {bm P : Nat} {r : Re} {a : Nat} (hc : LeafCode e.code r a) (hnc : isConsuming (u8 e.code a) = false)
    (hbol : zeroWidthOk e bm OP_MATCH_AT_START = true → P = 0)
    (heol : zeroWidthOk e bm OP_MATCH_AT_END = true → P = e.buf.size)
    (hwb : zeroWidthOk e bm OP_WORD_BOUNDARY = isBoundary (specFlagsG e.fl) e.buf P)
    (hz : zeroWidthOk e bm (u8 e.code a) = true) : Re.Matches (specFlagsG e.fl) e.buf r P P := by
  cases hc with
  | bol h1 => rw [h1] at hz; rw [hbol hz]; exact .bol
  | eol h1 => rw [h1] at hz; rw [heol hz]; exact .eol
  | wordB h1 => rw [h1] at hz; exact .wordB (by rw [← hwb]; exact hz)
  | nonWordB h1 =>
    rw [h1] at hz
    exact .nonWordB (by
      rw [zw_nonboundary, hwb] at hz
      simpa using hz)
  | lit h1 _ | notLit h1 _ | masked h1 _ _ | maskedNot h1 _ _ | any h1 | cls h1 _ _ | wordCh h1 | nonWordCh h1 | space h1 | nonSpace h1 | digit h1 | nonDigit h1 =>
    rw [h1] at hnc; exact absurd hnc (by decide)

structure RunOK (e : Env) : Prop where
  startIn : e.start ≤ e.buf.size
  scanByte : e.fl.scan = true → e.fl.wide = false      -- the scan mode is the `matches` operator: byte mode

theorem RunOK.ofNoScan {e : Env} (h1 : e.start ≤ e.buf.size) (h2 : e.fl.scan = false) : RunOK e :=
  ⟨h1, fun h => absurd (h2.symm.trans h) Bool.false_ne_true⟩

theorem mod_cs_of_scan {e : Env} (h : RunOK e) (hsc : e.fl.scan = true) (bm : Nat) : bm % e.cs = 0 := by
  rw [cs_byte (h.scanByte hsc)]
  exact Nat.mod_one bm

def fwdL (e : Env) (r : Re) (q t : Nat) : Prop := Re.Matches (specFlagsG e.fl) e.buf r (e.start + q) (e.start + t)

def bwdL (e : Env) (r : Re) (q t : Nat) : Prop := Re.Matches (specFlagsG e.fl) e.buf r (e.start - t) (e.start - q)

theorem fwdL_of_at {e : Env} (hb : e.fl.backwards = false) (hs : e.start ≤ e.buf.size) {bm : Nat} (hd : bm % e.cs = 0) {f : Fiber}
    (hok : consumeOk e bm f = true) {r : Re} (hm : ∀ {p}, At e bm p → Re.Matches (specFlagsG e.fl) e.buf r p (p + e.cs)) :
    fwdL e r bm (bm + e.cs) := by
  have := hm (at_fwd hb hs hd hok)
  unfold fwdL
  rwa [Nat.add_assoc] at this

theorem bwdL_of_at {e : Env} (hb : e.fl.backwards = true) (hs : e.start ≤ e.buf.size) {bm : Nat} (hd : bm % e.cs = 0) {f : Fiber}
    (hok : consumeOk e bm f = true) {r : Re} (hm : ∀ {p}, At e bm p → Re.Matches (specFlagsG e.fl) e.buf r p (p + e.cs)) :
    bwdL e r bm (bm + e.cs) := by
  obtain ⟨hle, hat⟩ := at_bwd hb hs hd hok
  have := hm hat
  unfold bwdL
  have e1 : e.start - (bm + e.cs) = e.start - e.cs - bm := by omega
  have e2 : e.start - bm = e.start - e.cs - bm + e.cs := by omega
  rw [e1, e2]; exact this

def fwdDir (e : Env) (hb : e.fl.backwards = false) (h : RunOK e) : Dir e where
  L := fwdL e
  ok := fun bm => bm % e.cs = 0 ∧ e.start + bm ≤ e.buf.size
  cons := by
    intro r a f bm hc hip hcons hokb hok
    subst hip
    exact fwdL_of_at hb h.startIn hokb.1 hok fun hat => leaf_consume_at hat hc hcons hok
  any := fun hop hokb hok => fwdL_of_at hb h.startIn hokb.1 hok fun hat => consume_anyrep_at hat hop hok
  zw := by
    intro r a bm hc hnc hok hz
    exact leaf_zw_at hc hnc (fun hh => zw_bol_fwd hb hh) (fun hh => zw_eol_fwd hb hok.2 hh) (zw_boundary (.inl ⟨hb, by simp [Env.inp, hb]⟩)) hz
  ok0 := ⟨Nat.zero_mod _, h.startIn⟩
  okScan := by
    intro bm hsc hbm
    have := (maxBytes_bound e).1 hb h.startIn
    exact ⟨mod_cs_of_scan h hsc bm, by omega⟩
  okCons := by
    intro f bm hokb hok
    have hat := at_fwd hb h.startIn hokb.1 hok
    have := hat.inBuf
    exact ⟨by rw [Nat.add_mod_right]; exact hokb.1, by omega⟩

def bwdDir (e : Env) (hb : e.fl.backwards = true) (h : RunOK e) : Dir e where
  L := bwdL e
  ok := fun bm => bm % e.cs = 0 ∧ bm ≤ e.start
  cons := by
    intro r a f bm hc hip hcons hokb hok
    subst hip
    exact bwdL_of_at hb h.startIn hokb.1 hok fun hat => leaf_consume_at hat hc hcons hok
  any := fun hop hokb hok => bwdL_of_at hb h.startIn hokb.1 hok fun hat => consume_anyrep_at hat hop hok
  zw := by
    intro r a bm hc hnc hok hz
    exact leaf_zw_at hc hnc (fun hh => zw_bol_bwd hb hok.2 hh) (fun hh => by rw [zw_eol_bwd hb] at hh; simp at hh)
      (zw_boundary (.inr ⟨hb, by simp [Env.inp, hb]; omega⟩)) hz
  ok0 := ⟨Nat.zero_mod _, Nat.zero_le _⟩
  okScan := by
    intro bm hsc hbm
    have := (maxBytes_bound e).2 hb
    exact ⟨mod_cs_of_scan h hsc bm, by omega⟩
  okCons := by
    intro f bm hokb hok
    obtain ⟨hle, _⟩ := at_bwd hb h.startIn hokb.1 hok
    exact ⟨by rw [Nat.add_mod_right]; exact hokb.1, hle⟩

end YaraModel.ReEmit
