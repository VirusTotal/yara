/-
  One step of the abstract machine (Lemmas/ReVm.lean) inside a segment keeps the continuation invariant:
  the successor state is valid (or just behind the segment), the stack below the segment's depth is untouched, and whatever
  the successor still accepts, the predecessor accepts too (`StepOK`, `seg_step`).
  Hence the reachability invariant of the abstract machine (`Reach`) on a whole program `code(r) ++ [MATCH]`: whatever can still
  be accepted from a reachable state extends to a match of the expression (`reach_lang_at`); a reachable fiber at RE_OPCODE_MATCH
  after `L` bytes witnesses a match of length `L` (`match_sound`).
-/
import YaraModel.Lemmas.ReIr
namespace YaraModel.ReEmit
open YaraModel.Re YaraModel.ReVm

abbrev langF (L : Re → Nat → Nat → Prop) (r : Ir) (a B : Nat) (K : Lang) (f : Fiber) (m : Mode) : Lang :=
  lang L r a B K f.ip f.rc f.stack m
abbrev ValidF (r : Ir) (a B : Nat) (f : Fiber) (m : Mode) : Prop := Valid r a B f.ip f.rc f.stack m

def modeAfter (stop : Bool) : Mode := if stop then .wait else .run

/-- the mode in the conclusion of `Reach.cons` -/
def modeCons (code : Code) (f : Fiber) : Mode :=
  if u8 code f.ip = OP_REPEAT_ANY_GREEDY ∨ u8 code f.ip = OP_REPEAT_ANY_UNGREEDY then .post else .run

/-- what one step of the abstract machine does to a valid state `f` of the segment `[a, b)`, in five parts:
    (1) an ε-step, (2) a REPEAT_ANY step (`stop`: the fiber spins and waits), (3) a consuming step on the character at `bm`
    matched bytes, (4) the instruction is not MATCH, (5) a zero-width step.  Each of (1)–(3), (5) says: the successor is again
    valid or stands just behind the segment, and whatever the successor accepts, `f` accepts (after the consumed character);
    (1), (2) also: the stack below the nesting depth `B` is untouched. -/
def StepOK (e : Env) (D : Dir e) (r : Ir) (a b B : Nat) (K : Lang) (f : Fiber) (m : Mode) : Prop :=
  (∀ g, EStep e.code f g → m ≠ .wait → (ValidF r a B g .run ∨ AtEnd b B g .run) ∧ low g.stack B = low f.stack B ∧
      ∀ q q', langF D.L r a B K g .run q q' → langF D.L r a B K f m q q') ∧
  (∀ g stop, AStep e.code f g stop → m ≠ .wait → (ValidF r a B g (modeAfter stop) ∨ AtEnd b B g (modeAfter stop)) ∧ g.stack = f.stack ∧
      ∀ q q', langF D.L r a B K g (modeAfter stop) q q' → langF D.L r a B K f m q q') ∧
  (∀ bm, D.ok bm → isConsuming (u8 e.code f.ip) = true → consumeOk e bm f = true → (isAnyOp (u8 e.code f.ip) → m = .wait) → m ≠ .post →
      (ValidF r a B (advance e.code f) (modeCons e.code f) ∨ AtEnd b B (advance e.code f) (modeCons e.code f)) ∧
      ∀ q', langF D.L r a B K (advance e.code f) (modeCons e.code f) (bm + e.cs) q' → langF D.L r a B K f m bm q') ∧
  (u8 e.code f.ip ≠ OP_MATCH) ∧
  (∀ bm, D.ok bm → isConsuming (u8 e.code f.ip) = false → zeroWidthOk e bm (u8 e.code f.ip) = true →
      (ValidF r a B { f with ip := f.ip + 1 } .run ∨ AtEnd b B { f with ip := f.ip + 1 } .run) ∧
      ∀ q', langF D.L r a B K { f with ip := f.ip + 1 } .run bm q' → langF D.L r a B K f m bm q')

theorem leaf_facts {code : Code} {r : Re} {a : Nat} (h : LeafCode code r a) :
    ¬ isCtl (u8 code a) ∧ ¬ isAnyOp (u8 code a) ∧ u8 code a ≠ OP_MATCH ∧
    ((isConsuming (u8 code a) = true ∧ sizeOfInstr (u8 code a) = leafLen r) ∨ (isConsuming (u8 code a) = false ∧ leafLen r = 1)) := by
  cases h with
  | lit h1 _ | notLit h1 _ | masked h1 _ _ | maskedNot h1 _ _ | any h1 | cls h1 _ _ | wordCh h1 | nonWordCh h1 | space h1 | nonSpace h1 | digit h1 | nonDigit h1 =>
    rw [h1]; exact ⟨by unfold isCtl; decide, by unfold isAnyOp; decide, by decide, .inl ⟨by decide, rfl⟩⟩
  | bol h1 | eol h1 | wordB h1 | nonWordB h1 =>
    rw [h1]; exact ⟨by unfold isCtl; decide, by unfold isAnyOp; decide, by decide, .inr ⟨by decide, rfl⟩⟩

theorem leaf_step (e : Env) (D : Dir e) (r : Re) (a B : Nat) (K : Lang) (f : Fiber) (m : Mode) (hc : LeafCode e.code r a)
    (hv : ValidF (.leaf r) a B f m) : StepOK e D (.leaf r) a (a + leafLen r) B K f m := by
  obtain ⟨ip, st, rc⟩ := f
  obtain ⟨rfl, rfl, rfl, rfl⟩ := hv
  obtain ⟨hnctl, hnany, hnm, hkind⟩ := leaf_facts hc
  -- a step over the instruction that its relation `L` allows leads just behind it, where the continuation is left
  have behind : ∀ {bm t : Nat} (n : Nat), n = leafLen r → D.L r bm t →
      (ValidF (.leaf r) ip st.length ⟨ip + n, st, -1⟩ .run ∨ AtEnd (ip + leafLen r) st.length ⟨ip + n, st, -1⟩ .run) ∧
      ∀ q', langF D.L (.leaf r) ip st.length K ⟨ip + n, st, -1⟩ .run t q' →
        langF D.L (.leaf r) ip st.length K ⟨ip, st, -1⟩ .run bm q' := by
    rintro bm t _ rfl hL
    refine ⟨.inr ⟨rfl, rfl, rfl, rfl⟩, fun q' hq' => ?_⟩
    simp only [langF] at hq' ⊢
    rw [lang_ge D.L (.leaf r) ip _ K (ip + leafLen r) _ _ _ (Nat.le_refl _)] at hq'
    simp only [lang, if_true]
    exact ⟨t, hL, hq'⟩
  refine ⟨fun g hg => absurd (estep_ctl hg) hnctl, fun g s hg => (no_astep hg hnany).elim, ?_, hnm, ?_⟩
  · intro bm hokb hcons hc' _ _
    rcases hkind with ⟨_, hsz⟩ | ⟨hnc, _⟩
    · have hmc : modeCons e.code ⟨ip, st, -1⟩ = .run := if_neg hnany
      rw [advance_ip (f := ⟨ip, st, -1⟩) rfl hnany, hmc]
      exact behind _ hsz (D.cons hc rfl hcons hokb hc')
    · rw [hnc] at hcons; exact absurd hcons (by decide)
  · intro bm hok hncons hz
    rcases hkind with ⟨hcs, _⟩ | ⟨_, hsz⟩
    · rw [hcs] at hncons; exact absurd hncons (by decide)
    · exact behind 1 hsz.symm (D.zw hc hncons hok hz)

theorem pred_add_succ {k : Nat} (h : 1 ≤ k) (j : Nat) : k - 1 + (j + 1) = k + j := by
  rw [← Nat.add_assoc, Nat.add_right_comm, Nat.sub_add_cancel h]

theorem jump_step (e : Env) (D : Dir e) (a B lo hi : Nat) (g : Bool) (K : Lang) (f : Fiber) (m : Mode)
    (hop : isAnyOp (u8 e.code a))
    (hlo : u16 e.code (a + 1) = lo) (hhi : u16 e.code (a + 3) = hi) (hlh : lo ≤ hi)
    (hv : ValidF (.jump lo hi g) a B f m) : StepOK e D (.jump lo hi g) a (a + 5) B K f m := by
  simp only [ValidF, Valid] at hv
  obtain ⟨hip, hlen, hst⟩ := hv
  have hopf : isAnyOp (u8 e.code f.ip) := by rw [hip]; exact hop
  -- from here on the counter is the natural number `rc0 f.rc`
  obtain ⟨hrcc, hbound, hspin⟩ := jump_counter hst
  have key : ∀ q q' j t, m ≠ .wait → lo ≤ rc0 f.rc + j → rc0 f.rc + j ≤ hi → Iter (D.L .any) j q t → K t q' →
      langF D.L (.jump lo hi g) a B K f m q q' := by
    intro q q' j t hmw h1 h2 hp hk
    simp only [langF, lang, hip, if_true]
    cases m with
    | run => exact ⟨j, t, h1, h2, hp, hk⟩
    | wait => exact absurd rfl hmw
    | post => exact ⟨j, t, h1, h2, hp, hk⟩
  refine ⟨fun g' hg => absurd hg (fun hh => no_estep_any hh hopf), ?_, ?_, ?_, ?_⟩
  · intro g' stop hg hmw
    cases hg with
    | spin _ hcond =>
      rw [hip, hlo, hhi, hrcc, Int.ofNat_lt, Int.ofNat_lt] at hcond
      have hk : rc0 f.rc + 1 ≤ hi := hcond.elim id (Nat.lt_of_lt_of_le · hlh)
      have hnew : (rc0 f.rc : Int) + 1 = ((rc0 f.rc + 1 : Nat) : Int) := rfl
      rw [hrcc, hnew]
      refine ⟨.inl ?_, rfl, fun q q' hq => ?_⟩
      · simp only [ValidF, Valid]
        exact ⟨hip, hlen, .inr ⟨Mode.noConfusion, Int.ofNat_le.2 (Nat.succ_pos _), Int.ofNat_le.2 hk⟩⟩
      simp only [langF, lang, hip, if_true, modeAfter, rc0_natCast, Nat.add_sub_cancel] at hq
      obtain ⟨j, t, _, h2, h3, hp, hk⟩ := hq
      exact key q q' j t hmw h2 h3 hp hk
    | cont _ hcond =>
      rw [hip, hlo, hrcc, Int.ofNat_lt] at hcond
      refine ⟨.inr ⟨by simp [hip], rfl, rfl, hlen⟩, rfl, fun q q' hq => ?_⟩
      simp only [langF] at hq
      rw [lang_ge _ _ _ _ _ _ _ _ _ (Nat.le_of_eq (congrArg (· + 5) hip.symm))] at hq
      exact key q q' 0 q hmw (Nat.le_of_not_lt hcond) hbound .nil hq
  · intro bm hokb _ hc hmw hmp
    obtain rfl : m = .wait := hmw hopf
    obtain ⟨hk1, hrc⟩ := hspin Mode.noConfusion
    have hadv : advance e.code f = f := by unfold advance; exact if_pos hopf
    have hmc : modeCons e.code f = .post := by unfold modeCons; exact if_pos hopf
    rw [hadv, hmc]
    refine ⟨.inl ?_, fun q' hq => ?_⟩
    · simp only [ValidF, Valid]
      exact ⟨hip, hlen, .inr ⟨Mode.noConfusion, (hst.resolve_left fun h => Mode.noConfusion h.1).2⟩⟩
    simp only [langF, lang, hip, if_true] at hq ⊢
    obtain ⟨j, t, h1, h2, hp, hk⟩ := hq
    refine ⟨j + 1, t, Nat.succ_pos j, ?_, ?_, Iter.cons (D.any hopf hokb hc) hp, hk⟩ <;> rw [pred_add_succ hk1] <;> assumption
  · rcases hopf with h1 | h1 <;> rw [h1] <;> decide
  · intro bm _ hnc
    rcases hopf with h1 | h1 <;> rw [h1] at hnc <;> exact absurd hnc (by decide)

/-- a control instruction of kind `k`: only the ε-steps matter, and they lead to the successors of that kind -/
theorem ctl_step (e : Env) (D : Dir e) {r : Ir} {a b B : Nat} {K : Lang} {f : Fiber} {m : Mode} {k : CtlKind}
    (hk : ctlKind (u8 e.code f.ip) = some k)
    (h1 : ∀ g, Succ e.code f g k → (ValidF r a B g .run ∨ AtEnd b B g .run) ∧ low g.stack B = low f.stack B ∧
      ∀ q q', langF D.L r a B K g .run q q' → langF D.L r a B K f m q q') : StepOK e D r a b B K f m := by
  have hop := isCtl_of_kind hk
  refine ⟨fun g hg _ => h1 g (estep_of_kind hg hk), ?_, ?_, (ctl_facts hop).2.2.1, ?_⟩
  · intro g stop hg _
    exact absurd hg (fun hh => no_astep hh (ctl_facts hop).1)
  · intro bm _ hc
    rw [(ctl_facts hop).2.1] at hc; simp at hc
  · intro bm _ _ hz
    rw [(ctl_facts hop).2.2.2 e bm] at hz; simp at hz

/-- a state inside a sub-segment `x` of `r`: the step property of `x` lifts to `r`.  `K'` is the continuation of `x` inside
    `r`; it may depend on the stack, but only on its lowest `B'` entries (the counters of the enclosing loops). -/
theorem step_lift (e : Env) (D : Dir e) {r x : Ir} {a b a' b' B B' : Nat} {K : Lang} (K' : List Nat → Lang) {f : Fiber} {md : Mode}
    (hK : ∀ s s', low s B' = low s' B' → K' s = K' s') (hB : B ≤ B')
    (lift : ∀ (g : Fiber) (md' : Mode), low g.stack B' = low f.stack B' → (ValidF x a' B' g md' ∨ AtEnd b' B' g md') →
        (ValidF r a B g md' ∨ AtEnd b B g md') ∧ langF D.L r a B K g md' = langF D.L x a' B' (K' g.stack) g md')
    (hv : ValidF x a' B' f md)
    (sub : StepOK e D x a' b' B' (K' f.stack) f md) : StepOK e D r a b B K f md := by
  have hf := (lift f md rfl (.inl hv)).2
  obtain ⟨e1, e2, e3, e4, e5⟩ := sub
  -- in each part both languages are rewritten to those of `x` (`hf`, `l2`, `hK`): what is left is the part of `sub`
  refine ⟨?_, ?_, ?_, e4, ?_⟩
  · intro g hg hmw
    obtain ⟨g1, gl, g2⟩ := e1 g hg hmw
    obtain ⟨l1, l2⟩ := lift g .run gl g1
    rw [hf, l2, hK _ _ gl]; exact ⟨l1, low_mono gl hB, g2⟩
  · intro g stop hg hmw
    obtain ⟨g1, gl, g2⟩ := e2 g stop hg hmw
    obtain ⟨l1, l2⟩ := lift g _ (by rw [gl]) g1
    rw [hf, l2, hK _ f.stack (by rw [gl])]; exact ⟨l1, gl, g2⟩
  · intro bm hc0 hc1 hc2 hc3 hc4
    obtain ⟨g1, g2⟩ := e3 bm hc0 hc1 hc2 hc3 hc4
    obtain ⟨l1, l2⟩ := lift _ _ (by rw [advance_stack]) g1
    rw [hf, l2, hK _ f.stack (by rw [advance_stack])]; exact ⟨l1, g2⟩
  · intro bm hz0 hz1 hz2
    obtain ⟨g1, g2⟩ := e5 bm hz0 hz1 hz2
    obtain ⟨l1, l2⟩ := lift { f with ip := f.ip + 1 } .run rfl g1
    rw [hf, l2]; exact ⟨l1, g2⟩

theorem entry_state {code : Code} {x : Ir} {a' b' : Nat} (hs : Seg code x a' b') (B' : Nat) (g : Fiber) (hip : g.ip = a') (hrc : g.rc = -1)
    (hlen : g.stack.length = B') : ValidF x a' B' g .run ∨ AtEnd b' B' g .run := by
  rcases entry_ok hs B' g.stack hlen with h1 | h1
  · left; simp only [ValidF]; rw [hip, hrc]; exact h1
  · right; exact ⟨by rw [hip, h1], hrc, rfl, hlen⟩

theorem inside_range {code : Code} {x : Ir} {a' b' : Nat} (hs : Seg code x a' b') {B' : Nat} {g : Fiber} {md : Mode}
    (h : ValidF x a' B' g md ∨ AtEnd b' B' g md) : a' ≤ g.ip ∧ g.ip ≤ b' :=
  h.elim (fun h => ⟨(valid_range hs h).1, Nat.le_of_lt (valid_range hs h).2.1⟩) fun h => ⟨h.1 ▸ hs.le, Nat.le_of_eq h.1⟩

theorem seg_step (e : Env) (D : Dir e) {r : Ir} {a b : Nat} (hs : Seg e.code r a b) :
    ∀ (B : Nat) (K : Lang) (f : Fiber) (md : Mode), ValidF r a B f md → StepOK e D r a b B K f md := by
  -- `oᵢ`: the opcode / operand premises of the `Seg` constructor in its order, `sᵢ`: its sub-segments
  induction hs with
  | @leaf r a hc =>
    intro B K f md hst
    exact leaf_step e D r a B K f md hc hst
  | @jump a lo hi g h1 h2 h3 h4 =>
    intro B K f md hst
    exact jump_step e D a B lo hi g K f md h1 h2 h3 h4 hst
  | eps =>
    intro B K f md hst
    simp only [ValidF, Valid] at hst
  | @cat x y a m b s1 s2 ih1 ih2 =>
    intro B K f md hst
    obtain rfl : m = a + clen x := s1.len
    simp only [ValidF, Valid] at hst
    rcases hst with hst | hst
    · -- inside x: the continuation is the entry language of y (evaluated on the stack below the depth of the segment)
      refine step_lift e D (fun s => lang D.L y (a + clen x) B K (a + clen x) (-1) (low s B) .run)
        (fun s s' hh => by simp only [hh]) (Nat.le_refl _) ?_ hst (ih1 B _ f md hst)
      intro g md' _ hg
      rcases hg with hg | hg
      · have r := (valid_range s1 hg).2.1
        exact ⟨.inl (.inl hg), lang_cat_fst (Nat.le_of_lt r) fun h => absurd h (Nat.ne_of_lt r)⟩
      · obtain ⟨g1, g2, rfl, g4⟩ := hg
        exact ⟨(entry_state s2 B g g1 g2 g4).imp .inr id, lang_cat_fst (Nat.le_of_eq g1) fun _ => ⟨g2, rfl, g4⟩⟩
    · exact step_lift e D (fun _ => K) (fun _ _ _ => rfl) (Nat.le_refl _)
        (fun g md' _ hg => ⟨hg.imp .inr id, lang_cat_snd (inside_range s2 hg).1⟩) hst (ih2 B K f md hst)
  | @star x a m g o1 o2 s1 o3 o4 ih =>
    intro B K ⟨ip, st, rc⟩ md hst
    obtain rfl : m = a + 4 + clen x := by have := s1.len; omega
    simp only [ValidF, Valid] at hst
    have hlb := fun rc s md => lang_end D.L (Seg.star (g := g) o1 o2 s1 o3 o4) B K rc s md
    have liftx : ∀ (g' : Fiber) (md' : Mode), (ValidF x (a + 4) B g' md' ∨ AtEnd (a + 4 + clen x) B g' md') →
        (ValidF (.star x g) a B g' md' ∨ AtEnd (a + 4 + clen x + 3) B g' md') ∧
          langF D.L (.star x g) a B K g' md' = langF D.L x (a + 4) B (Then D.L (.star x g) K) g' md' := fun g' md' hg =>
      have r := inside_range s1 hg
      ⟨.inl (.inr hg), lang_star_in r.1 r.2⟩
    rcases hst with ⟨rfl, rfl, rfl, hlen⟩ | hst | ⟨rfl, rfl, rfl, hlen⟩
    · refine ctl_step e D (k := .split) (ctlKind_of o1 rfl rfl) ?_
      rintro g' (rfl | rfl)
      · obtain ⟨l1, l2⟩ := liftx ⟨ip + 4, st, -1⟩ .run (entry_state s1 B _ rfl rfl hlen)
        refine ⟨l1, rfl, fun q q' hq => ?_⟩
        rw [l2] at hq
        obtain ⟨t, ht, t2, ht2, hk2⟩ := lang_entry _ s1 B _ st q q' hq
        simp only [langF]; rw [lang_star_at]
        exact ⟨t2, .starStep ht ht2, hk2⟩
      · -- `o2` given as a term makes the unifier unfold `addOff` against the projection of the record (slow); so, here and below:
        refine ⟨.inr ⟨by simp only; exact o2, rfl, rfl, hlen⟩, rfl, fun q q' hq => ?_⟩
        simp only [langF] at hq ⊢
        rw [o2, hlb] at hq
        rw [lang_star_at]
        exact ⟨q, .starNil, hq⟩
    · exact step_lift e D (fun _ => Then D.L (.star x g) K) (fun _ _ _ => rfl) (Nat.le_refl _) (fun g' md' _ hg => liftx g' md' hg) hst
        (ih B _ _ md hst)
    · refine ctl_step e D (k := .jump) (by rw [o3]; rfl) ?_
      rintro g' rfl
      refine ⟨.inl (.inl ⟨by simp only; exact o4, rfl, rfl, hlen⟩), rfl, fun q q' hq => ?_⟩
      simp only [langF] at hq ⊢
      rw [o4, lang_star_at] at hq
      rw [lang_star_in (Nat.le_add_right _ _) (Nat.le_refl _), lang_end _ s1]
      exact hq
  | @plus x a m g s1 hlt o1 o2 ih =>
    intro B K ⟨ip, st, rc⟩ md hst
    obtain rfl : m = a + clen x := s1.len
    have hne : clen x ≠ 0 := by omega
    simp only [ValidF, Valid] at hst
    have sp := Seg.plus (g := g) s1 hlt o1 o2
    -- the continuation of the body is named opaquely: `rw` with the equations below then sees a variable, and `hPK` opens it only where its shape matters
    obtain ⟨PK, hPK⟩ : ∃ PK : Lang, PK = fun q q' => K q q' ∨ ∃ t, IrM D.L (.plus x g) q t ∧ K t q' := ⟨_, rfl⟩
    have hlm : ∀ rc s md, lang D.L (.plus x g) a B K (a + clen x) rc s md = PK := by
      intro rc s md; rw [lang_plus_in hne (Nat.le_refl _), lang_end _ s1, hPK]
    have liftx : ∀ (g' : Fiber) (md' : Mode), (ValidF x a B g' md' ∨ AtEnd (a + clen x) B g' md') →
        (ValidF (.plus x g) a B g' md' ∨ AtEnd (a + clen x + 4) B g' md') ∧
          langF D.L (.plus x g) a B K g' md' = langF D.L x a B PK g' md' := by
      intro g' md' hg
      rw [hPK]
      exact ⟨.inl (hg.imp id fun h1 => ⟨by omega, h1⟩), lang_plus_in hne (inside_range s1 hg).2⟩
    rcases hst with hst | ⟨_, rfl, rfl, rfl, hlen⟩
    · exact step_lift e D (fun _ => PK) (fun _ _ _ => rfl) (Nat.le_refl _) (fun g' md' _ hg => liftx g' md' hg) hst
        (ih B PK _ md hst)
    · refine ctl_step e D (k := .split) (ctlKind_of o1 rfl rfl) ?_
      rintro g' (rfl | rfl)
      · refine ⟨.inr ⟨rfl, rfl, rfl, hlen⟩, rfl, fun q q' hq => ?_⟩
        simp only [langF] at hq ⊢
        rw [lang_end _ sp] at hq
        rw [hlm, hPK]
        exact .inl hq
      · -- back at the entry of the `plus`: what is accepted there is a match of the `plus`, then `K`
        refine ⟨entry_state sp B _ (by simp only; exact o2) rfl hlen, rfl, fun q q' hq => ?_⟩
        simp only [langF] at hq ⊢
        rw [o2] at hq
        rw [hlm, hPK]
        exact .inr (lang_entry _ sp B K st q q' hq)
  | @plusNil x a g s1 ih =>
    intro B K f md hst
    have h0 : clen x = 0 := by have := s1.len; omega
    simp only [ValidF, Valid] at hst
    rcases hst with hst | ⟨hp, _⟩
    · have := valid_range s1 hst; omega
    · omega
  | @opt x a m g o1 o2 s1 ih =>
    intro B K ⟨ip, st, rc⟩ md hst
    simp only [ValidF, Valid] at hst
    have liftx : ∀ (g' : Fiber) (md' : Mode), (ValidF x (a + 4) B g' md' ∨ AtEnd m B g' md') →
        (ValidF (.opt x g) a B g' md' ∨ AtEnd m B g' md') ∧ langF D.L (.opt x g) a B K g' md' = langF D.L x (a + 4) B K g' md' :=
      fun g' md' hg => ⟨hg.imp .inr id, lang_opt_in (inside_range s1 hg).1⟩
    rcases hst with ⟨rfl, rfl, rfl, hlen⟩ | hst
    · refine ctl_step e D (k := .split) (ctlKind_of o1 rfl rfl) ?_
      rintro g' (rfl | rfl)
      · obtain ⟨l1, l2⟩ := liftx ⟨ip + 4, st, -1⟩ .run (entry_state s1 B _ rfl rfl hlen)
        refine ⟨l1, rfl, fun q q' hq => ?_⟩
        rw [l2] at hq
        obtain ⟨t, ht, hk⟩ := lang_entry _ s1 B K st q q' hq
        simp only [langF]; rw [lang_opt_at]
        exact ⟨t, .optTake ht, hk⟩
      · refine ⟨.inr ⟨by simp only; exact o2, rfl, rfl, hlen⟩, rfl, fun q q' hq => ?_⟩
        simp only [langF] at hq ⊢
        rw [o2, lang_end _ (Seg.opt (g := g) o1 o2 s1) B K] at hq
        rw [lang_opt_at]
        exact ⟨q, .optSkip, hq⟩
    · exact step_lift e D (fun _ => K) (fun _ _ _ => rfl) (Nat.le_refl _) (fun g' md' _ hg => liftx g' md' hg) hst
        (ih B K _ md hst)
  | @alt x y a m b o1 o2 s1 o3 o4 s2 ih1 ih2 =>
    intro B K ⟨ip, st, rc⟩ md hst
    obtain rfl : m = a + 4 + clen x := by have := s1.len; omega
    simp only [ValidF, Valid] at hst
    have hla : ∀ rc s md, lang D.L (.alt x y) a B K a rc s md = fun q q' =>
        lang D.L x (a + 4) B K (a + 4) (-1) s .run q q' ∨
          lang D.L y (a + 4 + clen x + 3) B K (a + 4 + clen x + 3) (-1) s .run q q' := by
      intro rc s md; simp only [lang, if_true]
    have liftx : ∀ (g : Fiber) (md' : Mode), (ValidF x (a + 4) B g md' ∨ AtEnd (a + 4 + clen x) B g md') →
        (ValidF (.alt x y) a B g md' ∨ AtEnd b B g md') ∧ langF D.L (.alt x y) a B K g md' = langF D.L x (a + 4) B K g md' := by
      intro g md' hg
      have r := inside_range s1 hg
      exact ⟨.inl (.inr (hg.imp id .inl)), lang_alt_fst r.1 r.2⟩
    have lifty : ∀ (g : Fiber) (md' : Mode), (ValidF y (a + 4 + clen x + 3) B g md' ∨ AtEnd b B g md') →
        (ValidF (.alt x y) a B g md' ∨ AtEnd b B g md') ∧
          langF D.L (.alt x y) a B K g md' = langF D.L y (a + 4 + clen x + 3) B K g md' := by
      intro g md' hg
      exact ⟨hg.imp (fun h1 => .inr (.inr (.inr h1))) id, lang_alt_snd (inside_range s2 hg).1⟩
    rcases hst with ⟨rfl, rfl, rfl, hlen⟩ | hst | ⟨rfl, rfl, rfl, hlen⟩ | hst
    · refine ctl_step e D (k := .split) (by rw [o1]; rfl) ?_
      rintro g (rfl | rfl)
      · obtain ⟨l1, l2⟩ := liftx ⟨ip + 4, st, -1⟩ .run (entry_state s1 B _ rfl rfl hlen)
        refine ⟨l1, rfl, fun q q' hq => ?_⟩
        rw [l2] at hq
        simp only [langF]; rw [hla]
        exact .inl hq
      · obtain ⟨l1, l2⟩ := lifty ⟨_, st, -1⟩ .run (entry_state s2 B _ (by simp only; exact o2) rfl hlen)
        refine ⟨l1, rfl, fun q q' hq => ?_⟩
        rw [l2] at hq
        simp only [langF] at hq ⊢
        rw [hla]
        rw [o2] at hq
        exact .inr hq
    · exact step_lift e D (fun _ => K) (fun _ _ _ => rfl) (Nat.le_refl _) (fun g' md' _ hg => liftx g' md' hg) hst (ih1 B K _ md hst)
    · refine ctl_step e D (k := .jump) (by rw [o3]; rfl) ?_
      rintro g rfl
      refine ⟨.inr ⟨by simp only; exact o4, rfl, rfl, hlen⟩, rfl, fun q q' hq => ?_⟩
      simp only [langF] at hq ⊢
      rw [o4, lang_end _ (Seg.alt o1 o2 s1 o3 o4 s2) B K] at hq
      rw [lang_alt_fst (Nat.le_add_right _ _) (Nat.le_refl _), lang_end _ s1]
      exact hq
    · exact step_lift e D (fun _ => K) (fun _ _ _ => rfl) (Nat.le_refl _) (fun g' md' _ hg => lifty g' md' hg) hst (ih2 B K _ md hst)
  | @loop x a m lo hi g o1 o2 o3 s1 o4 o5 o6 o7 hlh hhi ih =>
    intro B K ⟨ip, st, rc⟩ md hst
    obtain rfl : m = a + 9 + clen x := by have := s1.len; omega
    simp only [ValidF, Valid] at hst
    let RK (l u : Nat) : Lang := Then D.L (.loop x l u g) K
    have hlm : ∀ rc s md, lang D.L (.loop x lo hi g) a B K (a + 9 + clen x) rc s md =
        RK (lo - (cntAt s B + 1)) (hi - (cntAt s B + 1)) := by
      intro rc s md; rw [lang_loop_in (Nat.le_add_right _ _) (Nat.le_refl _), lang_end _ s1]
    have hlb := fun rc s md => lang_end D.L (Seg.loop (g := g) o1 o2 o3 s1 o4 o5 o6 o7 hlh hhi) B K rc s md
    have liftx : ∀ (g' : Fiber) (md' : Mode), cntAt g'.stack B < hi →
        (ValidF x (a + 9) (B + 1) g' md' ∨ AtEnd (a + 9 + clen x) (B + 1) g' md') →
        (ValidF (.loop x lo hi g) a B g' md' ∨ AtEnd (a + 9 + clen x + 9) B g' md') ∧
        langF D.L (.loop x lo hi g) a B K g' md' =
          langF D.L x (a + 9) (B + 1) (RK (lo - (cntAt g'.stack B + 1)) (hi - (cntAt g'.stack B + 1))) g' md' := fun g' md' hc hg =>
      have r := inside_range s1 hg
      ⟨.inl (.inr (hg.imp (⟨·, hc⟩) (⟨·, hc⟩))), lang_loop_in r.1 r.2⟩
    -- entering the body when `c < hi` iterations are complete: one more, then `lo-(c+1) .. hi-(c+1)`
    have enter : ∀ (s : List Nat) (c : Nat), s.length = B + 1 → cntAt s B = c → c < hi →
        (ValidF (.loop x lo hi g) a B ⟨a + 9, s, -1⟩ .run ∨ AtEnd (a + 9 + clen x + 9) B ⟨a + 9, s, -1⟩ .run) ∧
        ∀ q q', lang D.L (.loop x lo hi g) a B K (a + 9) (-1) s .run q q' → RK (lo - c) (hi - c) q q' := by
      intro s c g3 g4 hc
      obtain ⟨l1, l2⟩ := liftx ⟨a + 9, s, -1⟩ .run (g4 ▸ hc) (entry_state s1 (B + 1) _ rfl rfl g3)
      refine ⟨l1, fun q q' hq => ?_⟩
      rw [show lang D.L (.loop x lo hi g) a B K (a + 9) (-1) s .run = _ from l2, g4] at hq
      obtain ⟨t, ht, t2, ht2, hk2⟩ := lang_entry _ s1 (B + 1) _ s q q' hq
      exact ⟨t2, loop_enter hc ht ht2, hk2⟩
    rcases hst with ⟨rfl, rfl, rfl, hlen⟩ | ⟨hst, hcnt⟩ | ⟨⟨rfl, rfl, rfl, hlen⟩, hcnt⟩
    · refine ctl_step e D (k := .repStart) (ctlKind_of o1 rfl rfl) ?_
      rintro g' (rfl | ⟨h0, rfl⟩)
      · obtain ⟨l1, l2⟩ := enter (0 :: st) 0 (by simp only [List.length_cons, hlen]) (cntAt_top (by simp only [List.length_cons, hlen])) hhi
        refine ⟨l1, low_cons 0 (Nat.le_of_eq hlen.symm), fun q q' hq => ?_⟩
        simp only [langF]; rw [lang_loop_at]
        exact l2 q q' hq
      · rw [o2] at h0
        refine ⟨.inr ⟨by simp only; exact o3, rfl, rfl, hlen⟩, rfl, fun q q' hq => ?_⟩
        simp only [langF] at hq ⊢
        rw [o3, hlb] at hq
        rw [lang_loop_at, h0]
        exact ⟨q, .loopStop, hq⟩
    · refine step_lift e D (fun s => RK (lo - (cntAt s B + 1)) (hi - (cntAt s B + 1)))
        (fun s s' hh => by unfold cntAt; rw [hh]) (Nat.le_succ _) ?_ hst (ih (B + 1) _ _ md hst)
      intro g' md' hl hg
      have hc : cntAt g'.stack B = cntAt st B := by unfold cntAt; rw [hl]
      exact liftx g' md' (hc ▸ hcnt) hg
    · -- REPEAT_END: the counter is on top of the stack
      have htop : st.headD 0 = cntAt st B := (cntAt_top hlen).symm
      have hpos : B < st.length := by omega
      refine ctl_step e D (k := .repEnd) (ctlKind_of o4 rfl rfl) ?_
      rintro g' (⟨hc, rfl⟩ | ⟨hc, rfl⟩)
      · simp only [o5, o6, htop] at hc
        simp only [htop, o7]
        have hlen' : ((cntAt st B + 1) :: st.tail).length = B + 1 := by rw [List.length_cons, List.length_tail, hlen]; rfl
        obtain ⟨l1, l2⟩ := enter _ (cntAt st B + 1) hlen' (cntAt_top hlen') (hc.elim (fun h => Nat.lt_of_lt_of_le h hlh) id)
        refine ⟨l1, low_set_head _ hpos, fun q q' hq => ?_⟩
        simp only [langF]; rw [hlm]
        exact l2 q q' hq
      · simp only [o5, htop] at hc
        refine ⟨.inr ⟨rfl, rfl, rfl, by rw [List.length_tail, hlen]; rfl⟩, low_tail hpos, fun q q' hq => ?_⟩
        simp only [langF] at hq ⊢
        rw [hlb] at hq
        rw [hlm, Nat.sub_eq_zero_of_le (Nat.le_of_not_lt hc)]
        exact ⟨q, .loopStop, hq⟩

def Keps : Lang := fun q q' => q = q'

theorem valid_not_match (e : Env) (D : Dir e) {r : Ir} {n : Nat} (hs : Seg e.code r 0 n) {f : Fiber} {m : Mode}
    (hst : ValidF r 0 0 f m) : u8 e.code f.ip ≠ OP_MATCH := by
  obtain ⟨_, _, _, e4, _⟩ := seg_step e D hs 0 Keps f m hst
  exact e4

theorem sstar_lang (e : Env) (D : Dir e) {r : Ir} {n : Nat} (hs : Seg e.code r 0 n) (hmatch : u8 e.code n = OP_MATCH)
    {f g : Fiber} {m' : Mode} (hss : SStar e.code f g m') : ∀ (m : Mode), m ≠ .wait → (m = .post → isAnyOp (u8 e.code f.ip)) →
    (ValidF r 0 0 f m ∨ AtEnd n 0 f m) →
    (ValidF r 0 0 g m' ∨ AtEnd n 0 g m') ∧
      ∀ q q', langF D.L r 0 0 Keps g m' q q' → langF D.L r 0 0 Keps f m q q' := by
  induction hss with
  | @refl f hn =>
    intro m hw hp hv
    have hm : m = .run := by
      cases m with
      | run => rfl
      | wait => exact absurd rfl hw
      | post => exact absurd (hp rfl) hn
    subst hm
    exact ⟨hv, fun q q' hq => hq⟩
  | @eps f g1 h1 m1 hstep _ ih =>
    intro m hmw _ hv
    rcases hv with hv | hv
    · obtain ⟨g1v, _, g1l⟩ := (seg_step e D hs 0 Keps f m hv).1 g1 hstep hmw
      obtain ⟨r1, r2⟩ := ih .run Mode.noConfusion (fun h => Mode.noConfusion h) g1v
      exact ⟨r1, fun q q' hq => g1l q q' (r2 q q' hq)⟩
    · exact absurd hstep (fun hh => no_estep_match hh (by rw [hv.1]; exact hmatch))
  | @cont f g1 h1 m1 hstep _ ih =>
    intro m hmw _ hv
    rcases hv with hv | hv
    · obtain ⟨g1v, _, g1l⟩ := (seg_step e D hs 0 Keps f m hv).2.1 g1 false hstep hmw
      obtain ⟨r1, r2⟩ := ih .run Mode.noConfusion (fun h => Mode.noConfusion h) g1v
      exact ⟨r1, fun q q' hq => g1l q q' (r2 q q' hq)⟩
    · exact absurd hstep (fun hh => no_astep hh (match_not_any (by rw [hv.1]; exact hmatch)))
  | @spin f g1 hstep =>
    intro m hmw _ hv
    rcases hv with hv | hv
    · obtain ⟨g1v, _, g1l⟩ := (seg_step e D hs 0 Keps f m hv).2.1 g1 true hstep hmw
      exact ⟨g1v, g1l⟩
    · exact absurd hstep (fun hh => no_astep hh (match_not_any (by rw [hv.1]; exact hmatch)))

/-- invariant of the abstract machine on a whole program, for a run that enters the code at any valid state (verification
    starts at the atom's instruction): whatever can still be accepted from a reachable state is accepted by the entry state
    from the start position of the run (in scan mode: from SOME start position `s0`) -/
theorem reach_lang_at (e : Env) (D : Dir e) {r : Ir} {n : Nat} (hs : Seg e.code r 0 n) (hmatch : u8 e.code n = OP_MATCH)
    (hstart : ValidF r 0 0 { ip := e.entry } .run ∨ AtEnd n 0 { ip := e.entry } .run) {f : Fiber} {m : Mode} {bm : Nat} (hr : Reach e f m bm) :
    (ValidF r 0 0 f m ∨ AtEnd n 0 f m) ∧ D.ok bm ∧
      ∃ s0, s0 ≤ bm ∧ (e.fl.scan = false → s0 = 0) ∧
        ∀ q', langF D.L r 0 0 Keps f m bm q' →
          lang D.L r 0 0 Keps e.entry (-1) [] .run s0 q' := by
  induction hr with
  | start =>
    exact ⟨hstart, D.ok0, 0, Nat.le_refl _, fun _ => rfl, fun q' hq => hq⟩
  | scanStart bm hsc hbm =>
    exact ⟨hstart, D.okScan hsc hbm, bm, Nat.le_refl _, fun hh => by rw [hsc] at hh; simp at hh, fun q' hq => hq⟩
  | @sync f g m m' bm hrf hmw hss ih =>
    obtain ⟨hpos, hb, s0, h1, h3, hl⟩ := ih
    obtain ⟨r1, r2⟩ := sstar_lang e D hs hmatch hss m hmw hrf.post hpos
    exact ⟨r1, hb, s0, h1, h3, fun q' hq => hl q' (r2 _ q' hq)⟩
  | @zw f bm _ hnc hnm hz ih =>
    obtain ⟨hpos, hb, s0, h1, h3, hl⟩ := ih
    rcases hpos with hst | hend
    · obtain ⟨_, _, _, _, e5⟩ := seg_step e D hs 0 Keps f .run hst
      obtain ⟨g1, g2⟩ := e5 bm hb hnc hz
      exact ⟨g1, hb, s0, h1, h3, fun q' hq => hl q' (g2 q' hq)⟩
    · exact absurd (by rw [hend.1]; exact hmatch) hnm
  | @cons f m bm _ hc hok hany hnp ih =>
    obtain ⟨hpos, hb, s0, h1, h3, hl⟩ := ih
    rcases hpos with hst | hend
    · obtain ⟨_, _, e3, _, _⟩ := seg_step e D hs 0 Keps f m hst
      obtain ⟨g1, g2⟩ := e3 bm hb hc hok hany hnp
      exact ⟨g1, D.okCons hb hok, s0, by omega, h3, fun q' hq => hl q' (g2 q' hq)⟩
    · exfalso
      rw [hend.1, hmatch] at hc
      exact absurd hc (by decide)

/-- entry at any valid state (for Lemmas/ReAtomEntry.lean) -/
theorem match_lang_at (e : Env) (D : Dir e) {r : Ir} {n : Nat} (hs : Seg e.code r 0 n) (hmatch : u8 e.code n = OP_MATCH)
    (hstart : ValidF r 0 0 { ip := e.entry } .run ∨ AtEnd n 0 { ip := e.entry } .run)
    {f : Fiber} {m : Mode} {L : Nat} (hr : Reach e f m L) (hm : u8 e.code f.ip = OP_MATCH) :
    ∃ s0, s0 ≤ L ∧ D.ok L ∧ (e.fl.scan = false → s0 = 0) ∧ lang D.L r 0 0 Keps e.entry (-1) [] .run s0 L := by
  obtain ⟨hpos, hbd, s0, h1, h3, hl⟩ := reach_lang_at e D hs hmatch hstart hr
  rcases hpos with hst | hend
  · exact absurd hm (valid_not_match e D hs hst)
  · have hk : langF D.L r 0 0 Keps f m L L := by
      simp only [langF]; rw [hend.1, lang_end _ hs]; rfl
    exact ⟨s0, h1, hbd, h3, hl _ hk⟩

theorem match_sound (e : Env) (D : Dir e) {r : Ir} {n : Nat} (hs : Seg e.code r 0 n) (hmatch : u8 e.code n = OP_MATCH)
    (hentry : e.entry = 0) {f : Fiber} {m : Mode} {L : Nat} (hr : Reach e f m L) (hm : u8 e.code f.ip = OP_MATCH) :
    ∃ s0, s0 ≤ L ∧ D.ok L ∧ (e.fl.scan = false → s0 = 0) ∧ IrM D.L r s0 L := by
  obtain ⟨s0, h1, hbd, h3, hl⟩ := match_lang_at e D hs hmatch (entry_state hs 0 _ hentry rfl rfl) hr hm
  rw [hentry] at hl
  obtain ⟨t, ht, hkt⟩ := lang_entry _ hs 0 Keps [] _ _ hl
  exact ⟨s0, h1, hbd, h3, (hkt : t = L) ▸ ht⟩

end YaraModel.ReEmit
