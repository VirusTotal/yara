/- Aho-Corasick construction, the trie: state and pool accessors, the trie invariant `Trie`, match-list segments `ChainSeg`,
   and `yr_ac_add_string` (`createState`, `walk`; `addAtom` = `walk`, then `pushMatch`) keeping the trie and the per-state match lists (`P1`).
   The invariants, one per pass: `P1` after `yr_ac_add_string` (here); `I2` = `MS` (match lists) + failure links during
   `_yr_ac_create_failure_links`, `I3` = `MF` (final match lists) + `FailInv` after it and through `_yr_ac_optimize_failure_links`
   (AcBuildFail); `I4` during `_yr_ac_build_transition_table` (AcBuildPack). -/
import YaraModel.Base.List
import YaraModel.Model.AcBuild
import YaraModel.Model.AcScan
namespace YaraModel.AC.Build
open YaraModel.Text

theorem getD_set {α : Type} (a : Array α) (i j : Nat) (v d : α) :
    (a.setIfInBounds i v).getD j d = if j = i ∧ i < a.size then v else a.getD j d := by
  simp only [Array.getD_eq_getD_getElem?]
  by_cases h : i = j
  · subst h
    by_cases h2 : i < a.size
    · simp [h2]
    · simp [h2]
  · have : ¬ (j = i ∧ i < a.size) := fun hh => h hh.1.symm
    simp [h, this]

theorem getD_set_of_lt {α : Type} (a : Array α) {i : Nat} (j : Nat) (v d : α) (h : i < a.size) :
    (a.setIfInBounds i v).getD j d = if j = i then v else a.getD j d := by
  rw [getD_set]; simp [h]

theorem setIfInBounds_getD {α : Type} (a : Array α) (i : Nat) (d : α) : a.setIfInBounds i (a.getD i d) = a := by
  apply Array.ext_getElem?
  intro j
  by_cases hij : i = j
  · subst hij
    by_cases h2 : i < a.size
    · simp [h2]
    · simp [h2]
  · simp [hij]

theorem st_modify (A : Auto) (i j : Nat) (f : State → State) :
    (A.modify i f).st j = if j = i ∧ i < A.states.size then f (A.st i) else A.st j :=
  getD_set A.states i j (f (A.st i)) default

theorem st_modify_ne (A : Auto) (i j : Nat) (f : State → State) (h : j ≠ i) : (A.modify i f).st j = A.st j := by
  rw [st_modify]; simp [h]

theorem st_modify_self (A : Auto) (i : Nat) (f : State → State) (h : i < A.states.size) :
    (A.modify i f).st i = f (A.st i) := by
  rw [st_modify]; simp [h]

@[simp] theorem size_modify (A : Auto) (i : Nat) (f : State → State) : (A.modify i f).states.size = A.states.size := by
  simp [Auto.modify]

@[simp] theorem pool_modify (A : Auto) (i : Nat) (f : State → State) : (A.modify i f).pool = A.pool := rfl

theorem st_default (A : Auto) (i : Nat) (h : A.states.size ≤ i) : A.st i = default := by
  unfold Auto.st
  simp [Array.getElem?_eq_none h]

theorem modify_noop (A : Auto) (i : Nat) (f : State → State) (h : f (A.st i) = A.st i) : A.modify i f = A := by
  unfold Auto.modify
  rw [h]
  show ({ A with states := A.states.setIfInBounds i (A.states.getD i default) } : Auto) = A
  rw [setIfInBounds_getD]

/-- the fields of a state that are final once the trie is built: no pass before the packing writes them -/
def shape (s : State) : UInt8 × Nat × List Nat × Bytes × Nat := (s.input, s.depth, s.children, s.path, s.slot)

theorem shape_input {a b : State} (h : shape a = shape b) : a.input = b.input := (Prod.mk.inj h).1
theorem shape_depth {a b : State} (h : shape a = shape b) : a.depth = b.depth := (Prod.mk.inj (Prod.mk.inj h).2).1
theorem shape_children {a b : State} (h : shape a = shape b) : a.children = b.children :=
  (Prod.mk.inj (Prod.mk.inj (Prod.mk.inj h).2).2).1
theorem shape_path {a b : State} (h : shape a = shape b) : a.path = b.path :=
  (Prod.mk.inj (Prod.mk.inj (Prod.mk.inj (Prod.mk.inj h).2).2).2).1
theorem shape_slot {a b : State} (h : shape a = shape b) : a.slot = b.slot :=
  (Prod.mk.inj (Prod.mk.inj (Prod.mk.inj (Prod.mk.inj h).2).2).2).2

theorem proj_modify {β : Type} (g : State → β) (A : Auto) (ch : Nat) (f : State → State) (hf : ∀ x : State, g (f x) = g x) (i : Nat) :
    g ((A.modify ch f).st i) = g (A.st i) := by
  rw [st_modify]
  split
  · rename_i e; rw [e.1]; exact hf _
  · rfl

/-- `B` is `A` up to failure links, match references, slots and the pool (`refl`, `trans`, `same_modify`: AcBuildFail) -/
structure Same (A B : Auto) : Prop where
  size : B.states.size = A.states.size
  shape : ∀ i, shape (B.st i) = shape (A.st i)

theorem Same.input {A B : Auto} (h : Same A B) (i : Nat) : (B.st i).input = (A.st i).input := shape_input (h.2 i)
theorem Same.depth {A B : Auto} (h : Same A B) (i : Nat) : (B.st i).depth = (A.st i).depth := shape_depth (h.2 i)
theorem Same.children {A B : Auto} (h : Same A B) (i : Nat) : (B.st i).children = (A.st i).children := shape_children (h.2 i)
theorem Same.path {A B : Auto} (h : Same A B) (i : Nat) : (B.st i).path = (A.st i).path := shape_path (h.2 i)
theorem Same.slot {A B : Auto} (h : Same A B) (i : Nat) : (B.st i).slot = (A.st i).slot := shape_slot (h.2 i)

/-- the states form a trie and the ghost `path` of each state is the byte string leading to it; children have larger
    numbers (creation order). Kept by `yr_ac_add_string`, and no later pass touches these fields. -/
structure Trie (A : Auto) : Prop where
  size_pos : 0 < A.states.size
  root_path : (A.st 0).path = []
  child_lt : ∀ s, s < A.states.size → ∀ c ∈ (A.st s).children, s < c ∧ c < A.states.size
  child_path : ∀ s, s < A.states.size → ∀ c ∈ (A.st s).children, (A.st c).path = (A.st s).path ++ [(A.st c).input]
  depth_eq : ∀ s, s < A.states.size → (A.st s).depth = (A.st s).path.length
  inputs_nodup : ∀ s, s < A.states.size → (A.st s).children.Pairwise (fun a b => (A.st a).input ≠ (A.st b).input)
  has_parent : ∀ c, 0 < c → c < A.states.size → ∃ s, s < A.states.size ∧ c ∈ (A.st s).children
  path_inj : ∀ i j, i < A.states.size → j < A.states.size → (A.st i).path = (A.st j).path → i = j

theorem Trie.congr {A B : Auto} (h : Trie A) (e : Same A B) : Trie B := by
  -- `Trie` reads only the size and the `shape` fields: rewritten to those of `A`, each field of `Trie B` is that of `Trie A`
  cases h
  constructor <;> simp only [e.size, e.input, e.depth, e.children, e.path] <;> assumption

theorem nextState_some {A : Auto} {s n : Nat} {c : UInt8} (h : nextState A s c = some n) :
    n ∈ (A.st s).children ∧ (A.st n).input = c := by
  refine ⟨List.mem_of_find?_eq_some h, ?_⟩
  have := List.find?_some h
  simpa using this

theorem nextState_none {A : Auto} {s : Nat} {c : UInt8} (h : nextState A s c = none) :
    ∀ n ∈ (A.st s).children, (A.st n).input ≠ c := by
  intro n hn
  have := (List.find?_eq_none.mp h) n hn
  simpa using this

theorem nextState_of_child {A : Auto} (hT : Trie A) {s n : Nat} (hs : s < A.states.size) (hn : n ∈ (A.st s).children) :
    nextState A s (A.st n).input = some n := by
  cases h : nextState A s (A.st n).input with
  | none => exact absurd rfl (nextState_none h n hn)
  | some m =>
    obtain ⟨hm, hi⟩ := nextState_some h
    have hp := hT.inputs_nodup s hs
    -- different children have different inputs, whichever comes first in the list
    have := List.Pairwise.forall_of_forall_of_flip (R := fun a b => a ≠ b → (A.st a).input ≠ (A.st b).input)
      (fun _ _ e => absurd rfl e) (hp.imp fun {a b} h (_ : a ≠ b) => h) (hp.imp fun {a b} h (_ : b ≠ a) => h.symm) hm hn
    exact congrArg some (Decidable.byContradiction fun e => this e hi)

theorem Trie.child_of_path {A : Auto} (hT : Trie A) {s j : Nat} {c : UInt8} (hs : s < A.states.size) (hj : j < A.states.size)
    (hp : (A.st j).path = (A.st s).path ++ [c]) : j ∈ (A.st s).children ∧ (A.st j).input = c := by
  have hj0 : 0 < j := by
    rcases Nat.eq_zero_or_pos j with h | h
    · subst h; rw [hT.root_path] at hp; simp at hp
    · exact h
  obtain ⟨p, hp1, hp2⟩ := hT.has_parent j hj0 hj
  have := hT.child_path p hp1 j hp2
  rw [hp] at this
  have h2 := List.append_inj' this rfl
  have hps : s = p := hT.path_inj s p hs hp1 h2.1
  subst hps
  exact ⟨hp2, by simpa using h2.2.symm⟩

def poolNextAt (pool : Array (Nat × Nat × Nat)) (e : Nat) : Nat := (pool.getD e (0, 0, 0)).2.2

theorem poolNext_eq (A : Auto) (i1 : Nat) : poolNext A i1 = poolNextAt A.pool (i1 - 1) := rfl

/-- following `next` from the 1-based reference `r` visits exactly the (0-based) entries `l` and then continues at `tl` -/
def ChainSeg (pool : Array (Nat × Nat × Nat)) : Nat → List Nat → Nat → Prop
  | r, [], tl => r = tl
  | r, e :: l, tl => r = e + 1 ∧ e < pool.size ∧ ChainSeg pool (poolNextAt pool e) l tl

theorem ChainSeg.append_iff {pool : Array (Nat × Nat × Nat)} {r tl : Nat} {l1 l2 : List Nat} :
    ChainSeg pool r (l1 ++ l2) tl ↔ ∃ m, ChainSeg pool r l1 m ∧ ChainSeg pool m l2 tl := by
  induction l1 generalizing r with
  | nil => exact ⟨fun h => ⟨r, rfl, h⟩, fun ⟨m, h1, h2⟩ => (show r = m from h1) ▸ h2⟩
  | cons e l ih =>
    simp only [List.cons_append, ChainSeg, ih]
    exact ⟨fun ⟨a, b, m, c, d⟩ => ⟨m, ⟨a, b, c⟩, d⟩, fun ⟨m, ⟨a, b, c⟩, d⟩ => ⟨a, b, m, c, d⟩⟩

theorem ChainSeg.append {pool : Array (Nat × Nat × Nat)} {r m tl : Nat} {l1 l2 : List Nat}
    (h1 : ChainSeg pool r l1 m) (h2 : ChainSeg pool m l2 tl) : ChainSeg pool r (l1 ++ l2) tl :=
  ChainSeg.append_iff.mpr ⟨m, h1, h2⟩

theorem ChainSeg.split {pool : Array (Nat × Nat × Nat)} {r tl : Nat} {l1 l2 : List Nat} (h : ChainSeg pool r (l1 ++ l2) tl) :
    ∃ m, ChainSeg pool r l1 m ∧ ChainSeg pool m l2 tl :=
  ChainSeg.append_iff.mp h

theorem ChainSeg.congr {pool pool' : Array (Nat × Nat × Nat)} {r tl : Nat} {l : List Nat}
    (h : ChainSeg pool r l tl) (hs : pool.size ≤ pool'.size) (he : ∀ e ∈ l, poolNextAt pool' e = poolNextAt pool e) :
    ChainSeg pool' r l tl := by
  induction l generalizing r with
  | nil => exact h
  | cons e l ih =>
    refine ⟨h.1, Nat.lt_of_lt_of_le h.2.1 hs, ?_⟩
    rw [he e (List.mem_cons_self)]
    exact ih h.2.2 (fun x hx => he x (List.mem_cons_of_mem _ hx))

theorem ChainSeg.nil_of_zero {pool : Array (Nat × Nat × Nat)} {l : List Nat} {tl : Nat} (h : ChainSeg pool 0 l tl) : l = [] := by
  cases l with
  | nil => rfl
  | cons e l => simp only [ChainSeg] at h; omega

theorem ChainSeg.ref_pos {pool : Array (Nat × Nat × Nat)} {r tl e : Nat} {l : List Nat} (h : ChainSeg pool r (e :: l) tl) : r = e + 1 := h.1

theorem mem_ownIdx {atoms : List (Nat × Atom)} {p : Bytes} {e : Nat} :
    e ∈ ownIdx atoms p ↔ ∃ a, atoms[e]? = some a ∧ a.2.bytes = p := by
  unfold ownIdx
  simp only [List.mem_reverse, List.mem_filter, List.mem_range]
  constructor
  · rintro ⟨h1, h2⟩
    cases h : atoms[e]? with
    | none => rw [h] at h2; simp at h2
    | some a => rw [h] at h2; exact ⟨a, rfl, by simpa using h2⟩
  · rintro ⟨a, h1, h2⟩
    refine ⟨?_, by rw [h1]; simp [h2]⟩
    exact (List.getElem?_eq_some_iff.mp h1).1

theorem ownIdx_nodup (atoms : List (Nat × Atom)) (p : Bytes) : (ownIdx atoms p).Nodup := by
  unfold ownIdx
  unfold List.Nodup
  rw [List.pairwise_reverse]
  exact (List.Pairwise.filter _ List.nodup_range).imp (fun h => Ne.symm h)

theorem ownIdx_length_le (atoms : List (Nat × Atom)) (p : Bytes) : (ownIdx atoms p).length ≤ atoms.length := by
  unfold ownIdx
  rw [List.length_reverse]
  exact Nat.le_trans (List.length_filter_le _ _) (by simp)

theorem ownIdx_disjoint {atoms : List (Nat × Atom)} {p q : Bytes} {e : Nat} (h1 : e ∈ ownIdx atoms p) (h2 : e ∈ ownIdx atoms q) : p = q := by
  obtain ⟨a, ha, hp⟩ := mem_ownIdx.mp h1
  obtain ⟨b, hb, hq⟩ := mem_ownIdx.mp h2
  rw [ha] at hb
  cases hb
  rw [← hp, ← hq]

theorem st_push (A : Auto) (ns : State) (j : Nat) :
    ({ A with states := A.states.push ns } : Auto).st j = if j = A.states.size then ns else A.st j := by
  unfold Auto.st
  simp only [Array.getD_eq_getD_getElem?, Array.getElem?_push]
  split <;> rfl

theorem createState_size (A : Auto) (s : Nat) (c : UInt8) : (createState A s c).1.states.size = A.states.size + 1 := by
  simp [createState]

theorem createState_snd (A : Auto) (s : Nat) (c : UInt8) : (createState A s c).2 = A.states.size := rfl

theorem createState_pool (A : Auto) (s : Nat) (c : UInt8) : (createState A s c).1.pool = A.pool := rfl

theorem createState_new (A : Auto) (s : Nat) (c : UInt8) (hs : s < A.states.size) :
    (createState A s c).1.st A.states.size =
      { input := c, depth := (A.st s).depth + 1, path := (A.st s).path ++ [c] } := by
  unfold createState
  rw [st_modify_ne _ _ _ _ (by omega), st_push]
  simp

theorem createState_parent (A : Auto) (s : Nat) (c : UInt8) (hs : s < A.states.size) :
    (createState A s c).1.st s = { A.st s with children := A.states.size :: (A.st s).children } := by
  unfold createState
  rw [st_modify_self _ _ _ (by simp; omega), st_push]
  simp [Nat.ne_of_lt hs]

theorem createState_other (A : Auto) (s : Nat) (c : UInt8) (j : Nat) (h1 : j ≠ A.states.size) (h2 : j ≠ s) :
    (createState A s c).1.st j = A.st j := by
  unfold createState
  rw [st_modify_ne _ _ _ _ h2, st_push]
  simp [h1]

/-- what `createState A s c` does to a state `j` other than the new one -/
structure OldState (A : Auto) (s : Nat) (c : UInt8) (j : Nat) : Prop where
  input : ((createState A s c).1.st j).input = (A.st j).input
  depth : ((createState A s c).1.st j).depth = (A.st j).depth
  path : ((createState A s c).1.st j).path = (A.st j).path
  ref : ((createState A s c).1.st j).matchesRef = (A.st j).matchesRef
  children : ((createState A s c).1.st j).children = if j = s then A.states.size :: (A.st j).children else (A.st j).children

theorem createState_old (A : Auto) (s : Nat) (c : UInt8) (hs : s < A.states.size) (j : Nat) (h1 : j ≠ A.states.size) :
    OldState A s c j := by
  by_cases h2 : j = s
  · subst h2
    constructor <;> rw [createState_parent A j c hs] <;> simp
  · constructor <;> rw [createState_other A s c j h1 h2] <;> simp [h2]

theorem mem_children_lt {A : Auto} {s ch : Nat} (h : ch ∈ (A.st s).children) : s < A.states.size := by
  apply Nat.lt_of_not_le
  intro hle
  rw [st_default A s hle] at h
  cases h

theorem createState_children (A : Auto) (s : Nat) (c : UInt8) (hs : s < A.states.size) (s' ch : Nat) :
    ch ∈ ((createState A s c).1.st s').children ↔ ch ∈ (A.st s').children ∨ (s' = s ∧ ch = A.states.size) := by
  by_cases e : s' = A.states.size
  · rw [e, createState_new A s c hs, st_default A _ (Nat.le_refl _)]
    constructor
    · intro h; cases h
    · rintro (h | ⟨h, _⟩)
      · cases h
      · omega
  · rw [(createState_old A s c hs s' e).children]
    by_cases e2 : s' = s
    · rw [if_pos e2, List.mem_cons]
      exact ⟨fun h => h.elim (fun h => Or.inr ⟨e2, h⟩) Or.inl, fun h => h.elim Or.inr (fun h => Or.inl h.2)⟩
    · rw [if_neg e2]
      exact ⟨Or.inl, fun h => h.elim id (fun h => absurd h.1 e2)⟩

theorem createState_trie {A : Auto} (hT : Trie A) {s : Nat} {c : UInt8} (hs : s < A.states.size)
    (hno : ∀ ch ∈ (A.st s).children, (A.st ch).input ≠ c) : Trie (createState A s c).1 := by
  have hsz := createState_size A s c
  have hnew := createState_new A s c hs
  have hold := createState_old A s c hs
  have hn0 : 0 ≠ A.states.size := Nat.ne_of_lt hT.size_pos
  constructor
  · omega
  · rw [(hold 0 hn0).path]; exact hT.root_path
  · intro s' _ ch hch
    rw [hsz]
    rcases (createState_children A s c hs s' ch).mp hch with h | ⟨rfl, rfl⟩
    · have := hT.child_lt s' (mem_children_lt h) ch h; omega
    · omega
  · intro s' _ ch hch
    rcases (createState_children A s c hs s' ch).mp hch with h | ⟨rfl, rfl⟩
    · have hs'' := mem_children_lt h
      have hlt := hT.child_lt s' hs'' ch h
      rw [(hold ch (by omega)).path, (hold ch (by omega)).input, (hold s' (by omega)).path]
      exact hT.child_path s' hs'' ch h
    · rw [hnew, (hold s' (by omega)).path]
  · intro s' hs'
    rw [hsz] at hs'
    by_cases e : s' = A.states.size
    · rw [e, hnew]; simp [hT.depth_eq s hs]
    · rw [(hold s' e).depth, (hold s' e).path]
      exact hT.depth_eq s' (by omega)
  · intro s' hs'
    rw [hsz] at hs'
    by_cases e : s' = A.states.size
    · rw [e, hnew]; simp
    · have hs'' : s' < A.states.size := by omega
      rw [(hold s' e).children]
      have oldpw : (A.st s').children.Pairwise
          (fun a b => ((createState A s c).1.st a).input ≠ ((createState A s c).1.st b).input) := by
        have hp := hT.inputs_nodup s' hs''
        have hmem : ∀ x ∈ (A.st s').children, x ≠ A.states.size := fun x hx => by
          have := hT.child_lt s' hs'' x hx; omega
        refine List.Pairwise.imp_of_mem ?_ hp
        intro a b ha hb hab
        rw [(hold a (hmem a ha)).input, (hold b (hmem b hb)).input]
        exact hab
      by_cases e2 : s' = s
      · rw [if_pos e2]
        rw [List.pairwise_cons]
        refine ⟨?_, oldpw⟩
        intro b hb
        have hlt := hT.child_lt s' hs'' b hb
        have hne : b ≠ A.states.size := by omega
        rw [hnew, (hold b hne).input]
        rw [e2] at hb
        exact fun h => hno b hb h.symm
      · rw [if_neg e2]; exact oldpw
  · intro ch h0 hch
    rw [hsz] at hch
    by_cases e : ch = A.states.size
    · exact ⟨s, by rw [hsz]; omega, (createState_children A s c hs s ch).mpr (Or.inr ⟨rfl, e⟩)⟩
    · obtain ⟨p, hp1, hp2⟩ := hT.has_parent ch h0 (by omega)
      exact ⟨p, by rw [hsz]; omega, (createState_children A s c hs p ch).mpr (Or.inl hp2)⟩
  · have key : ∀ j, j < A.states.size → (A.st s).path ++ [c] ≠ (A.st j).path := by
      intro j hj h
      have := hT.child_of_path hs hj h.symm
      exact hno j this.1 this.2
    intro i j hi hj hp
    rw [hsz] at hi hj
    by_cases ei : i = A.states.size
    · by_cases ej : j = A.states.size
      · rw [ei, ej]
      · exfalso
        rw [ei, hnew, (hold j ej).path] at hp
        exact key j (by omega) hp
    · by_cases ej : j = A.states.size
      · exfalso
        rw [ej, hnew, (hold i ei).path] at hp
        exact key i (by omega) hp.symm
      · rw [(hold i ei).path, (hold j ej).path] at hp
        exact hT.path_inj i j (by omega) (by omega) hp

/-- `B` is `A` with states added: the old ones keep path and match list, the new ones have no list -/
structure Ext (A B : Auto) : Prop where
  size_le : A.states.size ≤ B.states.size
  pool_eq : B.pool = A.pool
  old : ∀ j, j < A.states.size → (B.st j).path = (A.st j).path ∧ (B.st j).matchesRef = (A.st j).matchesRef
  new : ∀ j, A.states.size ≤ j → (B.st j).matchesRef = 0
  slot0 : (B.st 0).slot = (A.st 0).slot     -- for `P1.root_slot`

theorem Ext.refl (A : Auto) : Ext A A :=
  ⟨Nat.le_refl _, rfl, fun _ _ => ⟨rfl, rfl⟩, fun j hj => by rw [st_default A j hj]; rfl, rfl⟩

theorem Ext.trans {A B C : Auto} (h1 : Ext A B) (h2 : Ext B C) : Ext A C := by
  refine ⟨Nat.le_trans h1.size_le h2.size_le, by rw [h2.pool_eq, h1.pool_eq], ?_, ?_, h2.slot0.trans h1.slot0⟩
  · intro j hj
    have a := h1.old j hj
    have b := h2.old j (Nat.lt_of_lt_of_le hj h1.size_le)
    exact ⟨b.1.trans a.1, b.2.trans a.2⟩
  · intro j hj
    by_cases h : j < B.states.size
    · rw [(h2.old j h).2]; exact h1.new j hj
    · exact h2.new j (by omega)

theorem createState_ext (A : Auto) (s : Nat) (c : UInt8) (hs : s < A.states.size) : Ext A (createState A s c).1 := by
  refine ⟨by rw [createState_size]; omega, rfl, ?_, ?_, ?_⟩
  · intro j hj
    have := createState_old A s c hs j (by omega)
    exact ⟨this.path, this.ref⟩
  · intro j hj
    by_cases e : j = A.states.size
    · rw [e, createState_new A s c hs]
    · rw [createState_other A s c j e (by omega), st_default A j hj]; rfl
  · by_cases e : 0 = s
    · subst e; rw [createState_parent A 0 c hs]
    · rw [createState_other A s c 0 (by omega) e]

theorem walk_spec {A : Auto} (hT : Trie A) {s : Nat} (hs : s < A.states.size) (bytes : Bytes) :
    Trie (walk A s bytes).1 ∧ Ext A (walk A s bytes).1 ∧ (walk A s bytes).2 < (walk A s bytes).1.states.size ∧
    ((walk A s bytes).1.st (walk A s bytes).2).path = (A.st s).path ++ bytes := by
  induction bytes generalizing A s with
  | nil => exact ⟨hT, Ext.refl A, hs, by simp [walk]⟩
  | cons c rest ih =>
    unfold walk
    cases h : nextState A s c with
    | some n =>
      obtain ⟨hn, hi⟩ := nextState_some h
      have hlt := hT.child_lt s hs n hn
      have := ih hT hlt.2
      refine ⟨this.1, this.2.1, this.2.2.1, ?_⟩
      rw [this.2.2.2, hT.child_path s hs n hn, hi]
      simp
    | none =>
      have hno := nextState_none h
      have hT' := createState_trie hT hs hno
      have hlt : (createState A s c).2 < (createState A s c).1.states.size := by
        rw [createState_snd, createState_size]; omega
      have := ih hT' hlt
      refine ⟨this.1, (createState_ext A s c hs).trans this.2.1, this.2.2.1, ?_⟩
      rw [this.2.2.2, createState_snd, createState_new A s c hs]
      simp

/-- the automaton after `yr_ac_add_string` has been called for `atoms`, in this order: pool entry `e` belongs to atom
    number `e` (string index, `length + backtrack` as the C code stores it); the match list of each state is null-terminated
    and holds exactly the atoms whose bytes are its path, newest first (`ownIdx`).
    `root_slot`: no pass before the packing writes a slot; the packing reads the root's, which must be 0 (`initRoot_placed`) -/
structure P1 (A : Auto) (atoms : List (Nat × Atom)) : Prop where
  trie : Trie A
  pool_size : A.pool.size = atoms.length
  pool_info : ∀ (e : Nat) (a : Nat × Atom), atoms[e]? = some a → ∃ nx, A.pool[e]? = some (a.1, a.2.bytes.length + a.2.backtrack, nx)
  atoms_in : ∀ a ∈ atoms, ∃ s, s < A.states.size ∧ (A.st s).path = a.2.bytes
  chains : ∀ s, s < A.states.size → ChainSeg A.pool (A.st s).matchesRef (ownIdx atoms (A.st s).path) 0
  root_slot : (A.st 0).slot = 0

theorem poolNextAt_push (pool : Array (Nat × Nat × Nat)) (x : Nat × Nat × Nat) (e : Nat) (h : e < pool.size) :
    poolNextAt (pool.push x) e = poolNextAt pool e := by
  unfold poolNextAt
  simp only [Array.getD_eq_getD_getElem?, Array.getElem?_push]
  simp [Nat.ne_of_lt h]

theorem ChainSeg.lt_size {pool : Array (Nat × Nat × Nat)} {r tl : Nat} {l : List Nat} (h : ChainSeg pool r l tl) :
    ∀ e ∈ l, e < pool.size := by
  induction l generalizing r with
  | nil => intro e he; cases he
  | cons x l ih =>
    intro e he
    rcases List.mem_cons.mp he with rfl | he
    · exact h.2.1
    · exact ih h.2.2 e he

theorem ChainSeg.push {pool : Array (Nat × Nat × Nat)} {r tl : Nat} {l : List Nat} (h : ChainSeg pool r l tl)
    (x : Nat × Nat × Nat) : ChainSeg (pool.push x) r l tl :=
  h.congr (by simp) (fun e he => poolNextAt_push pool x e (h.lt_size e he))

theorem P1_empty : P1 empty [] := by
  have hst : ∀ j, empty.st j = default := by
    intro j
    cases j with
    | zero => rfl
    | succ j => rfl
  refine ⟨⟨by simp [empty], rfl, ?_, ?_, ?_, ?_, ?_, ?_⟩, rfl, ?_, ?_, ?_, rfl⟩
  · intro s _ c hc; rw [hst] at hc; cases hc
  · intro s _ c hc; rw [hst] at hc; cases hc
  · intro s _; rw [hst]; rfl
  · intro s _; rw [hst]; exact List.Pairwise.nil
  · intro c h0 hc; simp [empty] at hc; omega
  · intro i j hi hj _; simp [empty] at hi hj; omega
  · intro e a h; simp at h
  · intro a ha; cases ha
  · intro s _; rw [hst]; rfl

/-- the new states carry no atom yet -/
theorem P1.ext {A B : Auto} {atoms : List (Nat × Atom)} (h : P1 A atoms) (hT : Trie B) (hE : Ext A B) : P1 B atoms := by
  refine ⟨hT, by rw [hE.pool_eq]; exact h.pool_size, by rw [hE.pool_eq]; exact h.pool_info, ?_, ?_,
    by rw [hE.slot0]; exact h.root_slot⟩
  · intro b hb
    obtain ⟨i, hi1, hi2⟩ := h.atoms_in b hb
    exact ⟨i, Nat.lt_of_lt_of_le hi1 hE.size_le, by rw [(hE.old i hi1).1]; exact hi2⟩
  · intro j hj
    by_cases e : j < A.states.size
    · rw [(hE.old j e).1, (hE.old j e).2, hE.pool_eq]; exact h.chains j e
    · have : ownIdx atoms (B.st j).path = [] := by
        apply List.eq_nil_iff_forall_not_mem.mpr
        intro e' he
        obtain ⟨b, hb, hbp⟩ := mem_ownIdx.mp he
        obtain ⟨i, hi1, hi2⟩ := h.atoms_in b (List.mem_of_getElem? hb)
        have : i = j := hT.path_inj i j (Nat.lt_of_lt_of_le hi1 hE.size_le) hj (by rw [(hE.old i hi1).1, hi2, hbp])
        omega
      rw [this, hE.new j (by omega)]; rfl

/-- the end of `yr_ac_add_string`: a new pool entry for `a` becomes the head of the match list of `s` -/
def pushMatch (A : Auto) (s : Nat) (a : Nat × Atom) : Auto :=
  ({ A with pool := A.pool.push (a.1, (A.st s).depth + a.2.backtrack, (A.st s).matchesRef) } : Auto).modify s
    fun x => { x with matchesRef := A.pool.size + 1 }

theorem pushMatch_same (A : Auto) (s : Nat) (a : Nat × Atom) : Same A (pushMatch A s a) :=
  ⟨size_modify _ _ _, proj_modify shape { A with pool := _ } s _ (fun _ => rfl)⟩

theorem pushMatch_P1 {A : Auto} {atoms : List (Nat × Atom)} (h : P1 A atoms) {s : Nat} (hs : s < A.states.size) (a : Nat × Atom)
    (hp : (A.st s).path = a.2.bytes) : P1 (pushMatch A s a) (atoms ++ [a]) := by
  have hT := h.trie
  have hS := pushMatch_same A s a
  have hpool : (pushMatch A s a).pool = A.pool.push (a.1, (A.st s).depth + a.2.backtrack, (A.st s).matchesRef) := rfl
  have hst : ∀ j, (pushMatch A s a).st j = if j = s ∧ s < A.states.size then { A.st s with matchesRef := A.pool.size + 1 } else A.st j :=
    fun j => st_modify { A with pool := _ } s j _
  have hpsz := h.pool_size
  refine ⟨hT.congr hS, by rw [hpool]; simp [hpsz], ?_, ?_, ?_, by rw [hS.slot]; exact h.root_slot⟩
  · -- pool_info: the new entry is the last one; its backtrack uses the depth of `s`, the length of the atom
    intro e b hb
    rw [hpool, Array.getElem?_push]
    by_cases he : e = A.pool.size
    · rw [if_pos he]
      rw [he, hpsz, List.getElem?_append_right (Nat.le_refl _)] at hb
      simp at hb
      subst hb
      exact ⟨(A.st s).matchesRef, by rw [hT.depth_eq s hs, hp]⟩
    · rw [if_neg he]
      have hlt : e < atoms.length := by
        have := (List.getElem?_eq_some_iff.mp hb).1
        simp at this; omega
      rw [List.getElem?_append_left hlt] at hb
      exact h.pool_info e b hb
  · intro b hb
    rcases List.mem_append.mp hb with hb | hb
    · obtain ⟨i, hi1, hi2⟩ := h.atoms_in b hb
      exact ⟨i, by rw [hS.1]; exact hi1, by rw [hS.path]; exact hi2⟩
    · simp at hb
      subst hb
      exact ⟨s, by rw [hS.1]; exact hs, by rw [hS.path]; exact hp⟩
  · -- chains: the new entry heads the list of `s` and points at the old head; no other state has this path, and a push
    -- does not disturb existing lists
    intro j hj
    rw [hS.1] at hj
    rw [hpool, hS.path, ownIdx_snoc, hst]
    by_cases e : j = s
    · subst e
      rw [if_pos ⟨rfl, hs⟩, if_pos hp.symm]
      refine ⟨by rw [hpsz], by simp [hpsz], ?_⟩
      have : poolNextAt (A.pool.push (a.1, (A.st j).depth + a.2.backtrack, (A.st j).matchesRef)) atoms.length =
          (A.st j).matchesRef := by
        unfold poolNextAt
        rw [← hpsz]
        simp
      rw [this]
      exact (h.chains j hj).push _
    · rw [if_neg fun hh => e hh.1, if_neg fun hh => e (hT.path_inj j s hj hs (by rw [← hh, hp]))]
      exact (h.chains j hj).push _

theorem addAtom_P1 {A : Auto} {atoms : List (Nat × Atom)} (h : P1 A atoms) (a : Nat × Atom) :
    P1 (addAtom A a) (atoms ++ [a]) := by
  obtain ⟨hT1, hE, hs, hp⟩ := walk_spec h.trie h.trie.size_pos a.2.bytes
  rw [h.trie.root_path, List.nil_append] at hp
  exact pushMatch_P1 (h.ext hT1 hE) hs a hp      -- by definition of `addAtom`

theorem addAtoms_P1 (atoms : List (Nat × Atom)) : P1 (addAtoms atoms) atoms :=
  List.foldl_prefix_inv (fun done A => P1 A done) atoms P1_empty fun _ a _ _ _ h => addAtom_P1 h a

theorem Trie.parent_unique {A : Auto} (hT : Trie A) {p q x : Nat} (h1 : x ∈ kids A p) (h2 : x ∈ kids A q) : p = q := by
  have e1 := hT.child_path p (mem_children_lt h1) x h1
  have e2 := hT.child_path q (mem_children_lt h2) x h2
  rw [e1] at e2
  exact hT.path_inj p q (mem_children_lt h1) (mem_children_lt h2) (List.append_inj' e2 rfl).1

end YaraModel.AC.Build
