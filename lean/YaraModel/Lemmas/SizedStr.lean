/- sizedstr.c as regenerated (Gen/SizedStr.lean) = the byte-list specification of the string operators (Spec/Cond.lean).
   The generated loops `scan` and `forRet` and the specification functions are both characterised by index (`scan_spec`,
   `check_loop`, `exists_loop`; `prefix_idx`, `suffix_idx`, `contains_idx`, `cmp_idx`); each function of sizedstr.c is then an
   instance of one schema per loop shape (`ss_check`, `scan_cmp`).  `ss_compare`, `ss_icompare` end at `cmpWith`; `strCompare`,
   `strOp`, `cmpStr` are reached in Thm/C04 (d). -/
import YaraModel.Gen.SizedStr
import YaraModel.Spec.Cond
import YaraModel.Base.List
namespace YaraModel.SizedStr
open YaraModel.Cond (isPrefix containsS lowerS lower strCompare)

theorem scan_spec (cond : Nat → Bool) (bound : Nat) (hb : ∀ k, cond k = true → k < bound) :
    ∀ fuel i, bound - i ≤ fuel →
      i ≤ scan cond fuel i ∧ (∀ k, i ≤ k → k < scan cond fuel i → cond k = true) ∧ cond (scan cond fuel i) = false := by
  intro fuel i
  fun_induction scan cond fuel i with
  | case1 i =>
    -- out of fuel: `i` is at the bound, where `cond` fails
    intro h
    exact ⟨Nat.le_refl _, fun k h1 h2 => by omega, Bool.eq_false_iff.mpr fun hc => by have := hb i hc; omega⟩
  | case2 f i hc ih =>
    intro h
    obtain ⟨h1, h2, h3⟩ := ih (by omega)
    refine ⟨by omega, fun k hk1 hk2 => ?_, h3⟩
    rcases Nat.eq_or_lt_of_le hk1 with rfl | hlt
    · exact hc
    · exact h2 k hlt hk2
  | case3 f i hc => exact fun _ => ⟨Nat.le_refl _, fun k h1 h2 => by omega, Bool.eq_false_iff.mpr hc⟩

theorem scan_eq_iff (cond : Nat → Bool) (bound : Nat) (hb : ∀ k, cond k = true → k < bound) (fuel : Nat) (hf : bound ≤ fuel)
    (r : Nat) : scan cond fuel 0 = r ↔ (∀ k, k < r → cond k = true) ∧ cond r = false := by
  obtain ⟨_, h2, h3⟩ := scan_spec cond bound hb fuel 0 (by omega)
  generalize scan cond fuel 0 = r' at h2 h3
  constructor
  · rintro rfl; exact ⟨fun k hk => h2 k (Nat.zero_le _) hk, h3⟩
  · rintro ⟨a, b⟩
    rcases Nat.lt_trichotomy r' r with h | h | h
    · rw [a r' h] at h3; cases h3
    · exact h
    · rw [h2 r (Nat.zero_le _) h] at b; cases b

/-- the inner search loop of ss_icontains stops at `n` iff all `n` positions agree -/
theorem scan_all (n : Nat) (m : Nat → Bool) (fuel : Nat) (hf : n ≤ fuel) :
    scan (fun j => decide (j < n) && m j) fuel 0 = n ↔ ∀ j, j < n → m j = true := by
  rw [scan_eq_iff _ n (fun k hk => by simp only [Bool.and_eq_true, decide_eq_true_eq] at hk; exact hk.1) fuel hf]
  simp +contextual

open Classical in
/-- `fun_induction` cases: 1 fuel out, 2 body returns, 3 body passes, 4 `i ≥ hi` -/
theorem forRet_first {α : Type} (hi : Nat) (p : Nat → Bool) (c : α) :
    ∀ fuel i, hi - i ≤ fuel →
      forRet hi (fun x => if p x = true then some c else none) fuel i = if ∃ k, i ≤ k ∧ k < hi ∧ p k = true then some c else none := by
  intro fuel i
  fun_induction forRet hi (fun x => if p x = true then some c else none) fuel i with
  | case1 i => intro h; rw [if_neg (by rintro ⟨k, h1, h2, _⟩; omega)]
  | case2 f i hlt r hr =>
    intro _
    split at hr
    · next hp => rw [if_pos ⟨i, Nat.le_refl _, hlt, hp⟩, ← hr]
    · cases hr
  | case3 f i hlt hr ih =>
    intro h
    have hp : ¬ p i = true := fun hp => by rw [if_pos hp] at hr; cases hr
    rw [ih (by omega)]
    -- the witnesses from `i` on are those from `i + 1` on, `i` not being one
    exact ite_congr (propext ⟨fun ⟨k, h1, h2, h3⟩ => ⟨k, by omega, h2, h3⟩,
      fun ⟨k, h1, h2, h3⟩ => ⟨k, (Nat.eq_or_lt_of_le h1).resolve_left (fun e => hp (e ▸ h3)), h2, h3⟩⟩) (fun _ => rfl) (fun _ => rfl)
  | case4 f i hlt => intro _; rw [if_neg (by rintro ⟨k, h1, h2, _⟩; omega)]

theorem check_loop (n2 : Nat) (q : Nat → Bool) (fuel : Nat) (hf : n2 ≤ fuel) :
    Option.getD (forRet n2 (fun i => if q i = true then some false else none) fuel 0) true = true ↔ ∀ i, i < n2 → q i = false := by
  rw [forRet_first n2 q false fuel 0 (by omega)]
  split
  next h =>
    obtain ⟨k, _, h2, h3⟩ := h
    exact ⟨fun hh => (by cases hh), fun hh => (by rw [hh k h2] at h3; cases h3)⟩
  next h =>
    exact ⟨fun _ i hi => (by cases hq : q i; rfl; exact absurd ⟨i, Nat.zero_le _, hi, hq⟩ h), fun _ => rfl⟩

theorem exists_loop (hi : Nat) (q : Nat → Bool) (fuel : Nat) (hf : hi ≤ fuel) :
    Option.getD (forRet hi (fun i => if q i = true then some true else none) fuel 0) false = true ↔ ∃ i, i < hi ∧ q i = true := by
  rw [forRet_first hi q true fuel 0 (by omega)]
  split
  next h =>
    obtain ⟨k, _, h2, h3⟩ := h
    exact ⟨fun _ => ⟨k, h2, h3⟩, fun _ => rfl⟩
  next h =>
    exact ⟨fun hh => (by cases hh), fun ⟨i, h1, h2⟩ => absurd ⟨i, Nat.zero_le _, h1, h2⟩ h⟩


def scB (b : UInt8) : Int := if b.toNat ≥ 128 then (b.toNat : Int) - 256 else (b.toNat : Int)

theorem sc_eq (s : Bytes) (i : Nat) : sc s i = scB (s.getD i 0) := rfl

theorem uc_eq (s : Bytes) (i : Nat) : uc s i = ((s.getD i 0).toNat : Int) := rfl

theorem scB_inj (a b : UInt8) : scB a = scB b ↔ a = b := by
  constructor
  · intro h
    apply UInt8.toNat_inj.mp
    have ha := a.toNat_lt
    have hb := b.toNat_lt
    unfold scB at h
    split at h <;> split at h <;> omega
  · intro h; rw [h]

theorem lowerTab_toNat (b : UInt8) : lowerTab (b.toNat : Int) = ((lower b).toNat : Int) := by
  unfold lowerTab lower
  by_cases h : 65 ≤ b.toNat ∧ b.toNat ≤ 90
  · have h1 : (65 : UInt8) ≤ b := by rw [UInt8.le_iff_toNat_le]; exact h.1
    have h2 : b ≤ (90 : UInt8) := by rw [UInt8.le_iff_toNat_le]; exact h.2
    have : (b + 32).toNat = b.toNat + 32 := by rw [UInt8.toNat_add]; simp; omega
    simp [h1, h2, this]
    omega
  · have : ¬ ((65 : UInt8) ≤ b ∧ b ≤ (90 : UInt8)) := by
      rw [UInt8.le_iff_toNat_le, UInt8.le_iff_toNat_le]; exact h
    have h' : ¬ ((65 : Int) ≤ (b.toNat : Int) ∧ (b.toNat : Int) ≤ 90) := by omega
    simp [h', this]

theorem getD_map0 (g : UInt8 → UInt8) (h0 : g 0 = 0) (s : Bytes) (i : Nat) : (s.map g).getD i 0 = g (s.getD i 0) :=
  (congrArg _ h0.symm).trans (List.getD_map g s i 0)

theorem lower_zero : lower 0 = 0 := by decide

theorem length_lowerS (s : Bytes) : (lowerS s).length = s.length := by simp [lowerS]

/-- byte order of `(uint8_t) a < (uint8_t) b` -/
def ucLt (a b : UInt8) : Bool := decide ((a.toNat : Int) < (b.toNat : Int))

theorem ucLt_eq (a b : UInt8) : ucLt a b = decide (a < b) := by
  unfold ucLt
  apply decide_eq_decide.mpr
  rw [UInt8.lt_iff_toNat_lt]
  omega

theorem prefix_idx (p s : Bytes) :
    isPrefix p s = true ↔ p.length ≤ s.length ∧ ∀ i, i < p.length → p.getD i 0 = s.getD i 0 := by
  induction p generalizing s with
  | nil => simp [isPrefix]
  | cons a p ih =>
    cases s with
    | nil => simp [isPrefix]
    | cons b s =>
      simp only [isPrefix, Bool.and_eq_true, beq_iff_eq, ih s, List.length_cons, Nat.add_le_add_iff_right,
        Nat.forall_lt_succ_left, List.getD_cons_zero, List.getD_cons_succ]
      exact and_left_comm

theorem getD_reverse (l : Bytes) (i : Nat) (h : i < l.length) : l.reverse.getD i 0 = l.getD (l.length - 1 - i) 0 := by
  rw [List.getD_eq_getElem?_getD, List.getD_eq_getElem?_getD, List.getElem?_reverse h]

theorem suffix_idx (p s : Bytes) :
    isPrefix p.reverse s.reverse = true ↔
      p.length ≤ s.length ∧ ∀ i, i < p.length → p.getD i 0 = s.getD ((s.length - p.length) + i) 0 := by
  rw [prefix_idx, List.length_reverse, List.length_reverse]
  constructor
  · rintro ⟨hl, h⟩
    refine ⟨hl, fun i hi => ?_⟩
    have := h (p.length - 1 - i) (by omega)
    rw [getD_reverse p _ (by omega), getD_reverse s _ (by omega)] at this
    have e1 : p.length - 1 - (p.length - 1 - i) = i := by omega
    have e2 : s.length - 1 - (p.length - 1 - i) = s.length - p.length + i := by omega
    rw [e1, e2] at this; exact this
  · rintro ⟨hl, h⟩
    refine ⟨hl, fun i hi => ?_⟩
    rw [getD_reverse p _ hi, getD_reverse s _ (by omega), h (p.length - 1 - i) (by omega)]
    congr 1; omega

theorem isPrefix_eq (p s : Bytes) : isPrefix p s = p.isPrefixOf s := by
  induction p generalizing s with
  | nil => cases s <;> simp [isPrefix]
  | cons a p ih => cases s with
    | nil => simp [isPrefix]
    | cons b s => simp [isPrefix, ih, List.isPrefixOf]

theorem contains_idx (h n : Bytes) :
    containsS h n = true ↔ ∃ i, i + n.length ≤ h.length ∧ ∀ j, j < n.length → n.getD j 0 = h.getD (i + j) 0 := by
  induction h with
  | nil =>
    simp only [containsS, List.isEmpty_iff, List.length_nil]
    constructor
    · intro hn; subst hn; exact ⟨0, by simp, fun j hj => by simp at hj⟩
    · rintro ⟨i, hl, _⟩
      exact List.eq_nil_of_length_eq_zero (by omega)
  | cons a h ih =>
    -- an occurrence in `a :: h` is at 0, a prefix, or at `i + 1`, an occurrence in `h` at `i`
    rw [← Nat.or_exists_add_one]
    simp only [containsS, Bool.or_eq_true, ih, prefix_idx, List.length_cons, Nat.zero_add, Nat.add_right_comm _ 1,
      List.getD_cons_succ, Nat.add_le_add_iff_right]

/-- `fun_induction` cases: 1–3 a side is empty, 4 heads equivalent, 5 `lt`, 6 not `lt` -/
def cmpWith (eqv lt : UInt8 → UInt8 → Bool) : Bytes → Bytes → Int
  | [], [] => 0
  | [], _ :: _ => -1
  | _ :: _, [] => 1
  | a :: as, b :: bs => if eqv a b then cmpWith eqv lt as bs else if lt a b then -1 else 1

theorem strCompare_eq_cmpWith (s1 s2 : Bytes) : strCompare s1 s2 = cmpWith (fun a b => a == b) (fun a b => decide (a < b)) s1 s2 := by
  induction s1 generalizing s2 with
  | nil => cases s2 <;> rfl
  | cons a s1 ih =>
    cases s2 with
    | nil => rfl
    | cons b s2 => simp only [strCompare, cmpWith, ih, decide_eq_true_eq]

theorem cmp_idx (eqv lt : UInt8 → UInt8 → Bool) (s1 s2 : Bytes) : ∀ (r : Nat),
    (∀ k, k < r → k < s1.length ∧ k < s2.length ∧ eqv (s1.getD k 0) (s2.getD k 0) = true) →
    ¬ (r < s1.length ∧ r < s2.length ∧ eqv (s1.getD r 0) (s2.getD r 0) = true) →
    cmpWith eqv lt s1 s2 =
      if r = s1.length ∧ r = s2.length then 0 else if r = s1.length then -1 else if r = s2.length then 1
      else if lt (s1.getD r 0) (s2.getD r 0) = true then -1 else 1 := by
  fun_induction cmpWith eqv lt s1 s2 with
  | case4 a as b bs he ih =>
    -- equivalent heads: the scan has passed them, so `r` is a successor
    intro r h1 h2
    cases r with
    | zero => exact absurd ⟨by simp, by simp, by simpa using he⟩ h2
    | succ r => simpa using ih r (fun k hk => by simpa using h1 (k + 1) (by omega)) (by simpa using h2)
  | _ =>
    -- an empty string or inequivalent heads: the scan stops at 0
    intro r h1 h2
    cases r with
    | zero => simp [*]
    | succ r => exact absurd (h1 0 (by omega)) (by simp [*])

theorem cmpWith_zero (eqv lt : UInt8 → UInt8 → Bool) (g : UInt8 → UInt8) (h : ∀ a b, eqv a b = true ↔ g a = g b) (s1 s2 : Bytes) :
    cmpWith eqv lt s1 s2 = 0 ↔ s1.map g = s2.map g := by
  fun_induction cmpWith eqv lt s1 s2 with
  | case4 a as b bs he ih => simp only [List.map_cons, List.cons.injEq, ih, (h a b).mp he, true_and]
  | case5 a as b bs he _ | case6 a as b bs he _ =>
    have hne : ¬ g a = g b := fun hg => he ((h a b).mpr hg)
    simp [hne]
  | _ => simp

theorem cmpWith_congr (eqv lt lt' : UInt8 → UInt8 → Bool) (s1 s2 : Bytes)
    (h : ∀ a, a ∈ s1 → ∀ b, b ∈ s2 → lt a b = lt' a b) : cmpWith eqv lt s1 s2 = cmpWith eqv lt' s1 s2 := by
  fun_induction cmpWith eqv lt s1 s2 with
  | case4 a as b bs he ih =>
    simp only [cmpWith, he, if_true]
    exact ih fun x hx y hy => h x (List.mem_cons_of_mem _ hx) y (List.mem_cons_of_mem _ hy)
  | case5 a as b bs he hl | case6 a as b bs he hl =>
    simp [cmpWith, he, ← h a (List.mem_cons_self ..) b (List.mem_cons_self ..), hl]
  | _ => rfl

theorem strCompare_eq_zero (s1 s2 : Bytes) : strCompare s1 s2 = 0 ↔ s1 = s2 := by
  rw [strCompare_eq_cmpWith]
  simpa using cmpWith_zero (fun x y => x == y) (fun x y => decide (x < y)) id (fun x y => by simp) s1 s2

open YaraModel.Gen.SizedStr

theorem memmem_eq (h n : Bytes) : memmemFound h n = containsS h n := by
  induction h with
  | nil => simp [memmemFound, containsS]
  | cons a h ih => simp [memmemFound, containsS, ih, isPrefix_eq]

theorem sc_ne_false (s1 s2 : Bytes) (i j : Nat) : decide (sc s1 i ≠ sc s2 j) = false ↔ s2.getD j 0 = s1.getD i 0 := by
  rw [decide_eq_false_iff_not, Classical.not_not, sc_eq, sc_eq, scB_inj]
  exact eq_comm

theorem lc_ne_false (s1 s2 : Bytes) (i j : Nat) :
    decide (lowerTab (uc s1 i) ≠ lowerTab (uc s2 j)) = false ↔ (lowerS s2).getD j 0 = (lowerS s1).getD i 0 := by
  rw [decide_eq_false_iff_not, Classical.not_not, uc_eq, uc_eq, lowerTab_toNat, lowerTab_toNat]
  unfold lowerS
  rw [getD_map0 lower lower_zero, getD_map0 lower lower_zero]
  constructor
  · intro h; exact (UInt8.toNat_inj.mp (by omega)).symm
  · intro h; rw [h]

/-- the shape shared by ss_startswith, ss_istartswith, ss_endswith, ss_iendswith -/
theorem ss_check (s1 s2 : Bytes) (q : Nat → Bool) (spec : Bool)
    (hspec : spec = true ↔ s2.length ≤ s1.length ∧ ∀ i, i < s2.length → q i = false) :
    (if decide (s1.length < s2.length) then false
     else Option.getD (forRet s2.length (fun i => if q i = true then some false else none) (s1.length + s2.length + 1) 0) true)
      = spec := by
  by_cases hlen : s1.length < s2.length
  · simp only [hlen, decide_true, if_true]
    symm; apply Bool.eq_false_iff.mpr
    intro h; have := (hspec.mp h).1; omega
  · simp only [hlen, decide_false, Bool.false_eq_true, if_false]
    apply Bool.eq_iff_iff.mpr
    rw [check_loop s2.length q _ (by omega), hspec]
    exact ⟨fun h => ⟨by omega, h⟩, fun h => h.2⟩

theorem ss_startswith_eq (s1 s2 : Bytes) : ss_startswith s1 s2 = isPrefix s2 s1 :=
  ss_check s1 s2 _ _ (by simp only [prefix_idx, sc_ne_false])

theorem ss_istartswith_eq (s1 s2 : Bytes) : ss_istartswith s1 s2 = isPrefix (lowerS s2) (lowerS s1) :=
  ss_check s1 s2 _ _ (by simp only [prefix_idx, lc_ne_false, length_lowerS])

theorem ss_endswith_eq (s1 s2 : Bytes) : ss_endswith s1 s2 = isPrefix s2.reverse s1.reverse :=
  ss_check s1 s2 _ _ (by simp only [suffix_idx, sc_ne_false])

theorem ss_iendswith_eq (s1 s2 : Bytes) : ss_iendswith s1 s2 = isPrefix (lowerS s2).reverse (lowerS s1).reverse :=
  ss_check s1 s2 _ _ (by simp only [suffix_idx, lc_ne_false, length_lowerS])

theorem ss_contains_eq (s1 s2 : Bytes) : ss_contains s1 s2 = containsS s1 s2 := memmem_eq s1 s2

theorem ss_icontains_eq (s1 s2 : Bytes) : ss_icontains s1 s2 = containsS (lowerS s1) (lowerS s2) := by
  unfold ss_icontains
  by_cases hlen : s1.length < s2.length
  · simp only [hlen, decide_true, if_true]
    symm; apply Bool.eq_false_iff.mpr
    intro h; obtain ⟨i, hi, _⟩ := (contains_idx _ _).mp h; simp only [length_lowerS] at hi; omega
  · simp only [hlen, decide_false, Bool.false_eq_true, if_false]
    apply Bool.eq_iff_iff.mpr
    rw [exists_loop (s1.length - s2.length + 1)
          (fun i => decide (scan (fun j => decide (j < s2.length) && !decide (lowerTab (uc s1 (i + j)) ≠ lowerTab (uc s2 j)))
                              (s1.length + s2.length + 1) 0 = s2.length)) _ (by omega), contains_idx]
    simp only [decide_eq_true_eq, scan_all _ _ _ (show s2.length ≤ s1.length + s2.length + 1 by omega), Bool.not_eq_true', lc_ne_false, length_lowerS]
    constructor
    · rintro ⟨i, hi, h⟩; exact ⟨i, by omega, h⟩
    · rintro ⟨i, hi, h⟩; exact ⟨i, by omega, h⟩

/-- the shape shared by ss_compare and ss_icompare -/
theorem scan_cmp (s1 s2 : Bytes) (eqv lt : UInt8 → UInt8 → Bool) (e lt' : Nat → Bool)
    (he : ∀ i, e i = true ↔ eqv (s1.getD i 0) (s2.getD i 0) = true) (hlt : ∀ i, lt' i = lt (s1.getD i 0) (s2.getD i 0)) :
    (fun i : Nat =>
      if (decide (i = s1.length) && decide (i = s2.length)) then (0 : Int) else
      if decide (i = s1.length) then -(1 : Int) else if decide (i = s2.length) then (1 : Int) else
      if lt' i then -(1 : Int) else (1 : Int))
      (scan (fun i => decide (s1.length > i) && decide (s2.length > i) && e i) (s1.length + s2.length + 1) 0) =
    cmpWith eqv lt s1 s2 := by
  obtain ⟨h2, h3⟩ := (scan_eq_iff (fun i => decide (s1.length > i) && decide (s2.length > i) && e i) s1.length
    (fun k hk => by simp only [Bool.and_eq_true, decide_eq_true_eq] at hk; exact hk.1.1) (s1.length + s2.length + 1) (by omega) _).mp rfl
  generalize scan (fun i => decide (s1.length > i) && decide (s2.length > i) && e i) (s1.length + s2.length + 1) 0 = r at h2 h3
  simp only [Bool.and_eq_true, decide_eq_true_eq, he, Bool.and_eq_false_iff] at h2 h3
  rw [cmp_idx eqv lt s1 s2 r (fun k hk => and_assoc.mp (h2 k hk)) (fun ⟨x1, x2, x3⟩ => by simp [x1, x2, (he r).mpr x3] at h3)]
  simp only [hlt, Bool.and_eq_true, decide_eq_true_eq]

/-- ss_compare is the lexicographic comparison by UNSIGNED byte value (the deciding bytes are compared as `uint8_t`) -/
theorem ss_compare_eq (s1 s2 : Bytes) :
    ss_compare s1 s2 = cmpWith (fun a b => a == b) ucLt s1 s2 :=
  scan_cmp s1 s2 _ _ (fun i => decide (sc s1 i = sc s2 i)) (fun i => decide (uc s1 i < uc s2 i))
    (fun i => by simp only [decide_eq_true_eq, sc_eq, scB_inj, beq_iff_eq]) (fun i => rfl)

/-- the lexicographic comparison by SIGNED `char` value: what ss_compare would be if it compared the deciding bytes as
    `char` (sizedstr.c before the repair of F57); `string_order_signed_witness` (Thm/C04.lean) separates it from the specification and from ss_compare -/
def ssCompareSignedOld (s1 s2 : Bytes) : Int := cmpWith (fun a b => a == b) (fun a b => decide (scB a < scB b)) s1 s2

theorem ss_icompare_eq (s1 s2 : Bytes) :
    ss_icompare s1 s2 = cmpWith (fun a b => lower a == lower b) (fun a b => decide (scB a < scB b)) s1 s2 :=
  scan_cmp s1 s2 _ _ (fun i => decide (lowerTab (uc s1 i) = lowerTab (uc s2 i))) (fun i => decide (sc s1 i < sc s2 i))
    (fun i => by
      rw [decide_eq_true_eq, beq_iff_eq, uc_eq, uc_eq, lowerTab_toNat, lowerTab_toNat]
      exact ⟨fun h => UInt8.toNat_inj.mp (by omega), fun h => by rw [h]⟩)
    (fun i => rfl)

theorem ss_compare_eq_zero (s1 s2 : Bytes) : ss_compare s1 s2 = 0 ↔ s1 = s2 := by
  rw [ss_compare_eq]
  simpa using cmpWith_zero (fun x y => x == y) ucLt id (fun x y => by simp) s1 s2

theorem ss_icompare_eq_zero (s1 s2 : Bytes) : ss_icompare s1 s2 = 0 ↔ lowerS s1 = lowerS s2 := by
  rw [ss_icompare_eq]
  exact cmpWith_zero _ _ lower (fun x y => by simp) s1 s2

end YaraModel.SizedStr
