/- The client operations that do not allocate — registering a slot, storing a pointer into a registered
   slot, memcpy into allocated memory — as arena transformers: each preserves the protocol `WF` and acts
   on the abstract arena `abs` as the corresponding operation of the abstract machine (Spec/Arena.lean). -/
import YaraModel.Lemmas.ArenaSeq
namespace YaraModel.Arena

theorem abs_fst_length (a : Arena) : (abs a).1.length = a.bufs.length := length_bodies_toRefs a

theorem aBody_abs (a : Arena) (j : Nat) : aBody (abs a) j = ((toRefs a).bufAt j).data := by
  unfold aBody abs; exact bodies_getD _ _

theorem aBody_abs_length (a : Arena) (j : Nat) : (aBody (abs a) j).length = (a.bufAt j).data.length :=
  length_getD_bodies_toRefs a j

theorem rd64_aBody_abs (a : Arena) (s : Ref) : rd64 (aBody (abs a) s.buf) s.off = getSlot (toRefs a) s := by
  rw [aBody_abs]; rfl

theorem aFree_iff (x : AArena) (b off len : Nat) : aFree x b off len = true ↔ ∀ r ∈ x.2, Clear r b off len := by
  unfold aFree Clear
  simp only [List.all_eq_true, Bool.or_eq_true, decide_eq_true_eq]
  constructor
  · intro h r hr; have := h r hr; omega
  · intro h r hr; have := h r hr; omega

theorem noOverlap_of_mem {rs : List Ref} (hp : rs.Pairwise NoOverlap) {r s : Ref} (hr : r ∈ rs) (hs : s ∈ rs) :
    r = s ∨ NoOverlap r s := by
  induction rs with
  | nil => cases hr
  | cons x t ih =>
    have ⟨hx, ht⟩ := List.pairwise_cons.1 hp
    rcases List.mem_cons.1 hr with rfl | hr' <;> rcases List.mem_cons.1 hs with rfl | hs'
    · exact Or.inl rfl
    · exact Or.inr (hx s hs')
    · exact Or.inr (hx r hr').symm
    · exact ih ht hr' hs'

def regSlot (a : Arena) (s : Ref) : Arena := { a with relocs := a.relocs ++ [s] }

theorem makeRelocs_nil (a : Arena) (b base : Nat) : makeRelocs a b base [] = a := by
  simp [makeRelocs]

theorem makeRelocs_cons (a : Arena) (b base o : Nat) (os : List Nat) :
    makeRelocs a b base (o :: os) = makeRelocs (regSlot a ⟨b, (base + o) % 2 ^ 32⟩) b base os := by
  simp [makeRelocs, regSlot]

theorem toRefs_regSlot {a : Arena} (s : Ref) (hno : ∀ r ∈ a.relocs, NoOverlap r s) :
    toRefs (regSlot a s) = regSlot (setSlot (toRefs a) s (encRef (ptrToRef a.bufs (getSlot a s)).2)) s := by
  rw [toRefs_eq, toRefs_eq]
  show mapSlots (fun v => encRef (ptrToRef a.bufs v).2) (a.relocs ++ [s]) { a with relocs := a.relocs ++ [s] } = _
  rw [mapSlots_withRelocs, mapSlots_append, mapSlots_cons, mapSlots_nil, getSlot_mapSlots_other _ _ hno]
  exact Arena.ext' rfl (by simp [regSlot]) rfl rfl

theorem wf_regSlot {a : Arena} (h : WF a) {s : Ref} (hin : InB a s) (hno : ∀ r ∈ a.relocs, NoOverlap r s)
    (hv : ValidPtr a.bufs (getSlot a s)) : WF (regSlot a s) where
  slots := ⟨List.pairwise_append.2 ⟨h.slots.1, List.pairwise_singleton _ _, fun r hr _ ht => List.mem_singleton.1 ht ▸ hno r hr⟩,
    List.forall_mem_append.2 ⟨h.slots.2, List.forall_mem_singleton.2 hin⟩⟩
  ranges := h.ranges
  valid := List.forall_mem_append.2 ⟨h.valid, List.forall_mem_singleton.2 hv⟩
  count := h.count
  sizes := h.sizes

theorem abs_regSlot {a : Arena} (s : Ref) (hno : ∀ r ∈ a.relocs, NoOverlap r s) :
    abs (regSlot a s) = aReg (aSet (abs a) s (encRef (ptrToRef a.bufs (getSlot a s)).2)) s := by
  unfold abs
  rw [toRefs_regSlot s hno]
  show (bodies (setSlot (toRefs a) s _), a.relocs ++ [s]) = _
  rw [bodies_setSlot]
  rfl

theorem mapSlots_setSlot_mem (φ : Nat → Nat) {rs : List Ref} {a : Arena} (h : SlotsOk a rs) {s : Ref} (hs : s ∈ rs) (v : Nat) :
    mapSlots φ rs (setSlot a s v) = setSlot (mapSlots φ rs a) s (φ (v % 2 ^ 64)) := by
  induction rs generalizing a with
  | nil => cases hs
  | cons r t ih =>
    have ⟨hno, hin⟩ := h.head
    by_cases hrs : r = s
    · subst hrs
      rw [mapSlots_cons, getSlot_setSlot_same _ hin, setSlot_setSlot_same, mapSlots_cons,
        mapSlots_setSlot_comm _ _ _ hno, mapSlots_setSlot_comm _ _ _ hno, setSlot_setSlot_same]
    · have hst : s ∈ t := (List.mem_cons.1 hs).resolve_left fun e => hrs e.symm
      have hn : NoOverlap r s := hno s hst
      rw [mapSlots_cons, getSlot_setSlot_other _ hn.symm, setSlot_comm _ _ _ hn.symm, mapSlots_cons]
      exact ih (h.tail.setSlot r _) hst

theorem wf_setSlot_reg {a : Arena} (h : WF a) {s : Ref} (hs : s ∈ a.relocs) {p : Nat} (hp : ValidPtr a.bufs p) (hlt : p < 2 ^ 64) :
    WF (setSlot a s p) := by
  refine h.of_keys3 rfl (keys3_setSlot a s p) (fun r hr => ?_)
  rcases noOverlap_of_mem h.slots.1 hs hr with e | e
  · subst e
    rw [getSlot_setSlot_same _ (h.slots.2 s hs), Nat.mod_eq_of_lt hlt]; exact hp
  · rw [getSlot_setSlot_other _ e]; exact h.valid r hr

theorem abs_setSlot_reg {a : Arena} (h : WF a) {s : Ref} (hs : s ∈ a.relocs) {p : Nat} (hlt : p < 2 ^ 64) :
    abs (setSlot a s p) = aSet (abs a) s (encRef (ptrToRef a.bufs p).2) := by
  unfold abs
  rw [toRefs_of_keys (keys_setSlot a s p), toRefs_eq, setSlot_relocs, mapSlots_setSlot_mem _ h.slots hs, bodies_setSlot,
    Nat.mod_eq_of_lt hlt]
  rfl

theorem keys3_pokeA (a : Arena) (at_ : Ref) (bs : Bytes) : (pokeA a at_ bs).bufs.map key3 = a.bufs.map key3 :=
  map_modify_same key3 (fun x => { x with data := wrBytes x.data at_.off bs }) (fun x => by simp [key3, length_wrBytes]) a.bufs at_.buf

theorem mapSlots_pokeA (φ : Nat → Nat) {rs : List Ref} (a : Arena) {at_ : Ref} {bs : Bytes}
    (h : ∀ r ∈ rs, Clear r at_.buf at_.off bs.length) : mapSlots φ rs (pokeA a at_ bs) = pokeA (mapSlots φ rs a) at_ bs := by
  induction rs generalizing a with
  | nil => simp only [mapSlots_nil]
  | cons r t ih =>
    have hr := h r (List.mem_cons_self ..)
    rw [mapSlots_cons, mapSlots_cons, getSlot_pokeA hr, setSlot_pokeA _ hr]
    exact ih _ (fun s hs => h s (List.mem_cons_of_mem _ hs))

theorem bodies_pokeA (a : Arena) (at_ : Ref) (bs : Bytes) :
    bodies (pokeA a at_ bs) = (bodies a).modify at_.buf (fun d => wrBytes d at_.off bs) :=
  map_modify (fun x : Buf => x.data) (fun x => { x with data := wrBytes x.data at_.off bs }) (fun d => wrBytes d at_.off bs) (fun _ => rfl) a.bufs at_.buf

theorem wf_pokeA {a : Arena} (h : WF a) {at_ : Ref} {bs : Bytes} (hc : ∀ r ∈ a.relocs, Clear r at_.buf at_.off bs.length) :
    WF (pokeA a at_ bs) :=
  h.of_keys3 rfl (keys3_pokeA a at_ bs) (fun r hr => by rw [getSlot_pokeA (hc r hr)]; exact h.valid r hr)

theorem abs_pokeA {a : Arena} {at_ : Ref} {bs : Bytes} (hc : ∀ r ∈ a.relocs, Clear r at_.buf at_.off bs.length) :
    abs (pokeA a at_ bs) = ((abs a).1.modify at_.buf (fun d => wrBytes d at_.off bs), (abs a).2) := by
  unfold abs
  rw [toRefs_of_keys (keys_of_keys3 (keys3_pokeA a at_ bs)), toRefs_eq]
  show (bodies (mapSlots _ a.relocs (pokeA a at_ bs)), a.relocs) = _
  rw [mapSlots_pokeA _ _ hc, bodies_pokeA]

theorem aSet_over_poke (x : AArena) (s : Ref) (p v : Nat) :
    aSet (x.1.modify s.buf (fun d => wrBytes d s.off (leBytes 8 p)), x.2) s v = aSet x s v := by
  unfold aSet
  simp only [List.modify_modify_eq]
  congr 2
  funext d
  simp only [wr64_eq_wrBytes]
  exact wrBytes_wrBytes_same d s.off (by rw [length_leBytes, length_leBytes])

theorem regSet_sim {a : Arena} (h : WF a) {s : Ref} (hin : InB a s) (hc : ∀ r ∈ a.relocs, Clear r s.buf s.off 8)
    {p : Nat} (hp : ValidPtr a.bufs p) (hlt : p < 2 ^ 64) :
    WF (regSlot (setSlot a s p) s) ∧
      abs (regSlot (setSlot a s p) s) = aReg (aSet (abs a) s (encRef (ptrToRef a.bufs p).2)) s := by
  have hl8 : (leBytes 8 p).length = 8 := length_leBytes 8 p
  have hc' : ∀ r ∈ a.relocs, Clear r s.buf s.off (leBytes 8 p).length := by rw [hl8]; exact hc
  have hw1 : WF (setSlot a s p) := by rw [setSlot_eq_pokeA]; exact wf_pokeA h hc'
  have ha1 : abs (setSlot a s p) = ((abs a).1.modify s.buf (fun d => wrBytes d s.off (leBytes 8 p)), (abs a).2) := by
    rw [setSlot_eq_pokeA]; exact abs_pokeA hc'
  have hk := keys_setSlot a s p
  have hno : ∀ r ∈ (setSlot a s p).relocs, NoOverlap r s := fun r hr => hc r hr
  have hget : getSlot (setSlot a s p) s = p := by rw [getSlot_setSlot_same _ hin, Nat.mod_eq_of_lt hlt]
  refine ⟨wf_regSlot hw1 ((InB_setSlot a s p s).2 hin) hno (by rw [hget]; exact hp.congr hk.symm), ?_⟩
  rw [abs_regSlot _ hno, hget, ptrToRef_congr hk, ha1, aSet_over_poke]

end YaraModel.Arena
