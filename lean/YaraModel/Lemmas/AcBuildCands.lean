/- From "the scan reports exactly the atom occurrences" to the per-string contract `CandsOK` of C01/C05 (used by
   `candsOK_of_cert` in Thm/AcCert.lean and by `build_candsOK`) -/
import YaraModel.Lemmas.AcCertLemmas
import YaraModel.Lemmas.TextFinal
namespace YaraModel.AC.Build
open YaraModel.Text

theorem suffix_take_iff (buf a : Bytes) (k : Nat) (hk : k ≤ buf.length) (ha : a.length ≤ k) :
    a <:+ buf.take k ↔ (buf.drop (k - a.length)).take a.length = a := by
  rw [List.suffix_iff_eq_drop]
  have hl : (buf.take k).length = k := by simp; omega
  rw [hl, List.drop_take]
  have : k - (k - a.length) = a.length := by omega
  rw [this]
  exact eq_comm

theorem expected_iff_atomAt {atoms : List (Nat × Atom)} {buf : Bytes} {x : Nat × Nat × Nat} :
    (∃ k, k ≤ buf.length ∧ x ∈ expectedAt atoms (buf.take k)) ↔
      ∃ sa ∈ atoms, atomAt sa.2 buf x.2.1 ∧ x.1 = sa.1 ∧ x.2.2 = sa.2.bytes.length + sa.2.backtrack := by
  obtain ⟨xs, xo, xb⟩ := x
  simp only [mem_expectedAt, atomAt, window_eq_some, Prod.mk.injEq]
  constructor
  · rintro ⟨k, hk, sa, hsa, hsuf, hle, rfl, rfl, rfl⟩
    rw [List.length_take, Nat.min_eq_left hk] at hle ⊢
    have e : k - (sa.2.bytes.length + sa.2.backtrack) + sa.2.backtrack = k - sa.2.bytes.length := by omega
    exact ⟨sa, hsa, ⟨by omega, by rw [e]; exact ((suffix_take_iff buf sa.2.bytes k hk (by omega)).mp hsuf).symm⟩, rfl, rfl⟩
  · rintro ⟨sa, hsa, ⟨hb, heq⟩, rfl, rfl⟩
    have hl : (buf.take (xo + sa.2.backtrack + sa.2.bytes.length)).length = xo + sa.2.backtrack + sa.2.bytes.length := by
      rw [List.length_take, Nat.min_eq_left hb]
    refine ⟨_, hb, sa, hsa, ?_, by omega, rfl, by omega, rfl⟩
    apply (suffix_take_iff buf sa.2.bytes _ hb (by omega)).mpr
    rw [Nat.add_sub_cancel]; exact heq.symm

theorem candsOK_of_exact (T : Tables) (atoms : List (Nat × Atom)) (buf : Bytes)
    (hexact : ∀ x, x ∈ scan T buf ↔ ∃ k, k ≤ buf.length ∧ x ∈ expectedAt atoms (buf.take k)) (sidx w : Nat) (m : Mods) (s : Bytes)
    (hat : ∀ a, (sidx, a) ∈ atoms ↔ a ∈ atomsOf w m s) :
    CandsOK w m s buf ((scan T buf).filterMap fun x => if x.1 = sidx then some (x.2.1, x.2.2) else none) := by
  simp only [expected_iff_atomAt] at hexact
  constructor
  · intro c hcm
    obtain ⟨x, hx, hxc⟩ := List.mem_filterMap.mp hcm
    obtain ⟨hs, hc⟩ := Option.ite_none_right_eq_some.mp hxc
    cases hc
    obtain ⟨sa, hsa, hocc, h1, h2⟩ := (hexact x).mp hx
    exact ⟨sa.2, (hat sa.2).mp (by rw [← hs, h1]; exact hsa), hocc, h2⟩
  · intro a ha o hao
    exact List.mem_filterMap.mpr ⟨(sidx, o, a.bytes.length + a.backtrack),
      (hexact _).mpr ⟨(sidx, a), (hat a).mpr ha, hao, rfl, rfl⟩, by simp⟩

end YaraModel.AC.Build
