/-
  Lemmas about the regular-expression specification (Spec/Re.lean). `Iter R k x z` (k steps of a relation) is the one notion
  of iteration the regex proofs use (nothing uses `Path`). The breadth-first closures are characterised by `Iter` once, for the
  set-level operators `upToS` / `iterNS` of Model/ReEval.lean; `upTo f` / `iterN f` of the specification are the instance
  `F = (·.flatMap f)`. With the four iteration nodes characterised by `Iter` over the matches of their body this gives
  `ends_iff_Matches` (functional spec = relational spec) for every node kind.
-/
import YaraModel.Model.ReEval

-- `Iter` is declared in the namespace of its users among the emitter proofs (Lemmas/ReIr, ReIrStep, ReLower); this file opens it
namespace YaraModel.ReEmit

inductive Iter (R : Nat → Nat → Prop) : Nat → Nat → Nat → Prop
  | nil {x} : Iter R 0 x x
  | cons {k x y z} : R x y → Iter R k y z → Iter R (k + 1) x z

theorem Iter.mono {R R' : Nat → Nat → Prop} (h : ∀ x y, R x y → R' x y) {k p q : Nat} (hp : Iter R k p q) : Iter R' k p q := by
  induction hp with
  | nil => exact .nil
  | cons hy _ ih => exact .cons (h _ _ hy) ih

theorem Iter.stays {R : Nat → Nat → Prop} {P : Nat → Prop} (hP : ∀ x y, P x → R x y → P y) {k u v : Nat}
    (hp : Iter R k u v) (hu : P u) : P v := by
  induction hp with
  | nil => exact hu
  | cons hy _ ih => exact ih (hP _ _ hu hy)

theorem Iter.shorten {R : Nat → Nat → Prop} (mono : ∀ a b, R a b → a ≤ b) {k x z : Nat} (h : Iter R k x z) :
    x ≤ z ∧ ∃ k', k' ≤ z - x ∧ Iter R k' x z := by
  induction h with
  | nil => exact ⟨Nat.le_refl _, 0, Nat.zero_le _, .nil⟩
  | @cons k x y z hy _ ih =>
    obtain ⟨hyz, k', hk', hp⟩ := ih
    have hxy := mono _ _ hy
    refine ⟨Nat.le_trans hxy hyz, ?_⟩
    by_cases e : y = x
    · subst e; exact ⟨k', hk', hp⟩
    · exact ⟨k' + 1, by omega, .cons hy hp⟩

theorem exists_comp {α β : Type} {A : α → Prop} {R : α → β → Prop} {B : β → Prop} :
    (∃ y, (∃ x, A x ∧ R x y) ∧ B y) ↔ ∃ x, A x ∧ ∃ y, R x y ∧ B y :=
  ⟨fun ⟨y, ⟨x, hx, hxy⟩, hy⟩ => ⟨x, hx, y, hxy, hy⟩, fun ⟨x, hx, y, hxy, hy⟩ => ⟨y, ⟨x, hx, hxy⟩, hy⟩⟩

section
variable {R : Nat → Nat → Prop}

theorem Iter.zero_iff {p q : Nat} : Iter R 0 p q ↔ p = q :=
  ⟨fun h => by cases h; rfl, fun h => h ▸ .nil⟩

theorem Iter.succ_iff {k p q : Nat} : Iter R (k + 1) p q ↔ ∃ t, R p t ∧ Iter R k t q :=
  ⟨fun h => by cases h with | cons h1 h2 => exact ⟨_, h1, h2⟩, fun ⟨_, h1, h2⟩ => .cons h1 h2⟩

theorem Iter.add_iff {j k p q : Nat} : Iter R (j + k) p q ↔ ∃ t, Iter R j p t ∧ Iter R k t q := by
  induction j generalizing p with
  | zero => simp only [Nat.zero_add, Iter.zero_iff, exists_eq_left']
  | succ j ih =>
    rw [Nat.add_right_comm]
    simp only [Iter.succ_iff, ih, exists_comp]

theorem Iter.one_iff {p q : Nat} : Iter R 1 p q ↔ R p q := by
  simp only [Iter.succ_iff, Iter.zero_iff, exists_eq_right]

theorem Iter.snoc_iff {k p q : Nat} : Iter R (k + 1) p q ↔ ∃ t, Iter R k p t ∧ R t q := by
  simp only [Iter.add_iff, Iter.one_iff]

theorem Iter.unit_iff (h : ∀ x y, R x y → y = x + 1) {k p q : Nat} :
    Iter R k p q ↔ q = p + k ∧ ∀ i, i < k → R (p + i) (p + i + 1) := by
  induction k generalizing p with
  | zero => simp only [Iter.zero_iff, Nat.add_zero, Nat.not_lt_zero, false_imp_iff, implies_true, and_true, eq_comm]
  | succ k ih =>
    -- the steps are the one at `p` and those of the rest from `p + 1`; sums written as `p + i + 1` on both sides
    have ih' := @ih (p + 1)
    simp only [Nat.add_right_comm p 1] at ih'
    simp only [Iter.succ_iff, Nat.forall_lt_succ_left, Nat.add_zero, ← Nat.add_assoc]
    exact ⟨fun ⟨t, h1, h2⟩ => by obtain rfl := h _ _ h1; exact ⟨(ih'.1 h2).1, h1, (ih'.1 h2).2⟩,
      fun ⟨e, h0, h3⟩ => ⟨p + 1, h0, ih'.2 ⟨e, h3⟩⟩⟩

theorem Iter.fwd (s : Nat) {j q t : Nat} (h : Iter (fun q t => R (s + q) (s + t)) j q t) : Iter R j (s + q) (s + t) := by
  induction h with
  | nil => exact .nil
  | cons hxy _ ih => exact .cons hxy ih

theorem Iter.bwd (s : Nat) {j q t : Nat} (h : Iter (fun q t => R (s - t) (s - q)) j q t) : Iter R j (s - t) (s - q) := by
  induction h with
  | nil => exact .nil
  | cons hxy _ ih => exact Iter.snoc_iff.2 ⟨_, ih, hxy⟩

end

end YaraModel.ReEmit

namespace YaraModel.Re
open YaraModel.ReEmit (Iter exists_comp)

/-- `k` steps of a list-valued successor function (a step from `x` is a `y ∈ f x`) -/
inductive Path (f : Nat → List Nat) : Nat → Nat → Nat → Prop
  | nil {x} : Path f 0 x x
  | cons {k x y z} : y ∈ f x → Path f k y z → Path f (k+1) x z

theorem Path.append {f : Nat → List Nat} {a b x y z : Nat} (h1 : Path f a x y) (h2 : Path f b y z) :
    Path f (a + b) x z := by
  induction h1 with
  | nil => simpa using h2
  | @cons k x y' z' hy _ ih =>
    have := ih h2
    have e : k + 1 + b = (k + b) + 1 := by omega
    rw [e]; exact .cons hy this

/-- `F` maps a set inside the region `P` to the set of its `R`-successors, and `R` does not leave `P` -/
structure Lifts (F : List Nat → List Nat) (R : Nat → Nat → Prop) (P : Nat → Prop) : Prop where
  mem : ∀ (X : List Nat), (∀ x, x ∈ X → P x) → ∀ q, q ∈ F X ↔ ∃ x, x ∈ X ∧ R x q
  stays : ∀ x y, P x → R x y → P y

def newLevel (F : List Nat → List Nat) (fr acc : List Nat) : List Nat :=
  ((F fr).filter (fun x => !acc.contains x)).eraseDups

/-- invariant of the breadth-first closure `upToS F n fr acc` -/
def Closed (R : Nat → Nat → Prop) (fr acc : List Nat) : Prop :=
  (∀ x, x ∈ fr → x ∈ acc) ∧ (∀ y, y ∈ acc → y ∉ fr → ∀ z, R y z → z ∈ acc)

section
variable {F : List Nat → List Nat} {R : Nat → Nat → Prop} {P : Nat → Prop}

theorem Lifts.image (hF : Lifts F R P) {X : List Nat} (hX : ∀ x, x ∈ X → P x) : ∀ y, y ∈ F X → P y := fun y hy => by
  obtain ⟨x, hx, hxy⟩ := (hF.mem X hX y).1 hy
  exact hF.stays x y (hX x hx) hxy

theorem mem_iterNS (hF : Lifts F R P) : ∀ (n : Nat) (s : List Nat), (∀ x, x ∈ s → P x) →
    ∀ q, q ∈ iterNS F n s ↔ ∃ x, x ∈ s ∧ Iter R n x q
  | 0, s, _, q => by simp only [iterNS, Iter.zero_iff, exists_eq_right]
  | n+1, s, hs, q => by
    simp only [iterNS, mem_iterNS hF n _ (fun x hx => hF.image hs x (List.mem_eraseDups.1 hx)), List.mem_eraseDups, hF.mem s hs,
      Iter.succ_iff, exists_comp]

theorem upToS_succ (F : List Nat → List Nat) (n : Nat) (fr acc : List Nat) : upToS F (n + 1) fr acc =
    if (newLevel F fr acc).isEmpty then acc else upToS F n (newLevel F fr acc) (acc ++ newLevel F fr acc) := rfl

theorem mem_newLevel (hF : Lifts F R P) {fr acc : List Nat} (hfr : ∀ x, x ∈ fr → P x) {z : Nat} :
    z ∈ newLevel F fr acc ↔ (∃ a, a ∈ fr ∧ R a z) ∧ z ∉ acc := by
  simp only [newLevel, List.mem_eraseDups, List.mem_filter, hF.mem fr hfr, List.contains_eq_mem, Bool.not_eq_true',
    decide_eq_false_iff_not]

theorem newLevel_stays (hF : Lifts F R P) {fr acc : List Nat} (hfr : ∀ x, x ∈ fr → P x) :
    ∀ x, x ∈ newLevel F fr acc → P x := fun x hx =>
  hF.image hfr x (List.mem_filter.1 (List.mem_eraseDups.1 hx)).1

theorem Closed.succ (hF : Lifts F R P) {fr acc : List Nat} (hfr : ∀ x, x ∈ fr → P x) (hc : Closed R fr acc) {y z : Nat}
    (hy : y ∈ acc) (hz : R y z) : z ∈ acc ∨ z ∈ newLevel F fr acc := by
  by_cases hz' : z ∈ acc
  · exact .inl hz'
  · by_cases hy' : y ∈ fr
    · exact .inr ((mem_newLevel hF hfr).2 ⟨⟨y, hy', hz⟩, hz'⟩)
    · exact .inl (hc.2 y hy hy' z hz)

theorem Closed.next (hF : Lifts F R P) {fr acc : List Nat} (hfr : ∀ x, x ∈ fr → P x) (hc : Closed R fr acc) :
    Closed R (newLevel F fr acc) (acc ++ newLevel F fr acc) :=
  ⟨fun _ hx => List.mem_append_right _ hx,
   fun _ ha hnew _ hz => List.mem_append.2 (hc.succ hF hfr ((List.mem_append.1 ha).resolve_right hnew) hz)⟩

theorem closed_all {acc : List Nat} (h : ∀ y, y ∈ acc → ∀ z, R y z → z ∈ acc)
    {k y q : Nat} (hp : Iter R k y q) (hy : y ∈ acc) : q ∈ acc := by
  induction hp with
  | nil => exact hy
  | cons hz _ ih => exact ih (h _ hy _ hz)

theorem mem_upToS (hF : Lifts F R P) : ∀ (n : Nat) (fr acc : List Nat), (∀ x, x ∈ fr → P x) →
    Closed R fr acc → ∀ q, q ∈ upToS F n fr acc ↔ ∃ y, y ∈ acc ∧ ∃ k, k ≤ n ∧ Iter R k y q
  | 0, _, _, _, _, q => by simp only [upToS, Nat.le_zero, exists_eq_left, Iter.zero_iff, exists_eq_right]
  | n+1, fr, acc, hfr, hc, q => by
    rw [upToS_succ]
    split
    · -- no new position: `acc` is closed under `R`
      rename_i hnew
      rw [List.isEmpty_iff] at hnew
      exact ⟨fun h => ⟨q, h, 0, Nat.zero_le _, .nil⟩, fun ⟨y, hy, k, _, hp⟩ =>
        closed_all (fun a ha z hz => (hc.succ hF hfr ha hz).resolve_right (by rw [hnew]; exact List.not_mem_nil)) hp hy⟩
    · rw [mem_upToS hF n _ _ (newLevel_stays hF hfr) (hc.next hF hfr)]
      constructor
      · rintro ⟨y, hy, k, hk, hp⟩
        rcases List.mem_append.1 hy with hy | hy
        · exact ⟨y, hy, k, by omega, hp⟩
        · -- a new position is one step from the frontier
          obtain ⟨⟨w, hw, hwy⟩, _⟩ := (mem_newLevel hF hfr).1 hy
          exact ⟨w, hc.1 w hw, k + 1, by omega, .cons hwy hp⟩
      · rintro ⟨y, hy, k, hk, hp⟩
        cases hp with
        | nil => exact ⟨_, List.mem_append_left _ hy, 0, Nat.zero_le _, .nil⟩
        | cons hy1 hp' =>
          -- the first step leads into `acc` or the next level, from where one step less is needed
          exact ⟨_, List.mem_append.2 (hc.succ hF hfr hy hy1), _, by omega, hp'⟩

theorem mem_upToS_self (hF : Lifts F R P) (n : Nat) (s : List Nat) (hs : ∀ x, x ∈ s → P x) (q : Nat) :
    q ∈ upToS F n s s ↔ ∃ x, x ∈ s ∧ ∃ k, k ≤ n ∧ Iter R k x q :=
  mem_upToS hF n s s hs ⟨fun _ h => h, fun _ hy hn => absurd hy hn⟩ q

/-- the counted closure in the shape both evaluators write it -/
theorem mem_counted (hF : Lifts F R P) (lo hi : Nat) (s : List Nat) (hs : ∀ x, x ∈ s → P x) (q : Nat) :
    q ∈ (if lo ≤ hi then upToS F (hi - lo) (iterNS F lo s) (iterNS F lo s) else []) ↔
      ∃ p, p ∈ s ∧ ∃ k, lo ≤ k ∧ k ≤ hi ∧ Iter R k p q := by
  have hin : ∀ x, x ∈ iterNS F lo s → P x := fun x hx => by
    obtain ⟨w, hw, hp⟩ := (mem_iterNS hF lo s hs x).1 hx
    exact hp.stays hF.stays (hs w hw)
  simp only [List.mem_ite_nil_right, mem_upToS_self hF _ _ hin, mem_iterNS hF lo s hs]
  constructor
  · rintro ⟨hle, x, ⟨p, hp, hpx⟩, k, hk, hxq⟩; exact ⟨p, hp, lo + k, by omega, by omega, Iter.add_iff.2 ⟨x, hpx, hxq⟩⟩
  · rintro ⟨p, hp, k, h1, h2, hk⟩
    obtain ⟨j, rfl⟩ := Nat.exists_eq_add_of_le h1
    obtain ⟨y, hy1, hy2⟩ := Iter.add_iff.1 hk
    exact ⟨by omega, y, ⟨p, hp, hy1⟩, j, by omega, hy2⟩

end

theorem iterN_eq_iterNS (f : Nat → List Nat) : ∀ n s, iterN f n s = iterNS (·.flatMap f) n s
  | 0, _ => rfl
  | n+1, s => by simp only [iterN, iterNS, iterN_eq_iterNS f n]

theorem upTo_eq_upToS (f : Nat → List Nat) : ∀ n fr acc, upTo f n fr acc = upToS (·.flatMap f) n fr acc
  | 0, _, _ => rfl
  | n+1, fr, acc => by simp only [upTo, upToS, upTo_eq_upToS f n]

theorem lifts_flatMap {f : Nat → List Nat} {R : Nat → Nat → Prop} (h : ∀ x y, y ∈ f x ↔ R x y) :
    Lifts (·.flatMap f) R (fun _ => True) := ⟨fun X _ q => by simp only [List.mem_flatMap, h], fun _ _ _ _ => trivial⟩

theorem mem_upTo_self {f : Nat → List Nat} {R : Nat → Nat → Prop} (h : ∀ x y, y ∈ f x ↔ R x y) (n : Nat) (s : List Nat) (q : Nat) :
    q ∈ upTo f n s s ↔ ∃ x, x ∈ s ∧ ∃ k, k ≤ n ∧ Iter R k x q :=
  upTo_eq_upToS f n s s ▸ mem_upToS_self (lifts_flatMap h) n s (fun _ _ => trivial) q

/-- when every step moves forward and stays below `max x n`, the `n + 1` levels are the whole closure: stationary steps can be
    dropped, and what is left is at most `q - x ≤ n` steps -/
theorem mem_upTo_full {f : Nat → List Nat} {R : Nat → Nat → Prop} (h : ∀ x y, y ∈ f x ↔ R x y) {n : Nat}
    (hb : ∀ x y, R x y → x ≤ y ∧ y ≤ max x n) (s : List Nat) (q : Nat) :
    q ∈ upTo f (n + 1) s s ↔ ∃ x, x ∈ s ∧ ∃ k, Iter R k x q := by
  rw [mem_upTo_self h]
  refine exists_congr fun x => and_congr_right fun _ => ⟨fun ⟨k, _, hp⟩ => ⟨k, hp⟩, fun ⟨k, hk⟩ => ?_⟩
  obtain ⟨_, k', hk', hp'⟩ := hk.shorten fun a b hab => (hb a b hab).1
  have : q ≤ max x n := hk.stays (P := (· ≤ max x n)) (fun a b ha hab => by have := (hb a b hab).2; omega) (Nat.le_max_left _ _)
  exact ⟨k', by omega, hp'⟩

theorem mem_range_ends {f : Nat → List Nat} {R : Nat → Nat → Prop} (h : ∀ x y, y ∈ f x ↔ R x y) (lo hi p q : Nat) :
    q ∈ (if lo ≤ hi then upTo f (hi - lo) (iterN f lo [p]) (iterN f lo [p]) else []) ↔ ∃ k, lo ≤ k ∧ k ≤ hi ∧ Iter R k p q := by
  rw [upTo_eq_upToS, iterN_eq_iterNS, mem_counted (lifts_flatMap h) lo hi [p] (fun _ _ => trivial)]
  simp only [List.mem_singleton, exists_eq_left]

theorem Flags.cs_narrow {fl : Flags} (hw : fl.wide = false) : fl.cs = 1 := by
  simp only [Flags.cs, hw, Bool.false_eq_true, if_false]

theorem Flags.cs_wide {fl : Flags} (hw : fl.wide = true) : fl.cs = 2 := by
  simp only [Flags.cs, hw, if_true]

theorem charOk_iff {fl : Flags} {buf : Bytes} {t : UInt8 → Bool} {p : Nat} :
    charOk fl buf t p = true ↔ ∃ c, buf[p]? = some c ∧ (fl.wide = true → buf[p + 1]? = some 0) ∧ t c = true := by
  unfold charOk
  cases buf[p]? with
  | none => simp
  | some c =>
    cases fl.wide with
    | false => simp
    | true => cases buf[p + 1]? <;> simp

theorem charOk_size {fl : Flags} {buf : Bytes} {t : UInt8 → Bool} {p : Nat} (h : charOk fl buf t p = true) :
    p + fl.cs ≤ buf.size := by
  obtain ⟨c, hc, hz, _⟩ := charOk_iff.1 h
  have h1 := (Array.getElem?_eq_some_iff.1 hc).1
  unfold Flags.cs
  split
  · have := (Array.getElem?_eq_some_iff.1 (hz ‹_›)).1
    omega
  · omega

theorem mem_step {fl : Flags} {buf : Bytes} {t : UInt8 → Bool} {p q : Nat} :
    q ∈ step fl buf t p ↔ charOk fl buf t p = true ∧ q = p + fl.cs := by
  unfold step
  split <;> simp_all

theorem Matches.bounds {fl : Flags} {buf : Bytes} {r : Re} {p q : Nat} (h : Re.Matches fl buf r p q) :
    p ≤ q ∧ q ≤ max p buf.size := by
  induction h with
  | lit h | masked h | notLit h | maskedNot h | any h | cls h | wordCh h | nonWordCh h | space h | nonSpace h
  | digit h | nonDigit h => exact ⟨Nat.le_add_right _ _, Nat.le_trans (charOk_size h) (Nat.le_max_right _ _)⟩
  | empty | starNil | rangeStop | rangeAnyStop | bol | eol | wordB _ | nonWordB _ => exact ⟨Nat.le_refl _, Nat.le_max_left _ _⟩
  | cat _ _ ih1 ih2 | starStep _ _ ih1 ih2 | plusStep _ _ ih1 ih2 | rangeStep _ _ _ ih1 ih2 => omega
  | altL _ ih | altR _ ih | plusOne _ ih => exact ih
  | rangeAnyStep _ h _ ih => have := charOk_size h; omega

section
variable {fl : Flags} {buf : Bytes}

theorem cat_iff (x y : Re) (p q : Nat) :
    Re.Matches fl buf (.cat x y) p q ↔ ∃ t, Re.Matches fl buf x p t ∧ Re.Matches fl buf y t q := by
  constructor
  · intro h; cases h with | cat h1 h2 => exact ⟨_, h1, h2⟩
  · rintro ⟨t, h1, h2⟩; exact .cat h1 h2

theorem star_iff_iter {a : Re} {g : Bool} {p q : Nat} :
    Re.Matches fl buf (.star a g) p q ↔ ∃ k, Iter (Re.Matches fl buf a) k p q := by
  constructor
  · intro h
    generalize e : Re.star a g = r at h
    induction h with
    | starNil => exact ⟨0, .nil⟩
    | starStep h1 _ _ ih2 => cases e; obtain ⟨k, hk⟩ := ih2 rfl; exact ⟨k + 1, .cons h1 hk⟩
    | _ => cases e
  · rintro ⟨k, h⟩
    induction h with
    | nil => exact .starNil
    | cons hy _ ih => exact .starStep hy ih

theorem plus_iff_iter {a : Re} {g : Bool} {p q : Nat} :
    Re.Matches fl buf (.plus a g) p q ↔ ∃ k, Iter (Re.Matches fl buf a) (k + 1) p q := by
  constructor
  · intro h
    generalize e : Re.plus a g = r at h
    induction h with
    | plusOne h1 => cases e; exact ⟨0, .cons h1 .nil⟩
    | plusStep h1 _ _ ih2 => cases e; obtain ⟨k, hk⟩ := ih2 rfl; exact ⟨k + 1, .cons h1 hk⟩
    | _ => cases e
  · rintro ⟨k, h⟩
    induction k generalizing p with
    | zero => exact .plusOne (Iter.one_iff.1 h)
    | succ k ih => obtain ⟨t, h1, h2⟩ := Iter.succ_iff.1 h; exact .plusStep h1 (ih h2)

/-- both counted nodes are built by the same two rules; `N lo hi` is the node with bounds `lo`, `hi` -/
theorem counted_intro {R : Nat → Nat → Prop} {N : Nat → Nat → Nat → Nat → Prop} (stop : ∀ hi p, N 0 hi p p)
    (step : ∀ lo hi p q r, 0 < hi → R p q → N (lo - 1) (hi - 1) q r → N lo hi p r) :
    ∀ (k lo hi p q : Nat), lo ≤ k → k ≤ hi → Iter R k p q → N lo hi p q
  | 0, lo, hi, p, q, hlo, _, h => by
    obtain rfl : lo = 0 := by omega
    cases h; exact stop _ _
  | k+1, lo, hi, p, q, hlo, hhi, h => by
    cases h with
    | cons hy hp => exact step _ _ _ _ _ (by omega) hy (counted_intro stop step k (lo - 1) (hi - 1) _ _ (by omega) (by omega) hp)

theorem range_iff_iter {a : Re} {lo hi : Nat} {g : Bool} {p q : Nat} :
    Re.Matches fl buf (.range a lo hi g) p q ↔ ∃ k, lo ≤ k ∧ k ≤ hi ∧ Iter (Re.Matches fl buf a) k p q := by
  constructor
  · intro h
    generalize e : Re.range a lo hi g = r at h
    induction h generalizing lo hi with
    | rangeStop => cases e; exact ⟨0, Nat.le_refl _, Nat.zero_le _, .nil⟩
    | rangeStep hpos h1 _ _ ih2 =>
      cases e
      obtain ⟨k, h1', h2', hk⟩ := ih2 rfl
      exact ⟨k + 1, by omega, by omega, .cons h1 hk⟩
    | _ => cases e
  · rintro ⟨k, h1, h2, hk⟩
    exact counted_intro (N := fun lo hi => Re.Matches fl buf (.range a lo hi g)) (fun _ _ => .rangeStop)
      (fun _ _ _ _ _ => .rangeStep) k lo hi p q h1 h2 hk

theorem rangeAny_iff_iter {lo hi : Nat} {g : Bool} {p q : Nat} :
    Re.Matches fl buf (.rangeAny lo hi g) p q ↔ ∃ k, lo ≤ k ∧ k ≤ hi ∧ Iter (Re.Matches fl buf .any) k p q := by
  constructor
  · intro h
    generalize e : Re.rangeAny lo hi g = r at h
    induction h generalizing lo hi with
    | rangeAnyStop => cases e; exact ⟨0, Nat.le_refl _, Nat.zero_le _, .nil⟩
    | rangeAnyStep hpos hc _ ih2 =>
      cases e
      obtain ⟨k, h1', h2', hk⟩ := ih2 rfl
      exact ⟨k + 1, by omega, by omega, .cons (.any hc) hk⟩
    | _ => cases e
  · rintro ⟨k, h1, h2, hk⟩
    exact counted_intro (N := fun lo hi => Re.Matches fl buf (.rangeAny lo hi g)) (fun _ _ => .rangeAnyStop)
      (fun _ _ _ _ _ hpos hm => by cases hm with | any hc => exact .rangeAnyStep hpos hc) k lo hi p q h1 h2 hk

theorem rangeAny_iff_range {lo hi : Nat} {g g' : Bool} {p q : Nat} :
    Re.Matches fl buf (.rangeAny lo hi g) p q ↔ Re.Matches fl buf (.range .any lo hi g') p q := by
  rw [rangeAny_iff_iter, range_iff_iter]

theorem mem_step_any {p q : Nat} : q ∈ step fl buf (testAny fl) p ↔ Re.Matches fl buf .any p q :=
  mem_step.trans ⟨fun ⟨h, e⟩ => e ▸ .any h, fun h => by cases h with | any hc => exact ⟨hc, rfl⟩⟩

end

theorem ends_iff_Matches (fl : Flags) (buf : Bytes) (r : Re) : ∀ (p q : Nat),
    q ∈ r.ends fl buf p ↔ Re.Matches fl buf r p q := by
  induction r with
  | lit b | masked v m | notLit b | maskedNot v m | any | cls bm neg | wordCh | nonWordCh | space | nonSpace
  | digit | nonDigit | wordB | nonWordB =>
    -- one rule with one Boolean premise
    intro p q
    simp only [Re.ends, mem_step, List.mem_ite_nil_right, List.mem_ite_nil_left, List.mem_singleton, Bool.not_eq_true]
    constructor
    · rintro ⟨h, rfl⟩; constructor; exact h
    · intro h; cases h; rename_i h; exact ⟨h, rfl⟩
  | empty =>
    intro p q
    simp only [Re.ends, List.mem_singleton]
    constructor
    · rintro rfl; exact .empty
    · intro h; cases h; rfl
  | bol | eol =>
    intro p q
    simp only [Re.ends, List.mem_ite_nil_right, List.mem_singleton]
    constructor
    · rintro ⟨rfl, rfl⟩; constructor
    · intro h; cases h; exact ⟨rfl, rfl⟩
  | cat a b iha ihb =>
    intro p q
    simp only [Re.ends, List.mem_eraseDups, List.mem_flatMap, iha, ihb, cat_iff]
  | alt a b iha ihb =>
    intro p q
    simp only [Re.ends, List.mem_eraseDups, List.mem_append, iha, ihb]
    exact ⟨fun h => h.elim .altL .altR, fun h => by cases h with | altL h => exact .inl h | altR h => exact .inr h⟩
  | star a g iha =>
    intro p q
    simp only [Re.ends, mem_upTo_full iha fun _ _ => Matches.bounds, List.mem_singleton, exists_eq_left, star_iff_iter]
  | plus a g iha =>
    intro p q
    simp only [Re.ends, mem_upTo_full iha fun _ _ => Matches.bounds, List.mem_eraseDups, iha, plus_iff_iter, Iter.succ_iff]
    exact ⟨fun ⟨x, hx, k, hp⟩ => ⟨k, x, hx, hp⟩, fun ⟨k, x, hx, hp⟩ => ⟨x, hx, k, hp⟩⟩
  | range a lo hi g iha =>
    intro p q
    simp only [Re.ends, mem_range_ends iha, range_iff_iter]
  | rangeAny lo hi g =>
    intro p q
    simp only [Re.ends, mem_range_ends (fun _ _ => mem_step_any), rangeAny_iff_iter]

end YaraModel.Re
