/- Aho-Corasick construction: the paths of a trie (`pathsOf`: prefix-closed, no path without the child: `Trie.not_path_of_no_child`), match-pool surgery (`lastMatch`, `setNext`), the ordered
   specification list `specList` -/
import YaraModel.Lemmas.AcBuildBfs
import YaraModel.Lemmas.AcTheory
namespace YaraModel.AC.Build
open YaraModel.Text

def pathsOf (A : Auto) : List Bytes := (List.range A.states.size).map fun i => (A.st i).path

theorem mem_pathsOf {A : Auto} {p : Bytes} : p ∈ pathsOf A ↔ ∃ i, i < A.states.size ∧ (A.st i).path = p := by
  simp [pathsOf]

theorem pathsOf_congr {A B : Auto} (hs : Same A B) : pathsOf B = pathsOf A := by
  unfold pathsOf
  rw [hs.size]
  exact List.map_congr_left fun i _ => hs.path i

theorem Trie.nil_mem {A : Auto} (hT : Trie A) : [] ∈ pathsOf A := mem_pathsOf.mpr ⟨0, hT.size_pos, hT.root_path⟩

theorem Trie.prefixClosed {A : Auto} (hT : Trie A) : PrefixClosed (pathsOf A) := by
  intro p c hp
  obtain ⟨i, hi, hpi⟩ := mem_pathsOf.mp hp
  have h0 : 0 < i := by
    rcases Nat.eq_zero_or_pos i with h | h
    · subst h; rw [hT.root_path] at hpi; simp at hpi
    · exact h
  obtain ⟨q, hq1, hq2⟩ := hT.has_parent i h0 hi
  have := hT.child_path q hq1 i hq2
  rw [hpi] at this
  exact mem_pathsOf.mpr ⟨q, hq1, (List.append_inj' this rfl).1.symm⟩

theorem Trie.not_path_of_no_child {A : Auto} (hT : Trie A) {s : Nat} {c : UInt8} (hs : s < A.states.size)
    (hno : ∀ n ∈ (A.st s).children, (A.st n).input ≠ c) : (A.st s).path ++ [c] ∉ pathsOf A := by
  intro h
  obtain ⟨j, hj, hp⟩ := mem_pathsOf.mp h
  have := hT.child_of_path hs hj hp
  exact hno j this.1 this.2

theorem setNext_st (A : Auto) (i1 nx : Nat) (j : Nat) : (setNext A i1 nx).st j = A.st j := rfl

@[simp] theorem setNext_states (A : Auto) (i1 nx : Nat) : (setNext A i1 nx).states = A.states := rfl

@[simp] theorem setNext_pool_size (A : Auto) (i1 nx : Nat) : (setNext A i1 nx).pool.size = A.pool.size := by
  simp [setNext]

theorem setNext_next (A : Auto) (i1 nx e : Nat) :
    poolNextAt (setNext A i1 nx).pool e = if e = i1 - 1 ∧ e < A.pool.size then nx else poolNextAt A.pool e := by
  unfold setNext poolNextAt
  rw [getD_set]
  by_cases h : e = i1 - 1
  · subst h; split <;> rfl
  · rw [if_neg (fun hh => h hh.1), if_neg (fun hh => h hh.1)]

theorem setNext_info (A : Auto) (i1 nx e : Nat) (a b : Nat) (h : ∃ n, A.pool[e]? = some (a, b, n)) :
    ∃ n, (setNext A i1 nx).pool[e]? = some (a, b, n) := by
  obtain ⟨n, hn⟩ := h
  unfold setNext
  simp only [Array.getElem?_setIfInBounds]
  by_cases h1 : i1 - 1 = e
  · subst h1
    have hlt : i1 - 1 < A.pool.size := (Array.getElem?_eq_some_iff.mp hn).1
    refine ⟨nx, ?_⟩
    have hg : A.pool[i1 - 1] = (a, b, n) := (Array.getElem?_eq_some_iff.mp hn).2
    simp [hlt, hg]
  · exact ⟨n, by simp [h1, hn]⟩

theorem setNext_noop (A : Auto) (i1 : Nat) : setNext A i1 (poolNext A i1) = A := by
  show ({ A with pool := A.pool.setIfInBounds (i1 - 1) (A.pool.getD (i1 - 1) (0, 0, 0)) } : Auto) = A
  rw [setIfInBounds_getD]

theorem lastMatch_spec (A : Auto) (init : List Nat) : ∀ (last r fuel : Nat), ChainSeg A.pool r (init ++ [last]) 0 →
    init.length ≤ fuel → lastMatch A fuel r = last + 1 := by
  induction init with
  | nil =>
    intro last r fuel h _
    simp only [List.nil_append, ChainSeg] at h
    cases fuel with
    | zero => simp [lastMatch, h.1]
    | succ f =>
      simp only [lastMatch]
      rw [if_pos (by rw [poolNext_eq, h.1]; exact h.2.2), h.1]
  | cons e init ih =>
    intro last r fuel h hl
    simp only [List.cons_append, ChainSeg] at h
    cases fuel with
    | zero => simp at hl
    | succ f =>
      simp only [lastMatch]
      rw [poolNext_eq, h.1, Nat.add_sub_cancel]
      -- `next` is not NULL: a list starts there
      rw [if_neg fun h0 => List.append_ne_nil_of_right_ne_nil init (List.cons_ne_nil last []) (h0 ▸ h.2.2).nil_of_zero]
      exact ih last _ f h.2.2 (by simpa using hl)

theorem lastMatch_of_chain (A : Auto) {r : Nat} {l : List Nat} (hc : ChainSeg A.pool r l 0) (hr : r ≠ 0)
    (hlen : l.length ≤ A.pool.size) : ∃ init last, l = init ++ [last] ∧ lastMatch A A.pool.size r = last + 1 := by
  rcases List.eq_nil_or_concat l with hl | ⟨init, last, hl⟩
  · rw [hl] at hc; exact absurd hc hr
  · rw [List.concat_eq_append] at hl
    subst hl
    exact ⟨init, last, rfl, lastMatch_spec A init last _ _ hc (by simp at hlen; omega)⟩

theorem setNext_next_ne (A : Auto) (i1 nx : Nat) {e : Nat} (h : e ≠ i1 - 1) :
    poolNextAt (setNext A i1 nx).pool e = poolNextAt A.pool e := by
  rw [setNext_next, if_neg (fun hh => h hh.1)]

theorem ChainSeg.setNext_frame {A : Auto} {r tl : Nat} {l : List Nat} (h : ChainSeg A.pool r l tl) (i1 v : Nat)
    (hnotin : i1 - 1 ∉ l) : ChainSeg (setNext A i1 v).pool r l tl :=
  h.congr (by simp) (fun _ he => setNext_next_ne A i1 v (fun hh => hnotin (hh ▸ he)))

theorem ChainSeg.setNext_last {A : Auto} {r last : Nat} {init : List Nat} (h : ChainSeg A.pool r (init ++ [last]) 0)
    (hn : (init ++ [last]).Nodup) (v : Nat) : ChainSeg (setNext A (last + 1) v).pool r (init ++ [last]) v := by
  obtain ⟨m, h1, h2⟩ := h.split
  have hnotin : last ∉ init := by
    rw [List.nodup_append] at hn
    intro hmem
    exact hn.2.2 last hmem last (by simp) rfl
  refine ChainSeg.append (m := m) (h1.setNext_frame (last + 1) v hnotin) ?_
  simp only [ChainSeg] at h2 ⊢
  refine ⟨h2.1, by simpa using h2.2.1, ?_⟩
  rw [setNext_next]
  simp [h2.2.1]

def headRef : List Nat → Nat
  | [] => 0
  | e :: _ => e + 1

theorem headRef_append (l1 l2 : List Nat) : headRef (l1 ++ l2) = if l1 = [] then headRef l2 else headRef l1 := by
  cases l1 <;> rfl

theorem ChainSeg.head_eq {pool : Array (Nat × Nat × Nat)} {r tl : Nat} {l : List Nat} (h : ChainSeg pool r l tl) :
    r = if l = [] then tl else headRef l := by
  cases l with
  | nil => exact h
  | cons e l => exact h.1

theorem ChainSeg.ref_eq {pool : Array (Nat × Nat × Nat)} {r : Nat} {l : List Nat} (h : ChainSeg pool r l 0) : r = headRef l := by
  rw [h.head_eq]; cases l <;> rfl

theorem mem_specList {atoms : List (Nat × Atom)} {e : Nat} : ∀ (w : Bytes),
    e ∈ specList atoms w ↔ ∃ a, atoms[e]? = some a ∧ a.2.bytes <:+ w := by
  intro w
  induction w with
  | nil =>
    simp only [specList, mem_ownIdx]
    constructor
    · rintro ⟨a, h1, h2⟩; exact ⟨a, h1, by rw [h2]; exact List.suffix_refl _⟩
    · rintro ⟨a, h1, h2⟩; exact ⟨a, h1, List.eq_nil_of_suffix_nil h2⟩
  | cons c t ih =>
    simp only [specList, List.mem_append, mem_ownIdx, ih]
    constructor
    · rintro (⟨a, h1, h2⟩ | ⟨a, h1, h2⟩)
      · exact ⟨a, h1, by rw [h2]; exact List.suffix_refl _⟩
      · exact ⟨a, h1, h2.trans (List.suffix_cons c t)⟩
    · rintro ⟨a, h1, h2⟩
      rcases List.suffix_cons_iff.mp h2 with h | h
      · exact Or.inl ⟨a, h1, h⟩
      · exact Or.inr ⟨a, h1, h⟩

theorem specList_nodup (atoms : List (Nat × Atom)) : ∀ (w : Bytes), (specList atoms w).Nodup := by
  intro w
  induction w with
  | nil => exact ownIdx_nodup _ _
  | cons c t ih =>
    simp only [specList]
    rw [List.nodup_append]
    refine ⟨ownIdx_nodup _ _, ih, ?_⟩
    intro a ha b hb e
    subst e
    obtain ⟨a1, h1, h2⟩ := mem_ownIdx.mp ha
    obtain ⟨a2, h3, h4⟩ := (mem_specList t).mp hb
    rw [h1] at h3; cases h3
    have := h4.length_le
    rw [h2] at this
    simp at this
    omega

theorem specList_length_le (atoms : List (Nat × Atom)) (w : Bytes) : (specList atoms w).length ≤ atoms.length := by
  apply nodup_length_le _ _ (specList_nodup atoms w)
  intro e he
  obtain ⟨a, ha, _⟩ := (mem_specList w).mp he
  exact (List.getElem?_eq_some_iff.mp ha).1

/-- only paths carry entries, so the list of `w` is the list of its longest path-suffix -/
theorem specList_lsuf {atoms : List (Nat × Atom)} {P : List Bytes} (hin : ∀ (e : Nat) (a : Nat × Atom), atoms[e]? = some a → a.2.bytes ∈ P) :
    ∀ (w : Bytes), specList atoms w = specList atoms (lsuf P w) := by
  intro w
  fun_induction lsuf P w with      -- cases as in AcTheory
  | case1 => rfl
  | case2 c t h => rfl
  | case3 c t h ih =>
    have : ownIdx atoms (c :: t) = [] := List.eq_nil_iff_forall_not_mem.mpr fun e he => by
      obtain ⟨a, ha, hp⟩ := mem_ownIdx.mp he
      exact h (List.contains_iff_mem.mpr (hp ▸ hin e a ha))
    rw [← ih, specList, this, List.nil_append]

theorem specList_of_ne_nil (atoms : List (Nat × Atom)) (w : Bytes) (h : w ≠ []) :
    specList atoms w = ownIdx atoms w ++ specList atoms w.tail := by
  cases w with
  | nil => exact absurd rfl h
  | cons c t => rfl

end YaraModel.AC.Build
