/- The round trip on abstract arenas.  `AGood ds rs`: bodies `ds` whose registered slots `rs` hold references into them, which is
   what `WF` leaves of an arena once the addresses are gone.  The relocation loop, seen from the loaded buffers (`GoodRef`), turns
   every such reference into a pointer that denotes it; hence the image of a good `(ds, rs)` loads into an arena with exactly
   that abstract content (`applyRelocs_good`, `load_image_good`, `load_save_abs`). -/
import YaraModel.Lemmas.ArenaImage
namespace YaraModel.Arena
open YaraModel.Gen.ArenaLayout

/-- on bodies (`D`): null or a reference to a byte of `ds`; `GoodRef` below is its twin on buffers -/
def GoodD (ds : List Bytes) (x : Option Ref) : Prop :=
  x = none ∨ ∃ t, x = some t ∧ t.buf < ds.length ∧ t.off < (ds.getD t.buf []).length

theorem goodD_iff_aTarget (ds : List Bytes) (rs : List Ref) (x : Option Ref) : GoodD ds x ↔ ATarget (ds, rs) x = true := by
  cases x <;> simp [GoodD, ATarget, aBody]

/-- what `WF` leaves of an arena once the addresses are gone (`AGood.of_wf`), and all the relocation loop needs -/
structure AGood (ds : List Bytes) (rs : List Ref) : Prop where
  apart : rs.Pairwise NoOverlap
  inside : ∀ r ∈ rs, r.buf < ds.length ∧ r.off + 8 ≤ (ds.getD r.buf []).length
  refs : ∀ r ∈ rs, ∃ x, rd64 (ds.getD r.buf []) r.off = encRef x ∧ GoodD ds x

theorem AGood.sublist {ds : List Bytes} {rs l : List Ref} (g : AGood ds rs) (hl : l.Sublist rs) : AGood ds l :=
  ⟨g.apart.sublist hl, fun r hr => g.inside r (hl.subset hr), fun r hr => g.refs r (hl.subset hr)⟩

theorem AGood.of_wf {a : Arena} (h : WF a) : AGood (bodies (toRefs a)) a.relocs := by
  refine ⟨h.slots.1, ?_, ?_⟩
  · intro r hr
    have ⟨h1, h2⟩ := h.slots.2 r hr
    exact ⟨by rw [length_bodies_toRefs]; exact h2, by rw [length_getD_bodies_toRefs]; exact h1⟩
  · intro r hr
    refine ⟨(ptrToRef a.bufs (getSlot a r)).2, ?_, ?_⟩
    · rw [bodies_getD]
      show getSlot (toRefs a) r = _
      rw [toRefs_eq, getSlot_mapSlots _ h.slots hr, Nat.mod_eq_of_lt (encRef_lt _)]
    · obtain ⟨_, ⟨_, h2⟩ | ⟨t, ht, hb, ho, _⟩⟩ := ptrToRef_valid h.ranges (h.valid r hr)
      · exact Or.inl h2
      · exact Or.inr ⟨t, ht, by rw [length_bodies_toRefs]; exact hb, by rw [length_getD_bodies_toRefs]; exact ho⟩

/-- a reference as the saver writes it: null, or (buffer, offset) of a used byte, both encodable -/
def GoodRef (bufs : List Buf) (x : Option Ref) : Prop :=
  x = none ∨ ∃ t, x = some t ∧ t.buf < bufs.length ∧ t.buf < 2 ^ 32 - 1 ∧ t.off < (bufs.getD t.buf {}).data.length ∧ t.off < 2 ^ 32

theorem applyRelocs_step (cfg : LoaderCfg) (a : Arena) (rest : Bytes) {r : Ref} {p : Nat}
    (he : r.buf < 2 ^ 32 - 1 ∧ r.off < 2 ^ 32)
    (hr : relocRejected cfg a r = false) (hi : InB a r)
    (hf : refRefused cfg a (decRef (getSlot a r)) = false)
    (hp : refToPtr a.bufs (decRef (getSlot a r)) = .ok p) :
    applyRelocs cfg a (refBytes r ++ rest) =
      applyRelocs cfg { setSlot a r p with relocs := a.relocs ++ [r] } rest := by
  have hd := decRef_encRef_some he.1 he.2
  rw [← Nat.mod_eq_of_lt (encRef_lt (some r)), ← leVal_leBytes8, leBytes8] at hd
  rw [refBytes, leBytes8]
  simp only [List.cons_append, List.nil_append]
  rw [applyRelocs, hd]
  simp only [hr, hi, hf, hp, Bool.and_false, Bool.false_eq_true, if_false, not_true_eq_false]

theorem goodRef_ok {bufs : List Buf} {x : Option Ref} (h : GoodRef bufs x) :
    decRef (encRef x) = x ∧ ∃ p, refToPtr bufs x = .ok p := by
  rcases h with rfl | ⟨t, rfl, hb, hb2, ho, ho2⟩
  · exact ⟨decRef_encRef_none, 0, rfl⟩
  · exact ⟨decRef_encRef_some hb2 ho2, _, refToPtr_some hb (Nat.le_of_lt ho)⟩

theorem goodRef_not_refused (cfg : LoaderCfg) {a : Arena} {x : Option Ref} (h : GoodRef a.bufs x) : refRefused cfg a x = false := by
  rcases h with rfl | ⟨t, rfl, hb, _, ho, _⟩
  · rfl
  · have h1 : decide (t.buf ≥ a.bufs.length) = false := decide_eq_false (Nat.not_le.2 hb)
    have ho' : t.off < (a.bufAt t.buf).data.length := ho
    have h2 : decide (t.off ≥ (a.bufAt t.buf).data.length) = false := decide_eq_false (Nat.not_le.2 ho')
    have h3 : decide (t.off > (a.bufAt t.buf).data.length) = false := decide_eq_false (Nat.not_lt.2 (Nat.le_of_lt ho'))
    dsimp only [refRefused]
    rw [h1, h2, h3]
    cases cfg.refStrict <;> rfl

theorem GoodRef.congr {l l' : List Buf} (h : l.map key = l'.map key) {x : Option Ref} (g : GoodRef l x) : GoodRef l' x := by
  have hl : l.length = l'.length := by simpa using congrArg List.length h
  rcases g with rfl | ⟨t, rfl, hb, hb2, ho, ho2⟩
  · exact Or.inl rfl
  · refine Or.inr ⟨t, rfl, by omega, hb2, ?_, ho2⟩
    rw [← (getD_of_keys h t.buf).2]; exact ho

/-- `u - k` in arithmetic modulo `m` (the loader's `used - 8` in `size_t`) does not wrap when `k ≤ u` -/
theorem wrap_sub {u k m : Nat} (hk : k ≤ u) (hu : u < m) : (u + m - k) % m = u - k := by
  rw [Nat.sub_add_comm hk, Nat.add_mod_right, Nat.mod_eq_of_lt (Nat.lt_of_le_of_lt (Nat.sub_le u k) hu)]

theorem applyRelocs_ok (cfg : LoaderCfg) (rs : List Ref) (A : Arena)
    (hs : SlotsOk A rs)
    (henc : ∀ r ∈ rs, r.buf < 2 ^ 32 - 1 ∧ r.off < 2 ^ 32)
    (hbase : ∀ r ∈ rs, (A.bufAt r.buf).base ≠ 0)
    (hsz : ∀ r ∈ rs, (A.bufAt r.buf).data.length < 2 ^ 64)
    (hv : ∀ r ∈ rs, ∃ x, getSlot A r = encRef x ∧ GoodRef A.bufs x) :
    applyRelocs cfg A (relocBytes rs) =
      .ok { mapSlots (backVal A.bufs) rs A with relocs := A.relocs ++ rs } := by
  induction rs generalizing A with
  | nil => simp [relocBytes, applyRelocs]
  | cons r t ih =>
    have ⟨hno, hin⟩ := hs.head
    obtain ⟨x, hx, hg⟩ := hv r (List.mem_cons_self ..)
    obtain ⟨hdx, p, hp⟩ := goodRef_ok hg
    have henr := henc r (List.mem_cons_self ..)
    have hb := hbase r (List.mem_cons_self ..)
    have hrej : relocRejected cfg A r = false := by
      unfold relocRejected
      have h8 : 8 ≤ (A.bufAt r.buf).data.length := Nat.le_trans (Nat.le_add_left 8 r.off) hin.1
      have ho : ¬ r.off > (A.bufAt r.buf).data.length - 8 := Nat.not_lt.2 (Nat.le_sub_of_add_le hin.1)
      simp only [Nat.not_le.2 hin.2, Nat.not_lt.2 h8, wrap_sub h8 (hsz r (List.mem_cons_self ..)), ho, decide_false, hb,
        Bool.or_false, ite_self]
    rw [relocBytes_cons,
      applyRelocs_step cfg A _ henr hrej hin (by rw [hx, hdx]; exact goodRef_not_refused cfg hg) (by rw [hx, hdx]; exact hp)]
    have hk : ({ setSlot A r p with relocs := A.relocs ++ [r] } : Arena).bufs.map key = A.bufs.map key := keys_setSlot A r p
    have hs' : SlotsOk ({ setSlot A r p with relocs := A.relocs ++ [r] } : Arena) t := hs.tail.setSlot r p
    rw [ih _ hs' (fun s hs2 => henc s (List.mem_cons_of_mem _ hs2))
      (fun s hs2 => by
        show (Arena.bufAt (setSlot A r p) s.buf).base ≠ 0
        rw [bufAt_setSlot_base]; exact hbase s (List.mem_cons_of_mem _ hs2))
      (fun s hs2 => by
        show (Arena.bufAt (setSlot A r p) s.buf).data.length < 2 ^ 64
        rw [bufAt_setSlot_len]; exact hsz s (List.mem_cons_of_mem _ hs2))
      (fun s hs2 => by
        obtain ⟨y, hy, hgy⟩ := hv s (List.mem_cons_of_mem _ hs2)
        refine ⟨y, ?_, hgy.congr hk.symm⟩
        show getSlot (setSlot A r p) s = encRef y
        rw [getSlot_setSlot_other _ (hno s hs2)]; exact hy)]
    rw [backVal_congr hk, mapSlots_withRelocs, mapSlots_cons]
    have hbr : backVal A.bufs (getSlot A r) = p := by unfold backVal; rw [hx, hdx, hp]
    rw [hbr]
    have happ : A.relocs ++ [r] ++ t = A.relocs ++ r :: t := by simp
    rw [happ]

theorem goodRef_back {bufs : List Buf} (hr : RangesOk bufs) {x : Option Ref} (hg : GoodRef bufs x) :
    ∃ p, refToPtr bufs x = .ok p ∧ ValidPtr bufs p ∧ p < 2 ^ 64 ∧ ptrToRef bufs p = (true, x) :=
  refToPtr_denotes hr fun t e => by
    obtain rfl | ⟨_, rfl, hl, _, ho, _⟩ := hg
    · cases e
    · cases e; exact ⟨hl, ho⟩

/-- the hypotheses of `applyRelocs_ok` (`A`: the arena before the loop; only its buffers matter) -/
theorem loaded_slots (alloc : Nat → Nat) (hnz : ∀ i, alloc i ≠ 0) {ds : List Bytes} (hn : ds.length ≤ maxBuffers)
    (hs : ∀ d ∈ ds, d.length < 2 ^ 32) {rs : List Ref} (g : AGood ds rs) {A : Arena} (hA : A.bufs = loadedBufs alloc 0 ds) :
    SlotsOk A rs ∧ (∀ r ∈ rs, ∃ x, getSlot A r = encRef x ∧ GoodRef A.bufs x) ∧
    (∀ r ∈ rs, (r.buf < 2 ^ 32 - 1 ∧ r.off < 2 ^ 32) ∧ (A.bufAt r.buf).base ≠ 0 ∧ (A.bufAt r.buf).data.length < 2 ^ 64) := by
  have hlen : A.bufs.length = ds.length := by rw [hA]; exact loadedBufs_length alloc 0 ds
  have hdata : ∀ j, (A.bufAt j).data = ds.getD j [] := fun j => by
    rw [Arena.bufAt, hA]; exact loadedBufs_getD_data alloc 0 ds j
  have hlen32 : ∀ j, j < ds.length → (ds.getD j []).length < 2 ^ 32 := fun j hj =>
    hs _ (by rw [List.getD_eq_getElem?_getD, List.getElem?_eq_getElem hj]; exact List.getElem_mem hj)
  -- a buffer index and an offset into its body fit the two 32-bit fields of a reference
  have henc : ∀ {b o : Nat}, b < ds.length → o < (ds.getD b []).length → b < 2 ^ 32 - 1 ∧ o < 2 ^ 32 := fun hb ho =>
    ⟨Nat.lt_of_lt_of_le hb (Nat.le_trans hn (by decide)), Nat.lt_trans ho (hlen32 _ hb)⟩
  refine ⟨⟨g.apart, fun r hr => ⟨?_, by rw [hlen]; exact (g.inside r hr).1⟩⟩, fun r hr => ?_, fun r hr => ?_⟩
  · rw [hdata]; exact (g.inside r hr).2
  · obtain ⟨x, hx, hg⟩ := g.refs r hr
    refine ⟨x, by unfold getSlot; rw [hdata]; exact hx, ?_⟩
    rcases hg with rfl | ⟨t, rfl, hb, ho⟩
    · exact Or.inl rfl
    · exact Or.inr ⟨t, rfl, by rw [hlen]; exact hb, (henc hb ho).1, by rw [← bufAt_eq_getD, hdata]; exact ho, (henc hb ho).2⟩
  · have ⟨hb, ho⟩ := g.inside r hr
    have ho' : r.off < (ds.getD r.buf []).length := Nat.lt_of_lt_of_le (Nat.lt_add_of_pos_right (by decide)) ho
    rw [hdata]
    refine ⟨henc hb ho', ?_, Nat.lt_trans (hlen32 _ hb) (by decide)⟩
    -- a body that holds a slot is not empty, so it was given an address
    rw [Arena.bufAt, hA, loadedBufs_getD _ _ _ _ hb, if_neg (Nat.ne_of_gt (Nat.zero_lt_of_lt ho'))]
    exact hnz _

/-- the loop succeeds wherever the blocks lie; only reading the pointers back (`abs`) needs them apart -/
theorem applyRelocs_good (cfg : LoaderCfg) (alloc : Nat → Nat) (hnz : ∀ i, alloc i ≠ 0) {ds : List Bytes} (hn : ds.length ≤ maxBuffers)
    (hs : ∀ d ∈ ds, d.length < 2 ^ 32) {rs : List Ref} (g : AGood ds rs) :
    ∃ A, applyRelocs cfg { bufs := loadedBufs alloc 0 ds, relocs := [], init := loadInitialSize } (relocBytes rs) = .ok A ∧
      A.relocs = rs ∧ (RangesOk (loadedBufs alloc 0 ds) → abs A = (ds, rs)) := by
  let A0 : Arena := { bufs := loadedBufs alloc 0 ds, relocs := [], init := loadInitialSize }
  have ⟨hslots, hgood, hok⟩ := loaded_slots alloc hnz hn hs g (A := A0) rfl
  refine ⟨_, applyRelocs_ok cfg rs A0 hslots (fun r hr => (hok r hr).1) (fun r hr => (hok r hr).2.1) (fun r hr => (hok r hr).2.2) hgood,
    List.nil_append rs, fun hA => ?_⟩
  -- converting the pointers to references again gives the bodies back
  unfold abs
  refine Prod.ext ?_ (List.nil_append rs)
  have hk : ({ mapSlots (backVal A0.bufs) rs A0 with relocs := [] ++ rs } : Arena).bufs.map key = A0.bufs.map key :=
    keys_mapSlots _ _ _
  rw [toRefs_of_keys hk, mapSlots_withRelocs]
  show bodies (mapSlots (fun v => encRef (ptrToRef A0.bufs v).2) ([] ++ rs) (mapSlots (backVal A0.bufs) rs A0)) = _
  rw [List.nil_append]
  have hpoint : ∀ r ∈ rs, backVal A0.bufs (getSlot A0 r) < 2 ^ 64 ∧
      encRef (ptrToRef A0.bufs (backVal A0.bufs (getSlot A0 r))).2 = getSlot A0 r := by
    intro r hr
    obtain ⟨x, hx, hg⟩ := hgood r hr
    obtain ⟨p, hp, _, hlt, hback⟩ := goodRef_back hA hg
    have hbv : backVal A0.bufs (getSlot A0 r) = p := by
      unfold backVal; rw [hx, (goodRef_ok hg).1, hp]
    rw [hbv, hback, hx]; exact ⟨hlt, rfl⟩
  rw [mapSlots_comp _ _ hslots (fun r hr => (hpoint r hr).1), mapSlots_id (fun r hr => (hpoint r hr).2)]
  exact loadedBufs_data alloc 0 ds

theorem load_image_good (cfg : LoaderCfg) (alloc : Nat → Nat) (hnz : ∀ i, alloc i ≠ 0) {ds : List Bytes} (hn : ds.length ≤ maxBuffers)
    (hs : ∀ d ∈ ds, d.length < 2 ^ 32 ∧ CapOk d.length) {rs : List Ref} (g : AGood ds rs) :
    ∃ A, load cfg alloc (image ds (relocBytes rs)) = .ok A ∧ A.relocs = rs ∧
      (RangesOk (loadedBufs alloc 0 ds) → abs A = (ds, rs)) := by
  rw [load_image cfg alloc ds hn hs]
  exact applyRelocs_good cfg alloc hnz hn (fun d hd => (hs d hd).1) g

theorem saved_loadable {a : Arena} (hn : a.bufs.length ≤ maxBuffers) (hs2 : ∀ b ∈ a.bufs, b.data.length ≤ 2 ^ 31) :
    (bodies (toRefs a)).length ≤ maxBuffers ∧ ∀ d ∈ bodies (toRefs a), d.length < 2 ^ 32 ∧ CapOk d.length :=
  ⟨by rw [length_bodies_toRefs]; exact hn, loadable_of_small (length_le_of_mem_bodies_toRefs hs2)⟩

/-- the bounds are on the abstract content: what a caller that knows `abs a`, not `a`, has -/
theorem load_save_abs (cfg : LoaderCfg) {a : Arena} (h : WF a) (hs : ∀ d ∈ (abs a).1, d.length ≤ 2 ^ 31)
    (alloc : Nat → Nat) (hA : RangesOk (loadedBufs alloc 0 (abs a).1)) (hnz : ∀ i, alloc i ≠ 0) :
    ∃ a', load cfg alloc (save a) = .ok a' ∧ abs a' = abs a := by
  obtain ⟨A, hl, _, ha⟩ := load_image_good cfg alloc hnz (length_bodies_toRefs a ▸ h.count) (loadable_of_small hs) (AGood.of_wf h)
  exact ⟨A, save_eq_image a ▸ hl, ha hA⟩

end YaraModel.Arena
