/- The protocol `WF` is preserved by growth and by appending; one allocation (`allocMem_spec`), and hence a run of them
   (`runAllocs_abs`), acts on `abs` by appending the bytes, for every capacity, hook setting and admissible allocator answer. -/
import YaraModel.Lemmas.ArenaGrow
namespace YaraModel.Arena
open YaraModel.Gen.ArenaLayout

theorem WF.of_frame {a a' : Arena} (h : WF a) (hr : a'.relocs = a.relocs) (hn : a'.bufs.length = a.bufs.length)
    (hl : ∀ j, (a.bufAt j).data.length ≤ (a'.bufAt j).data.length) (hs : ∀ j, (a'.bufAt j).data.length < 2 ^ 32)
    (hR : RangesOk a'.bufs) (hv : ∀ r ∈ a.relocs, ValidPtr a'.bufs (getSlot a' r)) : WF a' := by
  refine ⟨?_, hR, ?_, hn ▸ h.count, ?_⟩
  · rw [hr]
    exact ⟨h.slots.1, fun r hr' => ⟨Nat.le_trans (h.slots.2 r hr').1 (hl r.buf), hn ▸ (h.slots.2 r hr').2⟩⟩
  · rw [hr]; exact hv
  · intro x hx
    obtain ⟨j, _, rfl⟩ := mem_iff_getD.1 hx
    exact hs j

theorem WF.of_keys3 {a a' : Arena} (h : WF a) (hr : a'.relocs = a.relocs) (hk : a'.bufs.map key3 = a.bufs.map key3)
    (hv : ∀ r ∈ a.relocs, ValidPtr a.bufs (getSlot a' r)) : WF a' := by
  have hlen : ∀ j, (a'.bufAt j).data.length = (a.bufAt j).data.length := fun j => (getD_of_keys3 hk j).2.2
  exact h.of_frame hr (by simpa using congrArg List.length hk) (fun j => Nat.le_of_eq (hlen j).symm)
    (fun j => by rw [hlen]; exact h.size_lt j) (h.ranges.congr hk.symm)
    (fun r hr' => (hv r hr').congr (keys_of_keys3 hk).symm)

theorem wf_growBuf {a : Arena} (h : WF a) {b newBase nc : Nat} (hb : b < a.bufs.length) (hf : Fresh a b newBase nc) (zero : Bool) :
    WF (growBuf a b newBase nc zero) := by
  rw [growBuf_eq]
  obtain ⟨μ, hμ⟩ : ∃ μ, μ = moveVal (a.bufAt b).base (a.bufAt b).data.length newBase := ⟨_, rfl⟩
  rw [← hμ]
  have hk3 := keys3_moved μ a b nc newBase (!zero)
  have hdat : ∀ j, ((setMeta (mapSlots μ a.relocs a) b nc newBase (!zero)).bufAt j).data.length = (a.bufAt j).data.length := by
    intro j; rw [bufAt_setMeta_data, bufAt_mapSlots_len]
  refine h.of_frame (by simp [setMeta]) (by simp [setMeta]) (fun j => Nat.le_of_eq (hdat j).symm)
    (fun j => by rw [hdat]; exact h.size_lt j) ((rangesOk_setMeta h.ranges hf (!zero)).congr hk3.symm) (fun r hr => ?_)
  have hm := ptrToRef_after_move h.ranges hb hf (!zero) (h.valid r hr)
  rw [← hμ] at hm
  rw [getSlot_setMeta, getSlot_mapSlots _ h.slots hr, Nat.mod_eq_of_lt hm.2.1]
  exact hm.2.2.congr (keys_of_keys3 hk3).symm

def appendBuf (a : Arena) (b : Nat) (f : Bytes) : Arena :=
  { a with bufs := a.bufs.modify b (fun x => { x with data := x.data ++ f }) }

theorem setBuf_append_eq (a : Arena) (b : Nat) (f : Bytes) :
    a.setBuf b { a.bufAt b with data := (a.bufAt b).data ++ f } = appendBuf a b f :=
  setBuf_bufAt a b (fun x => { x with data := x.data ++ f })

theorem getElem?_append_left' (d f : Bytes) {i : Nat} (h : i < d.length) : (d ++ f)[i]? = d[i]? :=
  List.getElem?_append_left h

theorem bufAt_appendBuf (a : Arena) (b : Nat) (f : Bytes) (j : Nat) :
    (appendBuf a b f).bufAt j = if b = j ∧ j < a.bufs.length then { a.bufAt j with data := (a.bufAt j).data ++ f } else a.bufAt j := by
  unfold appendBuf Arena.bufAt
  rw [List.getD_modify]

theorem appendBuf_length (a : Arena) (b : Nat) (f : Bytes) : (appendBuf a b f).bufs.length = a.bufs.length := by
  simp [appendBuf]

theorem getSlot_appendBuf {a : Arena} (b : Nat) (f : Bytes) {r : Ref} (h : InB a r) :
    getSlot (appendBuf a b f) r = getSlot a r := by
  unfold getSlot
  rw [bufAt_appendBuf]
  split
  · exact rd64_append f h.1
  · rfl

theorem setSlot_appendBuf {a : Arena} (b : Nat) (f : Bytes) {r : Ref} (v : Nat) (h : InB a r) :
    setSlot (appendBuf a b f) r v = appendBuf (setSlot a r v) b f := by
  refine Arena.ext' (List.modify_comm _ fun hb x hx => ?_) (by rfl) (by rfl) (by rfl)
  -- in the same buffer: the slot lies inside the bytes that were there before
  have h1 := h.1
  rw [bufAt_eq, ← hb, hx] at h1
  exact congrArg (fun d => { x with data := d }) (wr64_append f v h1)

theorem mapSlots_appendBuf (φ : Nat → Nat) {rs : List Ref} {a : Arena} (b : Nat) (f : Bytes) (h : ∀ r ∈ rs, InB a r) :
    mapSlots φ rs (appendBuf a b f) = appendBuf (mapSlots φ rs a) b f := by
  induction rs generalizing a with
  | nil => simp only [mapSlots_nil]
  | cons r t ih =>
    have hr := h r (List.mem_cons_self ..)
    rw [mapSlots_cons, mapSlots_cons, getSlot_appendBuf b f hr, setSlot_appendBuf b f _ hr]
    exact ih (fun s hs => (InB_setSlot a r _ s).2 (h s (List.mem_cons_of_mem _ hs)))

theorem bodies_appendBuf (a : Arena) (b : Nat) (f : Bytes) : bodies (appendBuf a b f) = (bodies a).modify b (· ++ f) :=
  map_modify (fun x : Buf => x.data) (fun x => { x with data := x.data ++ f }) (· ++ f) (fun _ => rfl) a.bufs b

theorem rangesOk_appendBuf {a : Arena} (h : RangesOk a.bufs) {b : Nat} (f : Bytes)
    (hcap : (a.bufAt b).data.length + f.length ≤ (a.bufAt b).cap) : RangesOk (appendBuf a b f).bufs := by
  refine h.of_blocks (appendBuf_length a b f) (fun j hj => ?_)
  have hfit := (h.fits _ (getD_mem j hj)).1
  simp only [← bufAt_eq_getD]
  rw [bufAt_appendBuf]; split
  · rename_i hc; obtain ⟨rfl, _⟩ := hc
    exact ⟨rfl, rfl, by simp only [List.length_append]; exact hcap⟩
  · exact ⟨rfl, rfl, hfit⟩

theorem ptrToRef_appendBuf {a : Arena} (hr : RangesOk a.bufs) {b : Nat} {f : Bytes} (hr' : RangesOk (appendBuf a b f).bufs)
    {v : Nat} (hv : ValidPtr a.bufs v) :
    ValidPtr (appendBuf a b f).bufs v ∧ ptrToRef (appendBuf a b f).bufs v = ptrToRef a.bufs v := by
  rcases hv with rfl | ⟨j, hj, hh⟩
  · exact ⟨Or.inl rfl, by rw [ptrToRef_zero, ptrToRef_zero]⟩
  · have hj' : j < (appendBuf a b f).bufs.length := by rw [appendBuf_length]; exact hj
    have hh' : Hits ((appendBuf a b f).bufs.getD j {}) v ∧ ((appendBuf a b f).bufs.getD j {}).base = (a.bufs.getD j {}).base := by
      simp only [← bufAt_eq_getD]
      rw [bufAt_appendBuf]; split
      · exact ⟨by unfold Hits at *; simp only [List.length_append]; unfold Arena.bufAt; omega, rfl⟩
      · exact ⟨hh, rfl⟩
    exact ⟨Or.inr ⟨j, hj', hh'.1⟩, by rw [ptrToRef_hit hr hj hh, ptrToRef_hit hr' hj' hh'.1, hh'.2]⟩

theorem wf_appendBuf {a : Arena} (h : WF a) {b : Nat} (f : Bytes)
    (hcap : (a.bufAt b).data.length + f.length ≤ (a.bufAt b).cap) (hsz : (a.bufAt b).data.length + f.length < 2 ^ 32) :
    WF (appendBuf a b f) := by
  have hr' := rangesOk_appendBuf h.ranges f hcap
  refine h.of_frame rfl (appendBuf_length a b f) (fun j => ?_) (fun j => ?_) hr' (fun r hr => ?_)
  · rw [bufAt_appendBuf]; split
    · simp only [List.length_append]; omega
    · exact Nat.le_refl _
  · rw [bufAt_appendBuf]; split
    · rename_i hc; obtain ⟨rfl, _⟩ := hc
      simp only [List.length_append]; exact hsz
    · exact h.size_lt j
  · rw [getSlot_appendBuf b f (h.slots.2 r hr)]
    exact (ptrToRef_appendBuf h.ranges hr' (h.valid r hr)).1

theorem abs_appendBuf {a : Arena} (h : WF a) {b : Nat} (f : Bytes)
    (hcap : (a.bufAt b).data.length + f.length ≤ (a.bufAt b).cap) :
    abs (appendBuf a b f) = absAppend (abs a) b f := by
  unfold abs absAppend
  have hrel : (appendBuf a b f).relocs = a.relocs := rfl
  congr 1
  rw [toRefs_eq, toRefs_eq, hrel, mapSlots_appendBuf _ b f h.slots.2, bodies_appendBuf]
  congr 2
  apply mapSlots_congr h.slots
  intro r hr
  show encRef (ptrToRef (appendBuf a b f).bufs (getSlot a r)).2 = encRef (ptrToRef a.bufs (getSlot a r)).2
  rw [(ptrToRef_appendBuf h.ranges (rangesOk_appendBuf h.ranges f hcap) (h.valid r hr)).2]

theorem wf_withUnspec {a : Arena} (h : WF a) (u : Bool) : WF { a with unspec := u } :=
  ⟨h.slots, h.ranges, h.valid, h.count, h.sizes⟩

theorem abs_withUnspec (a : Arena) (u : Bool) : abs { a with unspec := u } = abs a := by
  unfold abs
  rw [toRefs_eq, toRefs_eq]
  exact congrArg (·, a.relocs) (bodies_mapSlots_congr _ _ rfl)

theorem growBuf_bufAt (a : Arena) {b : Nat} (hb : b < a.bufs.length) (nb nc : Nat) (z : Bool) :
    ((growBuf a b nb nc z).bufAt b).cap = nc ∧ ((growBuf a b nb nc z).bufAt b).data.length = (a.bufAt b).data.length := by
  rw [growBuf_eq, bufAt_setMeta]
  simp only [mapSlots_length, hb, and_self, if_true, bufAt_mapSlots_len]

theorem growBuf_frame (a : Arena) (b nb nc : Nat) (z : Bool) {j : Nat} (h : j ≠ b) :
    ((growBuf a b nb nc z).bufAt j).base = (a.bufAt j).base ∧ ((growBuf a b nb nc z).bufAt j).data.length = (a.bufAt j).data.length := by
  rw [growBuf_eq, bufAt_setMeta, if_neg (by omega), bufAt_mapSlots_base, bufAt_mapSlots_len]
  exact ⟨rfl, rfl⟩

theorem growBuf_init (a : Arena) (b nb nc : Nat) (z : Bool) : (growBuf a b nb nc z).init = a.init := by
  rw [growBuf_eq]; simp [setMeta]

/-- the always-move hook makes the buffer look full, so a request that does not grow saw the real capacity -/
theorem effCap_of_not_grows {cfg : Cfg} {a : Arena} {b n : Nat} (hg : ¬ Grows cfg a b n) : effCap cfg a b n = (a.bufAt b).cap := by
  unfold Grows at hg
  unfold effCap at hg ⊢
  split
  · rename_i hc; rw [if_pos hc] at hg; omega
  · rfl

theorem allocMem_eq (cfg : Cfg) (nb : Nat) (a : Arena) {b : Nat} (zero : Bool) (fill : Bytes) (hb : b < a.bufs.length) :
    allocMem cfg nb a b zero fill =
      if Grows cfg a b fill.length then
        if newCap a.init (effCap cfg a b fill.length) (a.bufAt b).data.length fill.length > 2 ^ maxBufferSizeLog2 then
          .error .insufficientMemory
        else .ok (appendBuf (growBuf a b nb (newCap a.init (effCap cfg a b fill.length) (a.bufAt b).data.length fill.length) zero) b fill,
          ⟨b, (a.bufAt b).data.length⟩)
      else .ok (appendBuf { a with unspec := a.unspec || (zero && (a.bufAt b).dirty && decide (fill.length > 0)) } b fill,
        ⟨b, (a.bufAt b).data.length⟩) := by
  unfold allocMem
  rw [if_pos hb]
  show (if effCap cfg a b fill.length - (a.bufAt b).data.length < fill.length then _ else _) = _
  by_cases hg : Grows cfg a b fill.length
  · rw [if_pos hg, if_pos (show effCap cfg a b fill.length - (a.bufAt b).data.length < fill.length from hg)]
    simp only [setBuf_append_eq]
    rfl
  · have hcap := effCap_of_not_grows hg
    unfold effCap at hcap
    rw [if_neg hg, if_neg (show ¬ effCap cfg a b fill.length - (a.bufAt b).data.length < fill.length from hg), hcap]
    exact congrArg (fun x => Except.ok (x, _)) (setBuf_append_eq { a with unspec := _ } b fill)

theorem allocMem_total (cfg : Cfg) (nb : Nat) (a : Arena) {b : Nat} (zero : Bool) (fill : Bytes) (hb : b < a.bufs.length) :
    (∃ p, allocMem cfg nb a b zero fill = .ok p) ∨ allocMem cfg nb a b zero fill = .error .insufficientMemory := by
  rw [allocMem_eq cfg nb a zero fill hb]
  by_cases hg : Grows cfg a b fill.length
  · rw [if_pos hg]
    split
    · exact Or.inr rfl
    · exact Or.inl ⟨_, rfl⟩
  · rw [if_neg hg]; exact Or.inl ⟨_, rfl⟩

theorem allocMem_inv {cfg : Cfg} {nb : Nat} {a : Arena} {b : Nat} {zero : Bool} {fill : Bytes} {a' : Arena} {r : Ref}
    (hres : allocMem cfg nb a b zero fill = .ok (a', r)) :
    b < a.bufs.length ∧ r = ⟨b, (a.bufAt b).data.length⟩ ∧
      ((Grows cfg a b fill.length ∧
          a' = appendBuf (growBuf a b nb (newCap a.init (effCap cfg a b fill.length) (a.bufAt b).data.length fill.length) zero) b fill) ∨
        (¬ Grows cfg a b fill.length ∧
          a' = appendBuf { a with unspec := a.unspec || (zero && (a.bufAt b).dirty && decide (fill.length > 0)) } b fill)) := by
  have hb : b < a.bufs.length := Decidable.by_contra fun hb => by rw [allocMem, if_neg hb] at hres; cases hres
  rw [allocMem_eq cfg nb a zero fill hb] at hres
  by_cases hg : Grows cfg a b fill.length
  · rw [if_pos hg] at hres
    split at hres
    · cases hres
    · cases hres; exact ⟨hb, rfl, Or.inl ⟨hg, rfl⟩⟩
  · rw [if_neg hg] at hres
    cases hres; exact ⟨hb, rfl, Or.inr ⟨hg, rfl⟩⟩

theorem allocMem_frame {cfg : Cfg} {nb : Nat} {a : Arena} {b : Nat} {zero : Bool} {fill : Bytes} {a' : Arena} {r : Ref}
    (hres : allocMem cfg nb a b zero fill = .ok (a', r)) {j : Nat} (h : j ≠ b) :
    (a'.bufAt j).base = (a.bufAt j).base ∧ (a'.bufAt j).data.length = (a.bufAt j).data.length := by
  obtain ⟨_, _, ⟨_, rfl⟩ | ⟨_, rfl⟩⟩ := allocMem_inv hres
  · rw [bufAt_appendBuf, if_neg (by omega)]
    exact growBuf_frame a b nb _ zero h
  · rw [bufAt_appendBuf, if_neg (by omega)]
    exact ⟨rfl, rfl⟩

theorem allocMem_spec (cfg : Cfg) (nb : Nat) {a : Arena} (h : WF a) (hinit : 0 < a.init) {b : Nat} {zero : Bool} {fill : Bytes}
    {a' : Arena} {r : Ref} (hres : allocMem cfg nb a b zero fill = .ok (a', r))
    (hfresh : AllocFresh cfg nb a b fill.length) (hsz : (a.bufAt b).data.length + fill.length < 2 ^ 32) :
    WF a' ∧ abs a' = absAppend (abs a) b fill ∧ r = ⟨b, (a.bufAt b).data.length⟩ ∧ a'.init = a.init := by
  obtain ⟨hb, rfl, ⟨hg, rfl⟩ | ⟨hg, rfl⟩⟩ := allocMem_inv hres
  · have hf := hfresh hg
    have hge := newCap_ge (cap := effCap cfg a b fill.length) (used := (a.bufAt b).data.length) (size := fill.length) hinit
    generalize newCap a.init (effCap cfg a b fill.length) (a.bufAt b).data.length fill.length = nc at hf hge ⊢
    have hw1 := wf_growBuf h hb hf zero
    have ⟨hc1, hl1⟩ := growBuf_bufAt a hb nb nc zero
    have hcap : ((growBuf a b nb nc zero).bufAt b).data.length + fill.length ≤ ((growBuf a b nb nc zero).bufAt b).cap := by
      rw [hl1, hc1]; exact hge
    have hsz' : ((growBuf a b nb nc zero).bufAt b).data.length + fill.length < 2 ^ 32 := by rw [hl1]; exact hsz
    refine ⟨wf_appendBuf hw1 fill hcap hsz', ?_, rfl, growBuf_init a b nb nc zero⟩
    rw [abs_appendBuf hw1 fill hcap, abs_growBuf h hb hf zero]
  · have hu := wf_withUnspec h (a.unspec || (zero && (a.bufAt b).dirty && decide (fill.length > 0)))
    have hc' : (a.bufAt b).data.length + fill.length ≤ (a.bufAt b).cap := by
      have hfit : (a.bufAt b).data.length ≤ (a.bufAt b).cap := (h.ranges.fits _ (getD_mem b hb)).1
      rw [Grows, effCap_of_not_grows hg] at hg
      exact Nat.add_le_of_le_sub' hfit (Nat.le_of_not_lt hg)
    refine ⟨wf_appendBuf hu fill hc' hsz, ?_, rfl, rfl⟩
    rw [abs_appendBuf hu fill hc', abs_withUnspec]

theorem runAllocs_nil (cfg : Cfg) (bases : List Nat) (a : Arena) : runAllocs cfg bases a [] = .ok a := by
  cases bases <;> simp only [runAllocs]

theorem runAllocs_cons (cfg : Cfg) (nb : Nat) (nbs : List Nat) (a : Arena) (q : Req) (qs : List Req) :
    runAllocs cfg (nb :: nbs) a (q :: qs) =
      match allocMem cfg nb a q.b q.zero q.fill with
      | .ok (a1, _) => runAllocs cfg nbs a1 qs
      | .error e => .error e := by
  rw [runAllocs]
  cases allocMem cfg nb a q.b q.zero q.fill with
  | ok p => rfl
  | error e => rfl

/-- the abstract content afterwards is a function of the abstract content before -/
theorem runAllocs_abs (cfg : Cfg) (reqs : List Req) : ∀ (bases : List Nat) {a a' : Arena}, WF a → 0 < a.init →
    Admissible cfg bases a reqs → runAllocs cfg bases a reqs = .ok a' →
    WF a' ∧ abs a' = reqs.foldl (fun x q => absAppend x q.b q.fill) (abs a) := by
  intro bases a a' h hi had hr
  -- along the run itself; where it ends with an error (the schedule used up, an allocation refused) there is nothing to show
  fun_induction runAllocs cfg bases a reqs generalizing a'
  case case1 => cases hr; exact ⟨h, rfl⟩
  case case2 | case4 => cases hr
  case case3 e ih =>
    obtain ⟨hf, hz, hn⟩ := had
    have s := allocMem_spec cfg _ h hi e hf hz
    rw [List.foldl_cons, ← s.2.1]
    exact ih s.1 (s.2.2.2 ▸ hi) (hn _ _ e) hr

end YaraModel.Arena
