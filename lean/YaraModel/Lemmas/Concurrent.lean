/- Lemmas for C09: what a step of one thread does to the other threads (frame), to its own state and program counter;
   the reference-count pattern `RC`, of which the signal-handler bookkeeping (`HInv`) and the lifetime of the library
   (`LInv`) are the two instances. -/
import YaraModel.Model.Concurrent
namespace YaraModel.Concurrent

variable {ρ σ : Type}

-- the cases of `step`, in this order wherever it is split: script finished; `work`; `enter`; `leave` by a thread inside;
-- `leave` by one that is not
theorem step_rules (prog : Nat → List (Act ρ σ)) (g : G ρ σ) (t : Nat) : (step prog g t).rules = g.rules := by
  fun_cases step prog g t <;> rfl

theorem step_frame (prog : Nat → List (Act ρ σ)) (g : G ρ σ) (t u : Nat) (h : u ≠ t) :
    (step prog g t).st u = g.st u ∧ (step prog g t).pc u = g.pc u := by
  fun_cases step prog g t
  · exact ⟨rfl, rfl⟩
  · exact ⟨if_neg h, if_neg h⟩
  all_goals exact ⟨rfl, if_neg h⟩

theorem seqRun_zero (rules : ρ) (l : List (Act ρ σ)) (s : σ) : seqRun rules l 0 s = s := by
  cases l <;> rfl

theorem seqRun_succ (rules : ρ) (l : List (Act ρ σ)) (k : Nat) (s : σ) :
    seqRun rules l (k + 1) s =
      match l[k]? with
      | some (.work f) => f rules (seqRun rules l k s)
      | _ => seqRun rules l k s := by
  induction l generalizing k s with
  | nil => rfl
  | cons a rest ih =>
    cases k with
    | zero => cases a <;> exact seqRun_zero rules rest _
    | succ k => cases a <;> exact ih k _

def OwnRun (prog : Nat → List (Act ρ σ)) (st0 : Nat → σ) (g : G ρ σ) : Prop :=
  ∀ t, g.st t = seqRun g.rules (prog t) (g.pc t) (st0 t)

theorem step_ownRun (prog : Nat → List (Act ρ σ)) (st0 : Nat → σ) (g : G ρ σ) (t : Nat)
    (h : OwnRun prog st0 g) : OwnRun prog st0 (step prog g t) := by
  intro u
  rw [step_rules]
  by_cases hu : u = t
  · subst hu
    have hs := seqRun_succ g.rules (prog u) (g.pc u) (st0 u)
    fun_cases step prog g u
    · exact h u
    all_goals
      rw [‹(prog u)[g.pc u]? = some _›] at hs
      simp only [upd, ite_true]
      rw [hs, ← h u]
  · have := step_frame prog g t u hu
    rw [this.1, this.2]; exact h u

theorem step_pc_self (prog : Nat → List (Act ρ σ)) (g : G ρ σ) (t : Nat) (hg : g.pc t ≤ (prog t).length) :
    (step prog g t).pc t = min (g.pc t + 1) (prog t).length := by
  fun_cases step prog g t
  case case1 hs =>
    have hlen := List.getElem?_eq_none_iff.1 hs
    rw [Nat.min_eq_right (Nat.le_succ_of_le hlen)]
    exact Nat.le_antisymm hg hlen
  all_goals exact (if_pos rfl).trans (Nat.min_eq_left (List.getElem?_eq_some_iff.1 ‹(prog t)[g.pc t]? = some _›).1).symm

theorem run_rules (prog : Nat → List (Act ρ σ)) (g : G ρ σ) (sched : List Nat) : (run prog g sched).rules = g.rules :=
  List.foldlRecOn (motive := fun g' => g'.rules = g.rules) sched (step prog) rfl fun g' hg t _ =>
    (step_rules prog g' t).trans hg

theorem run_ownRun (prog : Nat → List (Act ρ σ)) (rules : ρ) (h0 : Handler) (st0 : Nat → σ) (sched : List Nat) :
    OwnRun prog st0 (run prog (init rules h0 st0) sched) :=
  List.foldlRecOn sched (step prog) (fun u => (seqRun_zero rules (prog u) (st0 u)).symm)
    fun g hg u _ => step_ownRun prog st0 g u hg

theorem run_pc (prog : Nat → List (Act ρ σ)) (t : Nat) (sched : List Nat) (g : G ρ σ) (hg : g.pc t ≤ (prog t).length) :
    (run prog g sched).pc t = min (g.pc t + sched.count t) (prog t).length := by
  induction sched generalizing g with
  | nil => exact (Nat.min_eq_left hg).symm
  | cons u us ih =>
    have hrun : run prog g (u :: us) = run prog (step prog g u) us := rfl
    rw [hrun]
    by_cases hu : u = t
    · subst hu
      have hpc := step_pc_self prog g u hg
      -- a counter capped at `n` that is advanced by 1 and then by `k` has been advanced by `k + 1`
      rw [ih _ (hpc ▸ Nat.min_le_right _ _), hpc, List.count_cons_self, ← Nat.add_min_add_right, Nat.min_assoc,
        Nat.min_eq_right (Nat.le_add_right _ _), Nat.add_assoc, Nat.add_comm 1]
    · have hf := (step_frame prog g u t (Ne.symm hu)).2
      rw [ih _ (hf ▸ hg), hf, List.count_cons_of_ne hu]

/-- `c` counts the holders `hs` (with multiplicity); the resource `r` is `on` exactly while `c > 0` -/
def RC {α : Type} (off on : α) (c : Nat) (hs : List Nat) (r : α) : Prop :=
  c = hs.length ∧ r = if c = 0 then off else on

namespace RC
variable {α : Type} {off on r : α} {c : Nat} {hs : List Nat}

theorem zero (h : RC off on c hs r) (hz : c = 0) : r = off := by rw [h.2, if_pos hz]

theorem pos (h : RC off on c hs r) (hp : 0 < c) : r = on := by rw [h.2, if_neg (Nat.ne_of_gt hp)]

theorem on_iff (h : RC off on c hs r) (hne : off ≠ on) : r = on ↔ 0 < c :=
  ⟨fun e => Nat.pos_of_ne_zero fun hz => hne ((h.zero hz).symm.trans e), h.pos⟩

theorem enter (h : RC off on c hs r) (t : Nat) : RC off on (c + 1) (t :: hs) on :=
  ⟨congrArg (· + 1) h.1, (if_neg (Nat.succ_ne_zero c)).symm⟩

/-- `enter` in the form `step` has it: `on` is written only when `c = 0` -/
theorem enter_ite (h : RC off on c hs r) (t : Nat) : RC off on (c + 1) (t :: hs) (if c = 0 then on else r) := by
  have : (if c = 0 then on else r) = on := by
    split
    · rfl
    · exact h.pos (Nat.pos_of_ne_zero ‹_›)
  rw [this]; exact h.enter t

theorem leave (h : RC off on c hs r) {t : Nat} (hm : t ∈ hs) :
    RC off on (c - 1) (hs.erase t) (if c - 1 = 0 then off else r) := by
  refine ⟨by rw [List.length_erase_of_mem hm, h.1], ?_⟩
  rw [h.pos (h.1 ▸ List.length_pos_of_mem hm)]

end RC

/-- the use count is a reference count for "YARA's handler is installed"; `h0` is the handler that was installed before
    any scan -/
def HInv (h0 : Handler) (g : G ρ σ) : Prop :=
  RC h0 .yara g.count g.inside g.cur ∧ g.saved = h0

theorem step_hinv (prog : Nat → List (Act ρ σ)) (h0 : Handler) (g : G ρ σ) (t : Nat)
    (h : HInv h0 g) : HInv h0 (step prog g t) := by
  obtain ⟨hr, rfl⟩ := h
  fun_cases step prog g t
  · exact ⟨hr, rfl⟩
  · exact ⟨hr, rfl⟩
  · refine ⟨hr.enter_ite t, ?_⟩
    show (if g.count = 0 then g.cur else g.saved) = g.saved
    split
    · exact hr.zero ‹_›
    · rfl
  · exact ⟨hr.leave ‹_›, rfl⟩
  · exact ⟨hr, rfl⟩

theorem run_hinv (prog : Nat → List (Act ρ σ)) (rules : ρ) (h0 : Handler) (st0 : Nat → σ) (sched : List Nat) :
    HInv h0 (run prog (init rules h0 st0) sched) :=
  List.foldlRecOn sched (step prog) ⟨⟨rfl, rfl⟩, rfl⟩ fun g hg t _ => step_hinv prog h0 g t hg

/-- `init_count` is a reference count for the process-wide resources of `yr_initialize` / `yr_finalize` -/
def LInv (s : Lib) : Prop := RC false true s.count s.users s.alive

theorem lstep_inv (s : Lib) (e : LibEv) (h : LInv s) : LInv (lstep s e) := by
  fun_cases lstep s e
  · exact RC.enter h _
  · exact RC.leave h ‹_›
  · exact h

theorem lrun_inv (evs : List LibEv) : LInv (lrun evs) :=
  List.foldlRecOn evs lstep ⟨rfl, rfl⟩ fun s hs e _ => lstep_inv s e hs

end YaraModel.Concurrent
