/- Text strings, second part: what `_yr_scan_verify_literal_match` computes for a candidate.  Whatever it accepts is a finding
   (`Found`: the string in one of the encodings under SOME xor key — the declared range is not consulted), and where there is a
   finding it accepts. -/
import YaraModel.Lemmas.TextAtoms
namespace YaraModel.Text

theorem cmpLen_of_occursAt {nocase : Bool} {p buf : Bytes} {o : Nat} (h : occursAt nocase p buf o = true) :
    cmpLen nocase p buf o = p.length := by simp [cmpLen, h]

theorem occursAt_of_cmpLen {nocase : Bool} {p buf : Bytes} {o : Nat} (h : cmpLen nocase p buf o ≠ 0) :
    occursAt nocase p buf o = true ∧ cmpLen nocase p buf o = p.length := by
  unfold cmpLen at h ⊢
  split at h
  · rename_i hocc; simp [hocc]
  · exact absurd rfl h

theorem xorCmp_of_xorKeyAt {p buf : Bytes} {o : Nat} {k : UInt8} (h : xorKeyAt p buf o = some k) :
    xorCmp p buf o = (p.length, k) := by simp [xorCmp, h]

theorem xorKeyAt_of_xorCmp {p buf : Bytes} {o n : Nat} {k : UInt8} (h : xorCmp p buf o = (n, k)) (hn : n ≠ 0) :
    xorKeyAt p buf o = some k ∧ n = p.length := by
  unfold xorCmp at h
  cases hk : xorKeyAt p buf o with
  | none => rw [hk] at h; exact absurd (Prod.mk.inj h).1.symm hn
  | some k' => rw [hk] at h; simp only [Prod.mk.injEq] at h; simp [h.1, h.2]

theorem xorCmp_eq_zero {p buf : Bytes} {o : Nat} (h : (xorCmp p buf o).1 = 0) : xorCmp p buf o = (0, 0) := by
  cases hk : xorKeyAt p buf o with
  | none => simp [xorCmp, hk]
  | some k =>
    rw [xorCmp_of_xorKeyAt hk] at h
    exact absurd (List.eq_nil_of_length_eq_zero h) (xorKeyAt_eq_some.mp hk).1

/-- the first non-zero result: what the verifier returns of its comparisons in order (`tries`) -/
def firstHit : List (Nat × UInt8) → Nat × UInt8
  | [] => (0, 0)
  | r :: rs => if r.1 = 0 then firstHit rs else r

theorem firstHit_mem {l : List (Nat × UInt8)} (h : (firstHit l).1 ≠ 0) : firstHit l ∈ l := by
  fun_induction firstHit l with
  | case1 => exact absurd rfl h
  | case2 _ _ _ ih => exact List.mem_cons_of_mem _ (ih h)
  | case3 => exact List.mem_cons_self

theorem firstHit_ne_zero {l : List (Nat × UInt8)} {r : Nat × UInt8} (hr : r ∈ l) (h : r.1 ≠ 0) : (firstHit l).1 ≠ 0 := by
  fun_induction firstHit l with
  | case1 => cases hr
  | case2 x _ h0 ih => exact ih ((List.mem_cons.1 hr).resolve_left fun e => h (e ▸ h0))
  | case3 _ _ hx => exact hx

/-- the comparisons `_yr_scan_verify_literal_match` makes for a string that does not fit its atom, in its order -/
def tries (m : Mods) (s buf : Bytes) (o : Nat) : List (Nat × UInt8) :=
  [if m.ascii then (cmpLen m.nocase s buf o, 0) else (0, 0),
   if m.wide then (cmpLen m.nocase (widen s) buf o, 0) else (0, 0),
   if m.xor.isSome && m.wide then xorCmp (widen s) buf o else (0, 0),
   if m.xor.isSome && m.ascii then xorCmp s buf o else (0, 0)]

theorem forwardMatches_nonfits {m : Mods} {s buf : Bytes} {bt o : Nat} (hleg : m.legal = true)
    (hf : fitsInAtom m s = false) : forwardMatches m s bt buf o = firstHit (tries m s buf o) := by
  -- both sides are nests of `if`s over the modifier flags and over "this comparison returned 0"; with the comparison results made
  -- variables (`a b c d`) nothing else is left: fix the flags, split every test, evaluate the guards
  have hc := @xorCmp_eq_zero (widen s) buf o
  have hd := @xorCmp_eq_zero s buf o
  unfold forwardMatches tries
  simp only [hf, Bool.false_eq_true, if_false]
  cases hn : m.nocase with
  | true =>
    rw [legal_nocase_xor hleg hn]
    generalize cmpLen true s buf o = a
    generalize cmpLen true (widen s) buf o = b
    cases m.ascii <;> cases m.wide <;> simp [firstHit] <;> (repeat' split) <;> simp_all
  | false =>
    generalize cmpLen false s buf o = a
    generalize cmpLen false (widen s) buf o = b
    generalize xorCmp (widen s) buf o = c at hc ⊢
    generalize xorCmp s buf o = d at hd ⊢
    -- a failed `xorCmp` is `(0, 0)` (`hc`, `hd`), so falling through all four gives the `(0, 0)` of `firstHit []`
    cases m.ascii <;> cases m.wide <;> cases m.xor.isSome <;> simp [firstHit] <;> (repeat' split) <;> simp_all

theorem eq_try_iff {r t : Nat × UInt8} (hr : r.1 ≠ 0) {c : Prop} [Decidable c] : r = (if c then t else (0, 0)) ↔ c ∧ r = t := by
  by_cases hc : c
  · rw [if_pos hc]; exact (and_iff_right hc).symm
  · rw [if_neg hc]; exact iff_of_false (fun h => hr (h ▸ rfl)) (fun h => hc h.1)

theorem mem_tries {m : Mods} {s buf : Bytes} {o : Nat} {r : Nat × UInt8} (hr : r.1 ≠ 0) :
    r ∈ tries m s buf o ↔ ∃ wide, m.has wide = true ∧
      (r = (cmpLen m.nocase (enc wide s) buf o, 0) ∨ (m.xor.isSome = true ∧ r = xorCmp (enc wide s) buf o)) := by
  simp only [tries, List.mem_cons, List.not_mem_nil, or_false, eq_try_iff hr, Bool.and_eq_true, Bool.exists_bool, Mods.has, enc,
    Bool.false_eq_true, if_false, if_true]
  -- left: the four tries in the order of the list (plain ascii, plain wide, xor wide, xor ascii); right: `wide = false`, then `true`
  constructor
  · rintro (⟨a, h⟩ | ⟨w, h⟩ | ⟨⟨x, w⟩, h⟩ | ⟨⟨x, a⟩, h⟩)
    · exact .inl ⟨a, .inl h⟩
    · exact .inr ⟨w, .inl h⟩
    · exact .inr ⟨w, .inr ⟨x, h⟩⟩
    · exact .inl ⟨a, .inr ⟨x, h⟩⟩
  · rintro (⟨a, h | ⟨x, h⟩⟩ | ⟨w, h | ⟨x, h⟩⟩)
    · exact .inl ⟨a, h⟩
    · exact .inr (.inr (.inr ⟨⟨x, a⟩, h⟩))
    · exact .inr (.inl ⟨w, h⟩)
    · exact .inr (.inr (.inl ⟨⟨x, w⟩, h⟩))

/-- `mem_tries` with its right side read as `Found` -/
theorem mem_tries_iff {m : Mods} {s buf : Bytes} {o fm : Nat} {k : UInt8} (hleg : m.legal = true) (hpos : fm ≠ 0) :
    (fm, k) ∈ tries m s buf o ↔ ∃ wide, fm = scale wide s.length ∧ Found m s buf o wide k := by
  rw [mem_tries (r := (fm, k)) hpos]
  refine exists_congr fun wide => ⟨?_, ?_⟩
  · rintro ⟨hhas, hr | ⟨hx, hr⟩⟩
    · obtain ⟨rfl, rfl⟩ := Prod.mk.inj hr
      obtain ⟨hocc, hlen⟩ := occursAt_of_cmpLen hpos
      exact ⟨by rw [hlen, enc_length], hhas, Or.inl ⟨rfl, hocc⟩⟩
    · obtain ⟨hkey, rfl⟩ := xorKeyAt_of_xorCmp hr.symm hpos
      refine ⟨enc_length wide s, hhas, ?_⟩
      -- key 0 returned by the xor comparison is the plain finding
      by_cases hk : k = 0
      · subst hk; exact Or.inl ⟨rfl, by rw [legal_xor_nocase hleg hx]; exact xorKeyAt_zero hkey⟩
      · exact Or.inr ⟨hk, hx, hkey⟩
  · rintro ⟨rfl, hhas, ⟨rfl, hocc⟩ | ⟨_, hx, hkey⟩⟩
    · exact ⟨hhas, Or.inl (by rw [cmpLen_of_occursAt hocc, enc_length])⟩
    · exact ⟨hhas, Or.inr ⟨hx, by rw [xorCmp_of_xorKeyAt hkey, enc_length]⟩⟩

theorem forwardMatches_nonfits_sound {m : Mods} {s buf : Bytes} {bt o fm : Nat} {k : UInt8} (hleg : m.legal = true)
    (hf : fitsInAtom m s = false) (h : forwardMatches m s bt buf o = (fm, k)) (hpos : fm ≠ 0) :
    ∃ wide, fm = scale wide s.length ∧ Found m s buf o wide k := by
  rw [forwardMatches_nonfits hleg hf] at h
  exact (mem_tries_iff hleg hpos).mp (h ▸ firstHit_mem (h ▸ hpos))

theorem forwardMatches_nonfits_complete {m : Mods} {s buf : Bytes} {bt o : Nat} {wide : Bool} {k : UInt8} (hleg : m.legal = true)
    (hs : s ≠ []) (hf : fitsInAtom m s = false) (h : Found m s buf o wide k) :
    (forwardMatches m s bt buf o).1 ≠ 0 := by
  rw [forwardMatches_nonfits hleg hf]
  exact firstHit_ne_zero ((mem_tries_iff hleg (scale_ne_zero wide hs)).mpr ⟨wide, rfl, h⟩) (scale_ne_zero wide hs)

/-- a string that fits its atom is not compared again: length and key are read off the candidate.  (`a.bytes.length + a.backtrack`
    is the backtrack of the automaton's match entry, counted from the END of the atom: see `RaisedAt`, Lemmas/TextFinal.) -/
theorem forwardMatches_fits_sound {w : Nat} {m : Mods} {s buf : Bytes} {o : Nat} {a : Atom} (hleg : m.legal = true) (hs : s ≠ [])
    (hw : ValidWindow w s) (hf : fitsInAtom m s = true) (ha : a ∈ atomsOf w m s) (hat : atomAt a buf o) :
    ∃ wide k, forwardMatches m s (a.bytes.length + a.backtrack) buf o = (scale wide s.length, k) ∧
      Found m s buf o wide k := by
  obtain ⟨wide, k, hhas, hbt, hrel⟩ := (mem_atomsOf hleg).mp ha
  -- the atom is the whole encoded string, at backtrack 0
  have hlen : (enc wide s).length ≤ 4 := by
    rw [enc_length]
    unfold fitsInAtom at hf
    cases wide <;> simp only [Mods.has, scale, Bool.false_eq_true, if_false, if_true] at hhas ⊢
    · split at hf <;> simp at hf <;> omega
    · simpa [hhas] using hf
  have hw0 : scale wide w = 0 := by have := hw.scale_le wide; have := enc_length wide s; omega
  simp only [hw0, sub4, List.drop_zero, List.take_of_length_le hlen] at hbt hrel
  unfold atomAt at hat
  rw [hbt, Nat.add_zero, hrel.length] at hat ⊢
  refine ⟨wide, k, ?_, ((found_iff_rel hleg hs).mpr ⟨hhas, _, hat, hrel⟩).1⟩
  have hne : (enc wide s).length ≠ 0 := enc_length wide s ▸ scale_ne_zero wide hs
  unfold forwardMatches
  rw [if_pos hf, enc_length]
  cases hx : m.xor.isSome with
  | false =>
    simp [hrel.key_zero (Option.isNone_iff_eq_none.mp (Option.isSome_eq_false_iff.mp hx))]
  | true =>
    -- the xor comparison of the atom's own encoding finds `k`; the other encoding, if it compares equal, finds the same key
    have hn := legal_xor_nocase hleg hx
    have hkey : xorKeyAt (enc wide s) buf o = some k := by
      simp only [Rel, hn, Bool.false_eq_true, if_false] at hrel
      exact xorKeyAt_eq_some.mpr ⟨enc_ne_nil wide hs, by rw [← hrel.2]; exact hat⟩
    have hpos : 0 < (enc wide s).length := Nat.pos_of_ne_zero hne
    cases wide <;> simp only [enc, Mods.has, Bool.false_eq_true, if_false, if_true] at hkey hhas hpos
    · simp [hhas, xorCmp_of_xorKeyAt hkey, hpos]
    · cases hk' : xorKeyAt s buf o with
      | none => simp [hhas, xorCmp_of_xorKeyAt hkey, hpos, show xorCmp s buf o = (0, 0) by simp [xorCmp, hk']]
      | some k' =>
        have hs0 : 0 < s.length := List.length_pos_iff.mpr hs
        cases m.ascii <;> simp [hhas, xorCmp_of_xorKeyAt hkey, xorCmp_of_xorKeyAt hk', hpos, hs0, xorKeyAt_widen hk' hkey]

end YaraModel.Text
