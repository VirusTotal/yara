/- Aho-Corasick construction, one iteration of `_yr_ac_build_transition_table`: transition encoding, first-fit slot search (`Slotted`),
   placing a state's children (`RowWritten`), the writes behind the search (`writeRow`) described extensionally (`Placed`), and the
   packing invariant `I4` a step keeps -/
import YaraModel.Lemmas.AcBuildTrie
namespace YaraModel.AC.Build
open YaraModel.Text

/-- the shift amount of `YR_AC_MAKE_TRANSITION` / `YR_AC_NEXT_STATE` as `UInt32.toNat_shiftLeft`, `toNat_shiftRight` see it -/
theorem shift9 : (9 : UInt32).toNat % 32 = 9 := by decide

theorem mk_toNat (a b : Nat) (ha : a < 2 ^ 23) (hb : b < 512) : (mkTransition a b).toNat = a * 512 + b := by
  unfold mkTransition
  rw [UInt32.toNat_or, UInt32.toNat_shiftLeft]
  simp only [UInt32.toNat_ofNat']
  have h1 : a % 2 ^ 32 = a := Nat.mod_eq_of_lt (by omega)
  have h2 : b % 2 ^ 32 = b := Nat.mod_eq_of_lt (by omega)
  rw [h1, h2]
  rw [shift9, Nat.shiftLeft_eq]
  have h4 : a * 2 ^ 9 % 2 ^ 32 = a * 2 ^ 9 := Nat.mod_eq_of_lt (by omega)
  rw [h4]
  have := Nat.shiftLeft_add_eq_or_of_lt (i := 9) (b := b) (by omega) a
  rw [Nat.shiftLeft_eq] at this
  rw [← this]

/-- the *tag* of an entry, its offset from the owner's slot: 0 in a row header, byte + 1 in a transition -/
def low9 (tr : UInt32) : Nat := (tr &&& 0x1FF).toNat

/-- the tag of an entry, whatever the target -/
theorem low9_mk (a b : Nat) (hb : b < 512) : low9 (mkTransition a b) = b := by
  unfold low9 mkTransition
  rw [UInt32.toNat_and, UInt32.toNat_or, UInt32.toNat_shiftLeft]
  simp only [UInt32.toNat_ofNat']
  have h5 : (0x1FF : UInt32).toNat = 2 ^ 9 - 1 := by decide
  rw [shift9, h5, Nat.and_two_pow_sub_one_eq_mod, Nat.or_mod_two_pow, Nat.shiftLeft_eq]
  have h6 : (a % 2 ^ 32 * 2 ^ 9 % 2 ^ 32) % 2 ^ 9 = 0 := by
    rw [Nat.mod_mod_of_dvd _ (by decide : 2 ^ 9 ∣ 2 ^ 32)]
    exact Nat.mul_mod_left _ _
  have h7 : b % 2 ^ 32 % 2 ^ 9 = b := by omega
  rw [h6, h7]; simp

theorem nextOf_mk (a b : Nat) (ha : a < 2 ^ 23) (hb : b < 512) : nextOf (mkTransition a b) = a := by
  unfold nextOf
  rw [UInt32.toNat_shiftRight, mk_toNat a b ha hb]
  rw [shift9, Nat.shiftRight_eq_div_pow]
  omega

theorem mk_or (c s : Nat) : mkTransition 0 c ||| (UInt32.ofNat s <<< 9) = mkTransition s c := by
  unfold mkTransition
  have : (UInt32.ofNat 0 <<< 9) = 0 := by decide
  rw [this, UInt32.zero_or, UInt32.or_comm]

theorem mk_zero : mkTransition 0 0 = 0 := by decide

theorem low9_zero : low9 0 = 0 := by decide

theorem low9_mk_byte (a : Nat) (c : UInt8) : low9 (mkTransition a (c.toNat + 1)) = c.toNat + 1 :=
  low9_mk a _ (Nat.lt_of_lt_of_le (Nat.succ_lt_succ c.toNat_lt) (by decide))

theorem low9_mk_zero (a : Nat) : low9 (mkTransition a 0) = 0 := low9_mk a 0 (by decide)

theorem invalid_iff (tr : UInt32) (index : Nat) : invalid tr index = true ↔ low9 tr ≠ index := by
  unfold invalid low9; simp

theorem invalid_false_iff (tr : UInt32) (index : Nat) : invalid tr index = false ↔ low9 tr = index := by
  unfold invalid low9; simp

theorem getD_growBy {α : Type} (a : Array α) (n j : Nat) (d : α) : (growBy a n d).getD j d = a.getD j d := by
  unfold growBy
  simp only [Array.getD_eq_getD_getElem?, Array.getElem?_append, Array.getElem?_replicate]
  by_cases h : j < a.size
  · simp [h]
  · simp only [h, if_false]
    rw [Array.getElem?_eq_none (by omega)]
    split <;> rfl

@[simp] theorem size_growBy {α : Type} (a : Array α) (n : Nat) (v : α) : (growBy a n v).size = a.size + n := by
  simp [growBy]

theorem fits_iff (used : Array Bool) (inputs : List UInt8) (p : Nat) :
    fits used inputs p = true ↔ isUsed used p = false ∧ ∀ c ∈ inputs, isUsed used (p + c.toNat + 1) = false := by
  unfold fits
  simp

theorem isUsed_oob (used : Array Bool) (p : Nat) (h : used.size ≤ p) : isUsed used p = false := by
  unfold isUsed
  simp [Array.getElem?_eq_none h]

theorem fits_oob (used : Array Bool) (inputs : List UInt8) (p : Nat) (h : used.size ≤ p) : fits used inputs p = true := by
  rw [fits_iff]
  exact ⟨isUsed_oob used p h, fun c _ => isUsed_oob used _ (by omega)⟩

theorem firstFit_spec (used : Array Bool) (inputs : List UInt8) (lenA : Nat) (fuel p : Nat) :
    firstFit used inputs lenA fuel p ≤ lenA ∧
    (firstFit used inputs lenA fuel p < lenA → fits used inputs (firstFit used inputs lenA fuel p) = true) := by
  -- the branches of `firstFit`: 1 out of fuel, 2 past the end (both return `lenA`); 3 the mask fits at `p`; 4 on to `p + 1`
  fun_induction firstFit used inputs lenA fuel p with
  | case1 => simp
  | case2 => simp
  | case3 fuel p h1 h2 => exact ⟨by omega, fun _ => h2⟩
  | case4 fuel p h1 h2 ih => exact ih

theorem findOffset_spec (used : Array Bool) (inputs : List UInt8) (cand : Nat) :
    (findOffset used inputs used.size cand).1 ≤ used.size ∧ fits used inputs (findOffset used inputs used.size cand).1 = true := by
  unfold findOffset
  have := firstFit_spec used inputs used.size (used.size + 1) (skipFull used used.size (used.size / 64 + 2) (cand / 64) * 64)
  refine ⟨this.1, ?_⟩
  rcases Nat.lt_or_ge (firstFit used inputs used.size (used.size + 1) (skipFull used used.size (used.size / 64 + 2) (cand / 64) * 64)) used.size with h | h
  · exact this.2 h
  · exact fits_oob used inputs _ h

def Sized (P : Pack) : Prop := P.m.size = P.t.size ∧ P.used.size = P.t.size ∧ 512 ≤ P.t.size

/-- `Q` is `P` after `_yr_ac_find_suitable_transition_table_slot` has found `slot` for state `s`: a free slot with room for a whole
    row; the tables only gain zero entries (at most 257 of them), and `ok` records the assertion -/
structure Slotted (P Q : Pack) (s slot : Nat) : Prop where
  auto : Q.A = P.A
  sized : Sized Q
  grows : P.t.size ≤ Q.t.size ∧ Q.t.size ≤ P.t.size + 257 ∧ slot ≤ P.t.size
  t_eq : ∀ i, Q.t.getD i 0 = P.t.getD i 0
  m_eq : ∀ i, Q.m.getD i 0 = P.m.getD i 0
  used_eq : ∀ i, isUsed Q.used i = isUsed P.used i
  room : slot + 256 < Q.t.size
  fits : fits P.used ((P.A.st s).children.map fun ch => (P.A.st ch).input) slot = true
  ok_eq : Q.ok = (P.ok && decide (slot + 257 < 0x800000))

theorem findSlot_spec (P : Pack) (s : Nat) (hz : Sized P) : Slotted P (findSlot P s).1 s (findSlot P s).2 := by
  obtain ⟨z1, z2, z3⟩ := hz
  have hsz : P.size = P.used.size := z2.symm
  have hfo := findOffset_spec P.used ((P.A.st s).children.map fun ch => (P.A.st ch).input) P.cand
  unfold findSlot
  simp only
  rw [hsz]
  split
  · refine ⟨rfl, ⟨by simp; omega, by simp; omega, by simp; omega⟩, ⟨by simp, by simp, by omega⟩,
      fun i => getD_growBy P.t 257 i 0, fun i => getD_growBy P.m 257 i 0, fun i => by unfold isUsed; exact getD_growBy P.used 257 i false, ?_, hfo.2, rfl⟩
    simp; omega
  · rename_i hgt
    simp only [Pack.size] at hgt
    refine ⟨rfl, ⟨z1, z2, z3⟩, ⟨Nat.le_refl _, by simp, by omega⟩, fun _ => rfl, fun _ => rfl, fun _ => rfl, ?_, hfo.2, rfl⟩
    simp only
    omega

def noslot (s : State) : UInt8 × Nat × Nat × Nat × List Nat × Bytes := (s.input, s.depth, s.matchesRef, s.failure, s.children, s.path)

theorem placeChild_A_st (slot : Nat) (P : Pack) (ch j : Nat) :
    (placeChild slot P ch).A.st j =
      if j = ch ∧ ch < P.A.states.size then { P.A.st ch with slot := slot + (P.A.st ch).input.toNat + 1 } else P.A.st j := by
  unfold placeChild
  rw [st_modify]

/-- one more position written: the step of a fold that writes `v (pos y)` at `pos y` for the elements `y` of a list -/
theorem ite_mem_cons {α : Type} (pos : Nat → Nat) (a : Nat) (l : List Nat) (i : Nat) (v : Nat → α) (old : α) :
    (if ∃ y ∈ l, pos y = i then v i else if i = pos a then v (pos a) else old) =
      if ∃ y ∈ a :: l, pos y = i then v i else old := by
  simp only [List.mem_cons, exists_eq_or_imp]
  by_cases hl : ∃ y ∈ l, pos y = i
  · rw [if_pos hl, if_pos (Or.inr hl)]
  · rw [if_neg hl]
    by_cases ha : i = pos a
    · rw [if_pos ha, if_pos (Or.inl ha.symm), ha]
    · rw [if_neg ha, if_neg]
      rintro (h1 | h1)
      · exact ha h1.symm
      · exact hl h1

/-- `P'` is `P` after the entries of the states `l` have been written into the row at `slot` (`placeChild` folded over `l`) -/
structure RowWritten (slot : Nat) (l : List Nat) (P P' : Pack) : Prop where
  m_eq : P'.m = P.m
  ok_eq : P'.ok = P.ok
  t_size : P'.t.size = P.t.size
  used_size : P'.used.size = P.used.size
  states : P'.A.states.size = P.A.states.size
  pool : P'.A.pool = P.A.pool
  frame : ∀ j, noslot (P'.A.st j) = noslot (P.A.st j)
  slot_eq : ∀ j, (P'.A.st j).slot = if j ∈ l ∧ j < P.A.states.size then slot + (P.A.st j).input.toNat + 1 else (P.A.st j).slot
  t_eq : ∀ i, P'.t.getD i 0 =
    if ∃ y ∈ l, slot + (P.A.st y).input.toNat + 1 = i then mkTransition 0 (i - slot) else P.t.getD i 0
  used_eq : ∀ i, isUsed P'.used i =
    if ∃ y ∈ l, slot + (P.A.st y).input.toNat + 1 = i then true else isUsed P.used i

theorem placeFold_spec (slot : Nat) : ∀ (l : List Nat) (P : Pack), slot + 256 < P.t.size → slot + 256 < P.used.size →
    RowWritten slot l P (l.foldl (placeChild slot) P) := by
  intro l
  induction l with
  | nil => intro P _ _; exact ⟨rfl, rfl, rfl, rfl, rfl, rfl, fun _ => rfl, by simp, by simp, by simp⟩
  | cons a l ih =>
    intro P ht hu
    rw [List.foldl_cons]
    have hpos := (P.A.st a).input.toNat_lt
    obtain ⟨i1, i2, i3, i4, i5, i6, i7, i8, i9, i10⟩ := ih (placeChild slot P a) (by simp [placeChild]; omega) (by simp [placeChild]; omega)
    have hA := placeChild_A_st slot P a
    have hinp : ∀ j, ((placeChild slot P a).A.st j).input = (P.A.st j).input := by
      intro j; rw [hA]; split
      · rename_i e; rw [e.1]
      · rfl
    have hsz : (placeChild slot P a).A.states.size = P.A.states.size := by simp [placeChild]
    refine ⟨i1, i2, by rw [i3]; simp [placeChild], by rw [i4]; simp [placeChild], by rw [i5, hsz], by rw [i6]; rfl, ?_, ?_, ?_, ?_⟩
    · intro j
      rw [i7, hA]
      split
      · rename_i e; rw [e.1]; rfl
      · rfl
    · intro j
      rw [i8, hsz, hinp]
      by_cases hj : j < P.A.states.size
      · by_cases hjl : j ∈ l
        · simp [hjl, hj]
        · by_cases hja : j = a
          · subst hja; simp [hj, hA]
          · simp [hja, hA]
      · simp [hj]
        rw [hA]
        have : ¬ (j = a ∧ a < P.A.states.size) := fun e => hj (e.1 ▸ e.2)
        rw [if_neg this]
    · intro i
      have hta : (placeChild slot P a).t.getD i 0 =
          if i = slot + (P.A.st a).input.toNat + 1
          then mkTransition 0 (slot + (P.A.st a).input.toNat + 1 - slot) else P.t.getD i 0 := by
        unfold placeChild; rw [getD_set_of_lt _ _ _ _ (by omega), Nat.add_assoc slot, Nat.add_sub_cancel_left]
      rw [i9, hta]
      simp only [hinp]
      exact ite_mem_cons (fun y => slot + (P.A.st y).input.toNat + 1) a l i (fun i => mkTransition 0 (i - slot)) _
    · intro i
      have hua : isUsed (placeChild slot P a).used i =
          if i = slot + (P.A.st a).input.toNat + 1 then true else isUsed P.used i := by
        unfold placeChild isUsed; rw [getD_set_of_lt _ _ _ _ (by omega)]
      rw [i10, hua]
      simp only [hinp]
      exact ite_mem_cons (fun y => slot + (P.A.st y).input.toNat + 1) a l i (fun _ => true) _

/-- the row header of a placed state `x`: it holds the slot of the failure state (tag 0) in `t` and the match reference in `m`;
    `small`: the slot fits its 23 bits while no assertion has failed; `fail`: the failure state
    was placed before, so the slot in the header is final -/
structure Hdr (A0 : Auto) (P : Pack) (placed : List Nat) (x : Nat) : Prop where
  room : (P.A.st x).slot + 256 < P.t.size
  used : isUsed P.used (P.A.st x).slot = true
  t : P.t.getD (P.A.st x).slot 0 = mkTransition (P.A.st (A0.st x).failure).slot 0
  m : P.m.getD (P.A.st x).slot 0 = UInt32.ofNat (A0.st x).matchesRef
  nonzero : x ≠ 0 → (P.A.st x).slot ≠ 0
  small : P.ok = true → (P.A.st x).slot < 2 ^ 23
  fail : (A0.st x).failure ∈ placed

/-- the packing invariant; `A0` is the automaton handed to the packing pass (all fields but the slots are read from it),
    `placed` the states that have their row, the root first. Every used position is a row header or an entry of a placed state
    (`own`), unused ones are zero, and an entry carries its byte as a tag: so a lookup `t[slot x + c + 1]` is valid exactly when `x` has a
    transition on `c` (`I4.noentry`). A child not yet placed has a *provisional slot*: the position of its entry in the parent's
    row (last clause of `entry`; `writeRow` reads it as `own`). -/
structure I4 (A0 : Auto) (P : Pack) (placed : List Nat) : Prop where
  sized : Sized P
  size_eq : P.A.states.size = A0.states.size
  pool_eq : P.A.pool = A0.pool
  frame : ∀ j, noslot (P.A.st j) = noslot (A0.st j)
  hdr : ∀ x ∈ placed, x < A0.states.size → Hdr A0 P placed x
  root_slot : (P.A.st 0).slot = 0
  inj : ∀ x y, x ∈ placed → y ∈ placed → x < A0.states.size → y < A0.states.size →
    (P.A.st x).slot = (P.A.st y).slot → x = y
  entry : ∀ p ∈ placed, p < A0.states.size → ∀ y ∈ (A0.st p).children,
    isUsed P.used ((P.A.st p).slot + (A0.st y).input.toNat + 1) = true ∧
    P.t.getD ((P.A.st p).slot + (A0.st y).input.toNat + 1) 0 =
      mkTransition (if y ∈ placed then (P.A.st y).slot else 0) ((A0.st y).input.toNat + 1) ∧
    (y ∉ placed → (P.A.st y).slot = (P.A.st p).slot + (A0.st y).input.toNat + 1)
  zero : ∀ i, isUsed P.used i = false → P.t.getD i 0 = 0
  own : ∀ i, isUsed P.used i = true →
    (∃ x ∈ placed, x < A0.states.size ∧ i = (P.A.st x).slot) ∨
    (∃ p ∈ placed, p < A0.states.size ∧ ∃ y ∈ (A0.st p).children, i = (P.A.st p).slot + (A0.st y).input.toNat + 1)

theorem noslot_input {a b : State} (h : noslot a = noslot b) : a.input = b.input := by
  simp only [noslot, Prod.mk.injEq] at h; exact h.1
theorem noslot_ref {a b : State} (h : noslot a = noslot b) : a.matchesRef = b.matchesRef := by
  simp only [noslot, Prod.mk.injEq] at h; exact h.2.2.1
theorem noslot_failure {a b : State} (h : noslot a = noslot b) : a.failure = b.failure := by
  simp only [noslot, Prod.mk.injEq] at h; exact h.2.2.2.1
theorem noslot_children {a b : State} (h : noslot a = noslot b) : a.children = b.children := by
  simp only [noslot, Prod.mk.injEq] at h; exact h.2.2.2.2.1

section
variable {A0 : Auto} {P : Pack} {placed : List Nat}

theorem I4.tagged (h : I4 A0 P placed) {i : Nat} (hi : 1 ≤ low9 (P.t.getD i 0)) :
    ∃ p ∈ placed, p < A0.states.size ∧ ∃ y ∈ (A0.st p).children,
      i = (P.A.st p).slot + (A0.st y).input.toNat + 1 ∧ low9 (P.t.getD i 0) = (A0.st y).input.toNat + 1 := by
  have hu : isUsed P.used i = true := by
    cases hh : isUsed P.used i with
    | true => rfl
    | false => rw [h.zero i hh, low9_zero] at hi; omega
  rcases h.own i hu with ⟨x, hx, hxs, rfl⟩ | ⟨p, hp, hps, y, hy, rfl⟩
  · rw [(h.hdr x hx hxs).t, low9_mk_zero] at hi; omega
  · exact ⟨p, hp, hps, y, hy, rfl, by rw [(h.entry p hp hps y hy).2.1, low9_mk_byte]⟩

/-- a matching tag belongs to a row at the same slot, that is (`inj`) to the state itself -/
theorem I4.noentry (h : I4 A0 P placed) (p : Nat) (hp : p ∈ placed) (hps : p < A0.states.size) (c : UInt8)
    (hno : ∀ y ∈ (A0.st p).children, (A0.st y).input ≠ c) :
    low9 (P.t.getD ((P.A.st p).slot + c.toNat + 1) 0) ≠ c.toNat + 1 := by
  intro e
  obtain ⟨q, hq, hqs, y, hy, hpos, hl⟩ := h.tagged (by rw [e]; omega)
  rw [e] at hl
  have hqp : q = p := h.inj q p hq hp hqs hps (by omega)
  subst hqp
  exact hno y hy (UInt8.toNat_inj.mp (by omega))

end

/-- `P'` is `P` after the packing loop has given state `s` the row at `slot`: the row header and the entries of the
    children of `s` are written at positions that were free, the entry of `s` in its parent's row (the root has none) gets `slot` as target,
    everything else is as before (the arrays may have gained zero entries at the end). -/
structure Placed (P P' : Pack) (s slot : Nat) : Prop where
  free : isUsed P.used slot = false
  free_kids : ∀ y ∈ (P.A.st s).children, isUsed P.used (slot + (P.A.st y).input.toNat + 1) = false
  sized : Sized P'
  room : slot + 256 < P'.t.size
  grows : P.t.size ≤ P'.t.size ∧ P'.t.size ≤ P.t.size + 257 ∧ slot ≤ P.t.size
  states : P'.A.states.size = P.A.states.size
  pool : P'.A.pool = P.A.pool
  frame : ∀ j, noslot (P'.A.st j) = noslot (P.A.st j)
  slot_eq : s < P.A.states.size → (∀ y ∈ (P.A.st s).children, y < P.A.states.size) →
    ∀ j, (P'.A.st j).slot = if j ∈ (P.A.st s).children then slot + (P.A.st j).input.toNat + 1
      else if j = s then slot else (P.A.st j).slot
  t_eq : ∀ i, P'.t.getD i 0 =
    if ∃ y ∈ (P.A.st s).children, slot + (P.A.st y).input.toNat + 1 = i then mkTransition 0 (i - slot)
    else if i = slot then mkTransition (P.A.st (P.A.st s).failure).slot 0
    else if i = (P.A.st s).slot ∧ (P.A.st s).slot < P'.t.size then P.t.getD (P.A.st s).slot 0 ||| (UInt32.ofNat slot <<< 9)
    else P.t.getD i 0
  m_eq : ∀ i, P'.m.getD i 0 = if i = slot then UInt32.ofNat (P.A.st s).matchesRef else P.m.getD i 0
  used_eq : ∀ i, isUsed P'.used i = true ↔
    ((∃ y ∈ (P.A.st s).children, slot + (P.A.st y).input.toNat + 1 = i) ∨ i = slot ∨ isUsed P.used i = true)
  ok_eq : P'.ok = (P.ok && decide (slot + 257 < 0x800000))

/-- the loop body of `_yr_ac_build_transition_table` once the slot is found: the target in the state's entry in its parent's row, the
    row header, the entries of the children. `initRoot` is these writes on the empty tables (`initRoot_eq`). -/
def writeRow (Q : Pack) (s slot : Nat) : Pack :=
  let own := (Q.A.st s).slot
  let P2 := { Q with
    t := (Q.t.setIfInBounds own (Q.t.getD own 0 ||| (UInt32.ofNat slot <<< 9))).setIfInBounds slot
           (mkTransition (Q.A.st (Q.A.st s).failure).slot 0),
    m := Q.m.setIfInBounds slot (UInt32.ofNat (Q.A.st s).matchesRef),
    A := Q.A.modify s fun x => { x with slot := slot },
    used := Q.used.setIfInBounds slot true }
  (P2.A.st s).children.foldl (placeChild slot) P2

theorem Slotted.placed {P Q : Pack} {s slot : Nat} (hf : Slotted P Q s slot) : Placed P (writeRow Q s slot) s slot := by
  unfold writeRow
  simp only
  have hfit := (fits_iff _ _ _).mp hf.fits
  -- `Q`: the tables after the slot search (same contents, possibly longer); `P2`: after the header writes; `P'`: after the
  -- entries of the children
  have hkids : ((Q.A.modify s fun x => { x with slot := slot }).st s).children = (P.A.st s).children := by
    rw [hf.auto, st_modify]; split <;> rfl
  rw [hkids]
  generalize hP2 : ({ Q with
      t := (Q.t.setIfInBounds (Q.A.st s).slot (Q.t.getD (Q.A.st s).slot 0 ||| (UInt32.ofNat slot <<< 9))).setIfInBounds slot
             (mkTransition (Q.A.st (Q.A.st s).failure).slot 0),
      m := Q.m.setIfInBounds slot (UInt32.ofNat (Q.A.st s).matchesRef),
      A := Q.A.modify s fun x => { x with slot := slot },
      used := Q.used.setIfInBounds slot true } : Pack) = P2
  have hroom := hf.room
  have hslotlt : slot < Q.t.size := by omega
  have hP2st : ∀ j, P2.A.st j = if j = s ∧ s < P.A.states.size then { P.A.st s with slot := slot } else P.A.st j := by
    intro j
    rw [← hP2]
    rw [hf.auto, st_modify]
  have hP2in : ∀ j, (P2.A.st j).input = (P.A.st j).input := by
    intro j; rw [hP2st]; split
    · rename_i e; rw [e.1]
    · rfl
  have hP2sz : P2.A.states.size = P.A.states.size := by rw [← hP2]; rw [hf.auto, size_modify]
  -- two writes into `t`; the header at `slot` is written last and would win over the target put into the parent's entry
  have hP2t : ∀ i, P2.t.getD i 0 = if i = slot then mkTransition (P.A.st (P.A.st s).failure).slot 0
      else if i = (P.A.st s).slot ∧ (P.A.st s).slot < Q.t.size then P.t.getD (P.A.st s).slot 0 ||| (UInt32.ofNat slot <<< 9)
      else P.t.getD i 0 := by
    intro i
    rw [← hP2]
    rw [getD_set_of_lt _ _ _ _ (by rw [Array.size_setIfInBounds]; exact hslotlt), getD_set, hf.auto, hf.t_eq, hf.t_eq]
  have hP2m : ∀ i, P2.m.getD i 0 = if i = slot then UInt32.ofNat (P.A.st s).matchesRef else P.m.getD i 0 := by
    intro i
    rw [← hP2]
    rw [getD_set_of_lt _ _ _ _ (by rw [hf.sized.1]; exact hslotlt), hf.auto, hf.m_eq]
  have hP2u : ∀ i, isUsed P2.used i = if i = slot then true else isUsed P.used i := by
    intro i
    rw [← hf.used_eq i, ← hP2]
    unfold isUsed
    rw [getD_set_of_lt _ _ _ _ (by rw [hf.sized.2.1]; exact hslotlt)]
  have hP2tsz : P2.t.size = Q.t.size := by rw [← hP2]; simp
  have hP2msz : P2.m.size = Q.t.size := by rw [← hP2]; simp [hf.sized.1]
  have hP2usz : P2.used.size = Q.t.size := by rw [← hP2]; simp [hf.sized.2.1]
  have hP2ok : P2.ok = Q.ok := by rw [← hP2]
  have hP2pool : P2.A.pool = P.A.pool := by rw [← hP2]; rw [hf.auto, pool_modify]
  have hq := placeFold_spec slot (P.A.st s).children P2 (by rw [hP2tsz]; exact hf.room) (by rw [hP2usz]; exact hf.room)
  generalize (P.A.st s).children.foldl (placeChild slot) P2 = P' at hq ⊢
  refine ⟨hfit.1, fun y hy => hfit.2 _ (List.mem_map.mpr ⟨y, hy, rfl⟩), ?_, by rw [hq.t_size, hP2tsz]; exact hf.room,
    by rw [hq.t_size, hP2tsz]; exact hf.grows, by rw [hq.states, hP2sz], by rw [hq.pool, hP2pool], ?_, ?_, ?_, ?_, ?_, by rw [hq.ok_eq, hP2ok, hf.ok_eq]⟩
  · exact ⟨by rw [hq.m_eq, hq.t_size, hP2msz, hP2tsz], by rw [hq.used_size, hq.t_size, hP2usz, hP2tsz], by rw [hq.t_size, hP2tsz]; exact hf.sized.2.2⟩
  · intro j
    rw [hq.frame, hP2st]
    split
    · rename_i e; rw [e.1]; rfl
    · rfl
  · intro hs hK j
    rw [hq.slot_eq, hP2sz, hP2in, hP2st]
    by_cases e : j ∈ (P.A.st s).children
    · rw [if_pos ⟨e, hK j e⟩, if_pos e]
    · have : ¬ (j ∈ (P.A.st s).children ∧ j < P.A.states.size) := fun hh => e hh.1
      rw [if_neg this, if_neg e]
      by_cases e2 : j = s
      · rw [if_pos ⟨e2, hs⟩, if_pos e2]
      · rw [if_neg (fun hh => e2 hh.1), if_neg e2]
  · intro i
    rw [hq.t_eq, hP2t, hq.t_size, hP2tsz]
    simp only [hP2in]
  · intro i; rw [hq.m_eq, hP2m]
  · intro i
    rw [hq.used_eq, hP2u]
    simp only [hP2in]
    simp

theorem packStep_placed (P : Pack) (s : Nat) (hz : Sized P) : Placed P (packStep P s) s (findSlot P s).2 :=
  (findSlot_spec P s hz).placed      -- by definition of `packStep`

/-- the root comes first, onto the empty tables at slot 0; every other state has a placed parent -/
theorem Placed.I4 {A0 : Auto} (hT : Trie A0) {P P' : Pack} {placed : List Nat} (h : I4 A0 P placed) {s slot : Nat}
    (hp : Placed P P' s slot) (hs : s < A0.states.size) (hsn : s ∉ placed)
    (hpar : (s = 0 ∧ placed = [] ∧ slot = 0 ∧ (A0.st 0).failure = 0) ∨
      (0 ∈ placed ∧ (A0.st s).failure ∈ placed ∧ ∃ p0 ∈ placed, p0 < A0.states.size ∧ s ∈ (A0.st p0).children))
    (hkn : ∀ y ∈ (A0.st s).children, y ∉ placed) : I4 A0 P' (placed ++ [s]) := by
  have hin : ∀ j, (P.A.st j).input = (A0.st j).input := fun j => noslot_input (h.frame j)
  have hKlt : ∀ y ∈ (A0.st s).children, s < y ∧ y < A0.states.size := hT.child_lt s hs
  obtain ⟨hfree, hfreeK', hsized, hroom, hgrow, hstates, hpool, hframe, hslot', ht', hm', hu', hokeq⟩ := hp
  have hslot' := hslot' (by rw [h.size_eq]; exact hs) (fun y hy => by
    rw [noslot_children (h.frame s)] at hy
    rw [h.size_eq]; exact (hKlt y hy).2)
  rw [noslot_children (h.frame s)] at hfreeK' hslot' ht' hu'
  rw [noslot_failure (h.frame s)] at ht'
  rw [noslot_ref (h.frame s)] at hm'
  simp only [hin] at hfreeK' hslot' ht' hu'
  -- the root's provisional slot is the slot it gets; every other state has its entry (still without target) in the row of its
  -- parent, at its provisional slot
  have hown : (placed = [] ∧ (P.A.st s).slot = slot) ∨ ∃ p0 ∈ placed, p0 < A0.states.size ∧ s ∈ (A0.st p0).children ∧
      isUsed P.used (P.A.st s).slot = true ∧ P.t.getD (P.A.st s).slot 0 = mkTransition 0 ((A0.st s).input.toNat + 1) ∧
      (P.A.st s).slot = (P.A.st p0).slot + (A0.st s).input.toNat + 1 ∧ (P.A.st s).slot < P'.t.size := by
    rcases hpar with ⟨hs0, hnil, hsl, _⟩ | ⟨_, _, p0, hp0, hp0s, hsp⟩
    · exact Or.inl ⟨hnil, by rw [hs0, h.root_slot, hsl]⟩
    · obtain ⟨e1, e2, e3⟩ := h.entry p0 hp0 hp0s s hsp
      have hown := e3 hsn
      rw [if_neg hsn, ← hown] at e2
      rw [← hown] at e1
      refine Or.inr ⟨p0, hp0, hp0s, hsp, e1, e2, hown, ?_⟩
      have := (h.hdr p0 hp0 hp0s).room
      have := (A0.st s).input.toNat_lt
      omega
  have hroot : (s = 0 ∧ slot = 0) ∨ 0 ∈ placed := hpar.imp (fun hh => ⟨hh.1, hh.2.2.1⟩) (fun hh => hh.1)
  have ht' : ∀ i, P'.t.getD i 0 = if (∃ y ∈ (A0.st s).children, slot + (A0.st y).input.toNat + 1 = i) then mkTransition 0 (i - slot)
      else if i = slot then mkTransition (P.A.st (A0.st s).failure).slot 0
      else if i = (P.A.st s).slot then mkTransition slot ((A0.st s).input.toNat + 1) else P.t.getD i 0 := by
    intro i
    rw [ht']
    by_cases e : i = (P.A.st s).slot
    · rcases hown with ⟨_, e0⟩ | ⟨_, _, _, _, _, e2, _, hlt⟩
      · -- the root: `i = slot`, so the clause, which stands behind the one for the header, is never reached
        have e' : i = slot := e.trans e0
        by_cases c1 : ∃ y ∈ (A0.st s).children, slot + (A0.st y).input.toNat + 1 = i
        · rw [if_pos c1, if_pos c1]
        · rw [if_neg c1, if_neg c1, if_pos e', if_pos e']
      · subst e
        rw [if_pos (And.intro rfl hlt), if_pos rfl, e2, mk_or]
    · have : ¬ (i = (P.A.st s).slot ∧ (P.A.st s).slot < P'.t.size) := fun hh => e hh.1
      rw [if_neg this, if_neg e]
  have hok' : P'.ok = true → P.ok = true ∧ slot < 2 ^ 23 := by
    intro hh
    rw [hokeq, Bool.and_eq_true, decide_eq_true_eq] at hh
    exact ⟨hh.1, by omega⟩
  have hs_notK : s ∉ (A0.st s).children := fun hh => by have := hKlt s hh; omega
  have hold_ne_s : ∀ x ∈ placed, x ≠ s := fun x hx e => hsn (e ▸ hx)
  have hslot_old : ∀ x ∈ placed, (P'.A.st x).slot = (P.A.st x).slot := by
    intro x hx
    rw [hslot', if_neg (fun hh => hkn x hh hx), if_neg (hold_ne_s x hx)]
  have hslot_s : (P'.A.st s).slot = slot := by rw [hslot', if_neg hs_notK, if_pos rfl]
  have hfail_slot : (P'.A.st (A0.st s).failure).slot = (P.A.st (A0.st s).failure).slot := by
    rcases hpar with ⟨hs0, _, hsl, hf0⟩ | ⟨_, hfs, _⟩
    · subst hs0
      rw [hf0, hslot_s, h.root_slot, hsl]
    · exact hslot_old _ hfs
  have hfail_placed : (A0.st s).failure ∈ placed ++ [s] := by
    rcases hpar with ⟨hs0, _, _, hf0⟩ | ⟨_, hfs, _⟩
    · subst hs0; rw [hf0]; simp
    · exact List.mem_append_left _ hfs
  have hnew_or : ∀ x, x ∈ placed ++ [s] → x ∈ placed ∨ x = s :=
    fun x hx => (List.mem_append.mp hx).imp id List.mem_singleton.mp
  have hused_old : ∀ i, isUsed P.used i = true → isUsed P'.used i = true := fun i hi => (hu' i).mpr (Or.inr (Or.inr hi))
  have hnot_new : ∀ i, isUsed P.used i = true → ¬ (∃ y ∈ (A0.st s).children, slot + (A0.st y).input.toNat + 1 = i) ∧ i ≠ slot := by
    intro i hi
    refine ⟨?_, ?_⟩
    · rintro ⟨y, hy, hyi⟩
      have := hfreeK' y hy
      rw [hyi, hi] at this; cases this
    · intro e; rw [e, hfree] at hi; cases hi
  constructor
  · exact hsized
  · rw [hstates, h.size_eq]
  · rw [hpool, h.pool_eq]
  · exact fun j => (hframe j).trans (h.frame j)
  · intro x hx hxs
    rcases hnew_or x hx with hx | hx
    · -- an old row: its header is a used position, so none of the new ones, and it is not the entry of `s` in the
      -- parent's row either (a header carries tag 0, that entry the tag `input + 1`)
      obtain ⟨x1, x2, x3, x4, x5, x6, x7⟩ := h.hdr x hx hxs
      obtain ⟨n1, n2⟩ := hnot_new _ x2
      refine ⟨?_, ?_, ?_, ?_, ?_, ?_, List.mem_append_left _ x7⟩ <;> rw [hslot_old x hx]
      · omega
      · exact hused_old _ x2
      · rw [ht', if_neg n1, if_neg n2]
        have : (P.A.st x).slot ≠ (P.A.st s).slot := by
          intro e
          rcases hown with ⟨_, e0⟩ | ⟨_, _, _, _, _, e2, _⟩
          · exact n2 (e.trans e0)
          · have := congrArg low9 x3
            rw [e, e2, low9_mk_byte, low9_mk_zero] at this
            omega
        rw [if_neg this, x3, hslot_old _ x7]
      · rw [hm', if_neg n2, x4]
      · exact x5
      · exact fun hh => x6 (hok' hh).1
    · -- the row of `s`, written by this step; its slot is not 0 unless it is the root, because position 0 (the root's header) was used
      subst hx
      refine ⟨?_, ?_, ?_, ?_, ?_, ?_, hfail_placed⟩ <;> rw [hslot_s]
      · exact hroom
      · exact (hu' _).mpr (Or.inr (Or.inl rfl))
      · rw [ht']
        have : ¬ (∃ y ∈ (A0.st x).children, slot + (A0.st y).input.toNat + 1 = slot) := by
          rintro ⟨y, _, hy⟩; omega
        rw [if_neg this, if_pos rfl, hfail_slot]
      · rw [hm', if_pos rfl]
      · intro hx0 e
        rcases hroot with ⟨hs0, _⟩ | h0p
        · exact hx0 hs0
        · have r2 := (h.hdr 0 h0p hT.size_pos).used
          rw [h.root_slot, ← e, hfree] at r2; cases r2
      · exact fun hh => (hok' hh).2
  · rcases hroot with ⟨hs0, hsl⟩ | h0p
    · subst hs0; rw [hslot_s, hsl]
    · rw [hslot_old 0 h0p]; exact h.root_slot
  · -- inj: the slots of old rows are used positions, `slot` was free
    intro x y hx hy hxs hys he
    rcases hnew_or x hx with ox | ox
    · rcases hnew_or y hy with oy | oy
      · rw [hslot_old x ox, hslot_old y oy] at he
        exact h.inj x y ox oy hxs hys he
      · rw [oy, hslot_old x ox, hslot_s] at he
        have := (h.hdr x ox hxs).used
        rw [he, hfree] at this; cases this
    · rcases hnew_or y hy with oy | oy
      · rw [ox, hslot_old y oy, hslot_s] at he
        have := (h.hdr y oy hys).used
        rw [← he, hfree] at this; cases this
      · rw [ox, oy]
  · intro p hp hps y hy
    rcases hnew_or p hp with hp | hp
    · -- an old row: its entries are used positions, so only the entry of `s` itself changes (it gets `slot` as target);
      -- no other entry sits there, since the tag determines the row (`inj`) and the input the child
      rcases hown with ⟨hnil, _⟩ | ⟨p0, hp0, hp0s, hsp, _, e2, hown, _⟩
      · rw [hnil] at hp; cases hp
      obtain ⟨y1, y2, y3⟩ := h.entry p hp hps y hy
      obtain ⟨n1, n2⟩ := hnot_new _ y1
      rw [hslot_old p hp]
      have hyK : y ∉ (A0.st s).children := by
        intro hh
        have := hT.parent_unique hy hh
        exact hold_ne_s p hp this
      refine ⟨hused_old _ y1, ?_, ?_⟩
      · rw [ht', if_neg n1, if_neg n2]
        by_cases hys : y = s
        · subst hys
          have hpp : p = p0 := hT.parent_unique hy hsp
          subst hpp
          rw [← hown, if_pos rfl, if_pos (by simp), hslot_s]
        · have hne : (P.A.st p).slot + (A0.st y).input.toNat + 1 ≠ (P.A.st s).slot := by
            intro e
            have l1 := congrArg low9 e2
            rw [← e, y2, low9_mk_byte, low9_mk_byte] at l1
            have hinp : (A0.st y).input = (A0.st s).input := UInt8.toNat_inj.mp (by omega)
            have hsl : (P.A.st p).slot = (P.A.st p0).slot := by omega
            have hpp : p = p0 := h.inj p p0 hp hp0 hps hp0s hsl
            subst hpp
            have n1' := nextState_of_child hT hps hy
            have n2' := nextState_of_child hT hps hsp
            rw [hinp, n2'] at n1'
            exact hys (Option.some.inj n1').symm
          rw [if_neg hne, y2]
          by_cases hyp : y ∈ placed
          · rw [if_pos hyp, if_pos (List.mem_append_left _ hyp), hslot_old y hyp]
          · have : y ∉ placed ++ [s] := by simp [hyp, hys]
            rw [if_neg hyp, if_neg this]
      · intro hyn
        have hyp : y ∉ placed := fun hh => hyn (List.mem_append_left _ hh)
        have hys : y ≠ s := fun e => hyn (by simp [e])
        rw [hslot', if_neg hyK, if_neg hys]
        exact y3 hyp
    · subst hp
      rw [hslot_s]
      have hyn : y ∉ placed ++ [p] := by
        intro hh
        rcases List.mem_append.mp hh with hh | hh
        · exact hkn y hy hh
        · simp at hh; subst hh; exact hs_notK hy
      refine ⟨(hu' _).mpr (Or.inl ⟨y, hy, rfl⟩), ?_, fun _ => ?_⟩
      · rw [ht', if_pos ⟨y, hy, rfl⟩, if_neg hyn]
        have : slot + (A0.st y).input.toNat + 1 - slot = (A0.st y).input.toNat + 1 := by omega
        rw [this]
      · rw [hslot', if_pos hy]
  · -- zero: a position unused after the step was unused before and is none of the written ones
    intro i hi
    have hnu : ¬ isUsed P'.used i = true := by rw [hi]; simp
    rw [hu'] at hnu
    have n1 : ¬ (∃ y ∈ (A0.st s).children, slot + (A0.st y).input.toNat + 1 = i) := fun hh => hnu (Or.inl hh)
    have n2 : i ≠ slot := fun hh => hnu (Or.inr (Or.inl hh))
    have n3 : isUsed P.used i = false := by
      cases hh : isUsed P.used i with
      | false => rfl
      | true => exact absurd (Or.inr (Or.inr hh)) hnu
    have n4 : i ≠ (P.A.st s).slot := by
      intro e
      rcases hown with ⟨_, e0⟩ | ⟨_, _, _, _, e1, _⟩
      · exact n2 (e.trans e0)
      · rw [e, e1] at n3; cases n3
    rw [ht', if_neg n1, if_neg n2, if_neg n4]
    exact h.zero i n3
  · -- own: the positions used after the step are the new header, the new entries, and the old ones, whose rows keep their slots
    intro i hi
    rcases (hu' i).mp hi with ⟨y, hy, hyi⟩ | hi | hi
    · exact .inr ⟨s, by simp, hs, y, hy, by rw [hslot_s, hyi]⟩
    · exact .inl ⟨s, by simp, hs, by rw [hslot_s, hi]⟩
    · rcases h.own i hi with ⟨x, hx, hxs, e⟩ | ⟨p, hp', hps, y, hy, e⟩
      · exact .inl ⟨x, List.mem_append_left _ hx, hxs, by rw [hslot_old x hx]; exact e⟩
      · exact .inr ⟨p, List.mem_append_left _ hp', hps, y, hy, by rw [hslot_old p hp']; exact e⟩

end YaraModel.AC.Build
