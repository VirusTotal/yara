/-
  C16 — the only fact tracked about a heap is a cover `h.live ⊆ L`, always with a frame `base` (what was live before and
  is none of the function's business). Each primitive has a rule that transports a cover and says where in it a block goes
  in or comes out (`L₁ ++ b :: L₂`), so that a cover keeps the order in which the port's `owned` lists are written; each
  destructor and port has a derived rule of the same shape (`Built` for a constructor that may fail, `Covered` for a run
  that always returns something); a proof follows the control flow of its port, one rule per step. The last four lemmas
  are not covers: what Thm/C16 needs about `defineString`, the position list and `verifyLoop`.
-/
import YaraModel.Model.AllocM
namespace YaraModel.AllocM

/-- the blocks `yr_scanner_destroy` releases -/
def Scanner.owned (s : Scanner) : List Nat := s.table ++ s.arrays.filterMap id ++ [s.self]

variable (fail : Nat → Bool)

theorem alloc_none {h h1 : Heap} (e : alloc fail h = (none, h1)) : h1.live = h.live ∧ h1.next = h.next + 1 := by
  unfold alloc at e
  split at e <;> cases e
  exact ⟨rfl, rfl⟩

theorem alloc_some {h h1 : Heap} {b : Nat} (e : alloc fail h = (some b, h1)) :
    h1.live = b :: h.live ∧ b = h.next ∧ h1.next = h.next + 1 ∧ fail h.next = false := by
  unfold alloc at e
  split at e <;> cases e
  exact ⟨rfl, rfl, rfl, Bool.eq_false_iff.2 ‹_›⟩

/-- The rule for `alloc`, as an eliminator for a goal about `alloc fail h` (typically a `match` on it). `L₁` is the part
    of the cover the new block goes behind (`[]`: in front of everything). -/
@[elab_as_elim]
theorem alloc_cover {motive : Option Nat × Heap → Prop} {h : Heap} (L₁ : List Nat) {L₂ : List Nat}
    (hc : h.live ⊆ L₁ ++ L₂)
    (none : ∀ h1, h1.live ⊆ L₁ ++ L₂ → motive (none, h1))
    (some : ∀ b h1, h1.live ⊆ L₁ ++ b :: L₂ → motive (some b, h1)) : motive (alloc fail h) := by
  rcases e : alloc fail h with ⟨_ | b, h1⟩
  · exact none h1 ((alloc_none fail e).1 ▸ hc)
  · exact some b h1 ((alloc_some fail e).1 ▸ List.cons_subset.2
      ⟨List.mem_append_right _ (List.mem_cons_self ..), hc.trans ((List.sublist_cons_self ..).append_left _).subset⟩)

theorem free_live (b : Nat) (h : Heap) : (free b h).2.live = h.live.filter (· ≠ b) ∧ (free b h).2.next = h.next := ⟨rfl, rfl⟩

theorem freeOpt_sub (o : Option Nat) (h : Heap) : (freeOpt o h).2.live ⊆ h.live := by
  cases o with
  | none => exact fun _ h => h
  | some b => exact (List.filter_sublist).subset

theorem freeAll_mem (bs : List Nat) (h : Heap) (x : Nat) :
    x ∈ (freeAll bs h).2.live ↔ x ∈ h.live ∧ ¬ x ∈ bs := by
  induction bs generalizing h with
  | nil => simp [freeAll]
  | cons b bs ih => simp [freeAll, ih, free, and_assoc]

theorem freeAll_next (bs : List Nat) (h : Heap) : (freeAll bs h).2.next = h.next := by
  induction bs generalizing h with
  | nil => rfl
  | cons b bs ih => simp only [freeAll]; rw [ih]; rfl

theorem freeAll_cover {owned : List Nat} {h : Heap} (L₁ : List Nat) {L₂ : List Nat}
    (hc : h.live ⊆ L₁ ++ (owned ++ L₂)) :
    (freeAll owned h).2.live ⊆ L₁ ++ L₂ := by
  intro x hx
  have ⟨hl, hn⟩ := (freeAll_mem owned h x).1 hx
  exact (List.mem_append.1 (hc hl)).elim (List.mem_append_left _)
    fun h2 => List.mem_append_right _ ((List.mem_append.1 h2).resolve_left hn)

theorem free_cover {b : Nat} {h : Heap} (L₁ : List Nat) {L₂ : List Nat} (hc : h.live ⊆ L₁ ++ b :: L₂) :
    (free b h).2.live ⊆ L₁ ++ L₂ :=
  freeAll_cover (owned := [b]) L₁ hc

def Built {α : Type} (owned : α → List Nat) (base : List Nat) : Option α × Heap → Prop
  | (none, h) => h.live ⊆ base
  | (some a, h) => h.live ⊆ owned a ++ base

@[elab_as_elim]
theorem Built.elim {α : Type} {owned : α → List Nat} {base : List Nat} {motive : Option α × Heap → Prop}
    {r : Option α × Heap} (hb : Built owned base r)
    (none : ∀ h, h.live ⊆ base → motive (none, h))
    (some : ∀ a h, h.live ⊆ owned a ++ base → motive (some a, h)) : motive r := by
  rcases r with ⟨_ | a, h⟩
  · exact none h hb
  · exact some a h hb

def Covered {α : Type} (owned : α → List Nat) (base : List Nat) (r : α × Heap) : Prop := r.2.live ⊆ owned r.1 ++ base

@[elab_as_elim]
theorem Covered.elim {α : Type} {owned : α → List Nat} {base : List Nat} {motive : α × Heap → Prop}
    {r : α × Heap} (hb : Covered owned base r)
    (k : ∀ a h, h.live ⊆ owned a ++ base → motive (a, h)) : motive r :=
  k r.1 r.2 hb

variable {base : List Nat} {h : Heap}

theorem hashAdd_cover (withNs : Bool) (hc : h.live ⊆ base) : Built id base (hashAdd fail withNs h) := by
  unfold hashAdd
  refine alloc_cover fail [] hc (fun h1 c1 => ?_) (fun e h1 c1 => ?_) <;> simp only
  · exact c1
  refine alloc_cover fail [e] c1 (fun h2 c2 => ?_) (fun k h2 c2 => ?_) <;> simp only
  · exact free_cover [] c2
  cases withNs <;> simp only [Bool.false_eq_true, ↓reduceIte]
  · exact c2
  refine alloc_cover fail [e, k] c2 (fun h3 c3 => ?_) (fun ns h3 c3 => ?_) <;> simp only
  · exact free_cover [] (free_cover [e] c3)
  · exact c3

theorem rulesFromArena_cover (hc : h.live ⊆ base) : Built id base (rulesFromArena fail h) := by
  unfold rulesFromArena
  refine alloc_cover fail [] hc (fun h1 c1 => ?_) (fun r h1 c1 => ?_) <;> simp only
  · exact c1
  refine alloc_cover fail [r] c1 (fun h2 c2 => ?_) (fun m h2 c2 => ?_) <;> simp only
  · exact free_cover [] c2
  · exact c2

theorem arenaLoad_cover (n : Nat) {acc : List Nat} (hc : h.live ⊆ acc ++ base) :
    Built id base (arenaLoad fail n acc h) := by
  induction n generalizing acc h with
  | zero => exact hc
  | succ n ih =>
    unfold arenaLoad
    refine alloc_cover fail [] hc (fun h1 c1 => ?_) (fun b h1 c1 => ?_) <;> simp only
    · exact freeAll_cover [] c1
    · exact ih c1

theorem loadStreamFixed_cover (n : Nat) (hc : h.live ⊆ base) : Built id base (loadStreamFixed fail n h) := by
  unfold loadStreamFixed
  refine (arenaLoad_cover fail (n + 1) (acc := []) hc).elim (fun h1 c1 => ?_) (fun arena h1 c1 => ?_) <;> simp only
  · exact c1
  refine (rulesFromArena_cover fail c1).elim (fun h2 c2 => ?_) (fun rs h2 c2 => ?_) <;> simp only
  · exact freeAll_cover [] c2
  · show h2.live ⊆ rs ++ arena ++ base
    rw [List.append_assoc]
    exact c2

/-- the QUEUE_NODEs of the queue a run returns beside its outcome -/
abbrev nodes (r : Res × Queue) : List Nat := r.2.map (·.1)

theorem pushAll_cover (ts : List Trie) {q : Queue} (hc : h.live ⊆ q.map (·.1) ++ base) :
    Covered nodes base (pushAll fail ts q h) := by
  induction ts generalizing q h with
  | nil => exact hc
  | cons t ts ih =>
    unfold pushAll
    refine alloc_cover fail _ hc (fun h1 c1 => ?_) (fun b h1 c1 => ?_) <;> simp only
    · exact c1
    · exact ih (by rw [List.map_append, List.append_assoc]; exact c1)

theorem bfs_cover (n : Nat) {q : Queue} (hc : h.live ⊆ q.map (·.1) ++ base) :
    Covered nodes base (bfs fail n q h) := by
  induction n generalizing q h with
  | zero => exact hc
  | succ n ih =>
    match q with
    | [] => exact hc
    | (b, t) :: q =>
      simp only [bfs]
      refine (pushAll_cover fail t.children (free_cover [] hc)).elim fun r h2 c2 => ?_
      rcases r with ⟨_ | _, q'⟩ <;> simp only
      · exact ih c2
      · exact c2

/-- Both phases of `_yr_ac_create_failure_links`, keeping the queue that is on the function's stack frame when it
    returns. -/
def linksRun (fuel : Nat) (root : Trie) : AllocM (Res × Queue) := fun h =>
  match pushAll fail root.children [] h with
  | ((.ok, q), h1) => bfs fail fuel q h1
  | r => r

theorem linksRun_cover (fuel : Nat) (root : Trie) (hc : h.live ⊆ base) :
    Covered nodes base (linksRun fail fuel root h) := by
  unfold linksRun
  refine (pushAll_cover fail root.children (q := []) hc).elim fun r h1 c1 => ?_
  rcases r with ⟨_ | _, q⟩ <;> simp only
  · exact bfs_cover fail fuel c1
  · exact c1

theorem createFailureLinks_eq (fuel : Nat) (root : Trie) (h : Heap) :
    createFailureLinks fail fuel root h = ((linksRun fail fuel root h).1.1, (linksRun fail fuel root h).2) := by
  unfold createFailureLinks linksRun
  rcases pushAll fail root.children [] h with ⟨⟨_ | _, q⟩, h1⟩ <;> rfl

theorem createFailureLinksFixed_eq (fuel : Nat) (root : Trie) (h : Heap) :
    createFailureLinksFixed fail fuel root h =
      ((linksRun fail fuel root h).1.1,
       (freeAll ((linksRun fail fuel root h).1.2.map (·.1)) (linksRun fail fuel root h).2).2) := by
  unfold createFailureLinksFixed linksRun
  rcases pushAll fail root.children [] h with ⟨⟨_ | _, q⟩, h1⟩
  · simp only
    rcases bfs fail fuel q h1 with ⟨⟨_ | _, q'⟩, h2⟩ <;> rfl
  · rfl

theorem notebookCreate_cover (hc : h.live ⊆ base) :
    Built (fun nb => nb.self :: nb.pages) base (notebookCreate fail h) := by
  unfold notebookCreate
  refine alloc_cover fail [] hc (fun h1 c1 => ?_) (fun nb h1 c1 => ?_) <;> simp only
  · exact c1
  refine alloc_cover fail [nb] c1 (fun h2 c2 => ?_) (fun p h2 c2 => ?_) <;> simp only
  · exact free_cover [] c2
  · exact c2

theorem notebookDestroy_cover {nb : Notebook} (hc : h.live ⊆ (nb.self :: nb.pages) ++ base) :
    (notebookDestroy nb h).2.live ⊆ base :=
  free_cover [] (freeAll_cover [nb.self] hc)

theorem notebookUse_nil (nb : Notebook) (h : Heap) : notebookUse fail nb [] h = ((true, nb), h) := by
  simp only [notebookUse]

theorem scannerDestroy_cover {s : Scanner} (hc : h.live ⊆ s.owned ++ base) :
    (scannerDestroy s h).2.live ⊆ base := by
  rw [Scanner.owned, List.append_assoc, List.append_assoc] at hc
  exact free_cover [] (freeAll_cover [] (freeAll_cover [] hc))

theorem allocArrays_cover (n : Nat) {acc : List (Option Nat)} (pre : List Nat) {post : List Nat}
    (hc : h.live ⊆ pre ++ (acc.filterMap id ++ post)) :
    (allocArrays fail n acc h).2.live ⊆ pre ++ ((allocArrays fail n acc h).1.filterMap id ++ post) := by
  induction n generalizing acc h with
  | zero => exact hc.trans (by simp [allocArrays, List.subset_def])
  | succ n ih =>
    unfold allocArrays
    exact ih (alloc_cover fail pre hc (fun _ c => c) (fun _ _ c => c))

theorem addExternal_cover (isStr : Bool) {s : Scanner} (hc : h.live ⊆ s.owned ++ base) :
    Built Scanner.owned base (addExternal fail isStr s h) := by
  unfold addExternal
  refine alloc_cover fail [] hc (fun h1 c1 => ?_) (fun o h1 c1 => ?_) <;> simp only
  · exact scannerDestroy_cover c1
  refine alloc_cover fail [o] c1 (fun h2 c2 => ?_) (fun idn h2 c2 => ?_) <;> simp only
  · exact scannerDestroy_cover (free_cover [] c2)
  -- the optional value copy, then the table entry
  have hv : ∀ (val : List Nat) (h3 : Heap), h3.live ⊆ [o, idn] ++ (val ++ (s.owned ++ base)) →
      Built Scanner.owned base
        (match hashAdd fail false h3 with
         | (none, h4) => (none, (scannerDestroy s (freeAll val (free idn (free o h4).2).2).2).2)
         | (some ent, h4) => (some { s with table := s.table ++ [o, idn] ++ val ++ ent }, h4)) := by
    intro val h3 c3
    refine (hashAdd_cover fail false c3).elim (fun h4 c4 => ?_) (fun ent h4 c4 => ?_) <;> simp only
    · exact scannerDestroy_cover (freeAll_cover [] (free_cover [] (free_cover [] c4)))
    · -- the new blocks join the table's list, in the middle of `owned`: the same blocks in another order
      refine c4.trans fun x => ?_
      simp only [Scanner.owned, id, List.mem_append, List.mem_cons]
      grind
  cases isStr <;> simp only [Bool.false_eq_true, ↓reduceIte]
  · exact hv [] h2 c2
  refine alloc_cover fail [o, idn] c2 (fun h3 c3 => ?_) (fun v h3 c3 => ?_) <;> simp only
  · exact scannerDestroy_cover (free_cover [] (free_cover [] c3))
  · exact hv [v] h3 c3

theorem addExternals_cover (es : List Bool) {s : Scanner} (hc : h.live ⊆ s.owned ++ base) :
    Built Scanner.owned base (addExternals fail es s h) := by
  induction es generalizing s h with
  | nil => exact hc
  | cons e es ih =>
    unfold addExternals
    refine (addExternal_cover fail e hc).elim (fun h1 c1 => ?_) (fun s' h1 c1 => ?_) <;> simp only
    · exact c1
    · exact ih c1

theorem scannerCreate_cover (es : List Bool) (hc : h.live ⊆ base) :
    Built Scanner.owned base (scannerCreate fail es h) := by
  unfold scannerCreate
  refine alloc_cover fail [] hc (fun h1 c1 => ?_) (fun self h1 c1 => ?_) <;> simp only
  · exact c1
  refine alloc_cover fail [] c1 (fun h2 c2 => ?_) (fun tbl h2 c2 => ?_) <;> simp only
  · exact free_cover [] c2
  have hown : (allocArrays fail 6 [] h2).2.live ⊆
      (Scanner.mk self [tbl] (allocArrays fail 6 [] h2).1).owned ++ base := by
    rw [Scanner.owned, List.append_assoc, List.append_assoc]
    exact allocArrays_cover fail 6 (acc := []) [tbl] c2
  cases (allocArrays fail 6 [] h2).1.any Option.isNone <;> simp only [Bool.false_eq_true, ↓reduceIte]
  · exact addExternals_cover fail es hown
  · exact scannerDestroy_cover hown

theorem defineString_result (e : Ext) (h : Heap) :
    (defineString fail e h).1 = (.insufficientMemory, ⟨.mallocString, none⟩) ∨
    ∃ b, (defineString fail e h).1 = (.ok, ⟨.mallocString, some b⟩) := by
  simp only [defineString]
  rcases alloc fail _ with ⟨_ | b, h2⟩
  · exact .inl rfl
  · exact .inr ⟨b, rfl⟩

theorem length_insert (l : List Nat) (i b : Nat) : (l.take i ++ b :: l.drop i).length = l.length + 1 := by
  rw [List.length_append, List.length_cons, ← Nat.add_assoc, ← List.length_append, List.take_append_drop]

theorem positionCreate_shape (st : FastExec) (h : Heap) :
    (positionCreate fail st h).1.2.list = st.list ∧ (positionCreate fail st h).1.2.lastIdx = st.lastIdx := by
  unfold positionCreate
  split
  · exact ⟨rfl, rfl⟩
  · rcases alloc fail h with ⟨_ | b, h1⟩ <;> exact ⟨rfl, rfl⟩

theorem verifyLoop_stop (rs : List Res) : verifyLoop true .ok rs = (rs.find? (· ≠ .ok)).getD .ok := by
  induction rs with
  | nil => rfl
  | cons r rs ih => cases r <;> simp [verifyLoop, ih]

end YaraModel.AllocM
