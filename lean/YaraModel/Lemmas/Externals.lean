/- C20: lemmas on the variable tables, the operations in normal form, and the refinement: after any history the three
   tables hold what the history-based specification (Spec/Externals.lean) says. -/
import YaraModel.Spec.Externals
namespace YaraModel.Ext

theorem lookup_setVal (vs : List Var) (n m : String) (x : Val) :
    lookup (setVal vs n x) m =
      (lookup vs m).map (fun v => if v.name == n then { v with val := x } else v) := by
  unfold lookup setVal
  rw [List.find?_map]
  congr 1
  congr 1
  funext a
  simp only [Function.comp]
  split <;> rfl

theorem lookup_name {vs : List Var} {n : String} {v : Var} (h : lookup vs n = some v) : v.name = n := by
  have := List.find?_some h
  simpa using this

theorem lookup_append (vs : List Var) (v : Var) (m : String) :
    lookup (vs ++ [v]) m = match lookup vs m with
      | some x => some x
      | none => if v.name == m then some v else none := by
  unfold lookup
  rw [List.find?_append]
  cases List.find? (fun v => v.name == m) vs with
  | some x => rfl
  | none => cases h : v.name == m <;> simp [h]

theorem tv_lookup_setVal (vs : List Var) (n m : String) (x : Val) :
    (lookup (setVal vs n x) m).map tv =
      match (lookup vs m).map tv with
      | some (t, y) => if n = m then some (t, x) else some (t, y)
      | none => none := by
  rw [lookup_setVal]
  cases h : lookup vs m with
  | none => simp
  | some v =>
    have hn := lookup_name h
    simp only [Option.map_some, tv]
    by_cases hnm : n = m
    · subst hnm; simp [hn]
    · have : (v.name == n) = false := by simp [hn]; exact fun h => hnm h.symm
      simp [this, hnm]

/-- `yr_rules_define_*_variable` / `yr_scanner_define_*_variable` on one table: the value of a declared identifier
    is replaced when the types are compatible (`=` on a rule set, equal object types on a scanner) -/
def redefine (compat : Ty → Ty → Prop) [DecidableRel compat] (vs : List Var) (ty : Ty) (n : String) (v : Val) :
    List Var :=
  match lookup vs n with
  | some x => if compat x.ty ty then setVal vs n v else vs
  | none => vs

theorem tv_lookup_redefine (compat : Ty → Ty → Prop) [DecidableRel compat] (vs : List Var) (ty : Ty) (n m : String)
    (v : Val) :
    (lookup (redefine compat vs ty n v) m).map tv =
      match (lookup vs m).map tv with
      | some (t, y) => if n = m ∧ compat t ty then some (t, v) else some (t, y)
      | none => none := by
  by_cases hnm : n = m
  · subst hnm
    unfold redefine
    cases hl : lookup vs n with
    | none => simp [hl]
    | some x =>
      by_cases hc : compat x.ty ty
      · simp only [if_pos hc, tv_lookup_setVal]; simp [hl, tv, hc]
      · simp [hl, tv, hc]
  · have : (lookup (redefine compat vs ty n v) m).map tv = (lookup vs m).map tv := by
      unfold redefine
      split
      · split
        · rw [tv_lookup_setVal]; cases (lookup vs m).map tv <;> simp [hnm]
        · rfl
      · rfl
    rw [this]
    cases (lookup vs m).map tv <;> simp [hnm]

theorem update_self {α : Type} (f : Nat → α) (k : Nat) {v : α} (h : f k = v) :
    f = fun j => if j = k then v else f j := by
  funext j; split <;> simp_all

theorem step_fst (s : St) (op : Op) : (step s op).1 =
    match op with
    | .cdef ty n v =>
      { s with comp := if s.rules.isSome || (lookup s.comp n).isSome then s.comp else s.comp ++ [⟨n, ty, v⟩] }
    | .compile => { s with rules := some (s.rules.getD s.comp) }
    | .rdef ty n v => { s with rules := s.rules.map (redefine (· = ·) · ty n v) }
    | .screate k => { s with scanners := fun j => if j = k ∧ s.rules.isSome then s.rules else s.scanners j }
    | .sdestroy k => { s with scanners := fun j => if j = k then none else s.scanners j }
    | .sdef k ty n v => { s with scanners := fun j =>
        if j = k then (s.scanners k).map (redefine (objTy · = objTy ·) · ty n v) else s.scanners j }
    | .scan _ => s
    | .rscan => s := by
  obtain ⟨comp, rules, scanners⟩ := s
  cases op with
  | cdef ty n v =>
    cases rules with
    | some rs => rfl
    | none => cases h : lookup comp n <;> simp [step, h]
  | compile => cases rules <;> rfl
  | rdef ty n v =>
    cases rules with
    | none => rfl
    | some rs => cases h : lookup rs n <;> simp only [step, redefine, h, Option.map_some] <;> split <;> rfl
  | screate k => cases rules <;> simp [step]
  | sdestroy k =>
    cases h : scanners k <;> simp only [step, h]
    exact congrArg _ (update_self _ k h)
  | sdef k ty n v =>
    cases h : scanners k with
    | none => simp only [step, h]; exact congrArg _ (update_self _ k h)
    | some vs =>
      cases h' : lookup vs n <;> simp only [step, redefine, h, h', Option.map_some]
      · exact congrArg _ (update_self _ k h)
      · split
        · rfl
        · exact congrArg _ (update_self _ k h)
  | scan k => simp only [step]; split <;> rfl
  | rscan => simp only [step]; split <;> rfl

theorem runRev_eq_foldr (past : List Op) : runRev past = past.foldr (fun op s => (step s op).1) init := by
  induction past with
  | nil => rfl
  | cons op past ih => rw [runRev, ih, List.foldr_cons]

structure Refines (past : List Op) : Prop where
  comp : ∀ n, (lookup (runRev past).comp n).map tv = specC past n
  rulesSome : (runRev past).rules.isSome = compiled past
  rules : ∀ n, ((runRev past).rules.bind (lookup · n)).map tv = specR past n
  scanners : ∀ k n, (((runRev past).scanners k).bind (lookup · n)).map tv = specS past k n

theorem refines_all (past : List Op) : Refines past := by
  induction past with
  | nil => exact ⟨fun _ => rfl, rfl, fun _ => rfl, fun _ _ => rfl⟩
  | cons op past ih =>
    obtain ⟨hc, hrs, hr, hs⟩ := ih
    refine ⟨fun n => ?_, ?_, fun n => ?_, fun k n => ?_⟩
    · -- only `cdef` touches the compiler table: the first definition wins, none counts after `compile`
      cases op <;> simp only [runRev, step_fst, specC] <;> try exact hc n
      case cdef ty n' v =>
        rw [hrs, ← hc n]
        cases compiled past
        · cases hl : lookup (runRev past).comp n' with
          | some x =>
            cases hm : lookup (runRev past).comp n with
            | some y => simp [hm]
            | none => simp [hm, show n' ≠ n from fun h => by simp [h, hm] at hl]
          | none =>
            simp only [Bool.false_or, Option.isSome_none, Bool.false_eq_true, if_false, lookup_append]
            cases lookup (runRev past).comp n with
            | some y => rfl
            | none => simp [tv]
        · cases hm : lookup (runRev past).comp n <;> simp [hm]
    · cases op <;> simp [runRev, step_fst, compiled, hrs]
    · -- `compile` copies the compiler table once, `rdef` redefines
      cases op <;> simp only [runRev, step_fst, specR] <;> try exact hr n
      case compile =>
        rw [← hrs, ← hr, ← hc]
        cases (runRev past).rules <;> rfl
      case rdef ty n' v =>
        rw [← hr]
        cases (runRev past).rules with
        | none => rfl
        | some rs => exact tv_lookup_redefine _ rs _ _ n _
    · -- `screate` copies the rule set's table, `sdestroy` forgets it, `sdef` redefines in scanner `k` only
      cases op <;> simp only [runRev, step_fst, specS] <;> try exact hs k n
      case screate k' =>
        rw [← hrs, ← hr, ← hs]
        simp only [@eq_comm _ k]
        split <;> rfl
      case sdestroy k' =>
        rw [← hs]
        simp only [@eq_comm _ k]
        split <;> rfl
      case sdef k' ty n' v =>
        rw [← hs]
        by_cases hk : k = k'
        · subst hk
          rw [if_pos rfl]
          cases (runRev past).scanners k with
          | none => rfl
          | some vs =>
            simp only [true_and]
            exact tv_lookup_redefine _ vs ty n' n v
        · rw [if_neg hk]
          cases (((runRev past).scanners k).bind (lookup · n)).map tv <;> simp [Ne.symm hk]

theorem step_unchanged_or_ok (s : St) (op : Op) : (step s op).1 = s ∨ (step s op).2 = .ok := by
  fun_cases step s op <;> first | exact .inr rfl | exact .inl rfl

theorem step_sdef_snd {s : St} {k : Nat} {vs : List Var} (h : s.scanners k = some vs) (ty : Ty) (n : String) (v : Val) :
    (step s (.sdef k ty n v)).2 =
      match (lookup vs n).map tv with
      | none => .err .invalidArgument
      | some (t, _) => if objTy t = objTy ty then .ok else .err .invalidType := by
  simp only [step, h]
  cases lookup vs n with
  | none => rfl
  | some x => simp only [Option.map_some, tv]; split <;> rfl

theorem step_rdef_snd {s : St} {rs : List Var} (h : s.rules = some rs) (ty : Ty) (n : String) (v : Val) :
    (step s (.rdef ty n v)).2 =
      match (lookup rs n).map tv with
      | none => .err .invalidArgument
      | some (t, _) => if t = ty then .ok else .err .invalidType := by
  simp only [step, h]
  cases lookup rs n with
  | none => rfl
  | some x => simp only [Option.map_some, tv]; split <;> rfl

end YaraModel.Ext
