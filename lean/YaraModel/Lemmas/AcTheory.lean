/- Aho-Corasick theory: the longest suffix of the input that is a path of the trie (`lsuf`), how it moves with one more byte
   (`lsuf_step`), and the failure step: what is not a path is reached from the longest path-suffix of its tail (`lsuf_fail_step`) -/
import YaraModel.Model.AcScan
namespace YaraModel.AC
open YaraModel.Text

theorem lsuf_suffix (P : List Bytes) (w : Bytes) : lsuf P w <:+ w := by
  fun_induction lsuf P w with      -- cases, here and below: 1 `[]`, 2 `c :: t ∈ P`, 3 otherwise
  | case1 => exact List.suffix_refl _
  | case2 c t _ => exact List.suffix_refl _
  | case3 c t _ ih => exact ih.trans (List.suffix_cons c t)

theorem lsuf_mem (P : List Bytes) (hP : [] ∈ P) (w : Bytes) : lsuf P w ∈ P := by
  fun_induction lsuf P w with
  | case1 => exact hP
  | case2 c t h => simpa using h
  | case3 c t _ ih => exact ih

theorem lsuf_max (P : List Bytes) (w p : Bytes) (hp : p ∈ P) (hs : p <:+ w) : p <:+ lsuf P w := by
  fun_induction lsuf P w with
  | case1 => exact hs
  | case2 c t _ => exact hs
  | case3 c t hnot ih =>
    rcases List.suffix_cons_iff.mp hs with h | h
    · subst h; simp at hnot; exact absurd hp hnot
    · exact ih h

def PrefixClosed (P : List Bytes) : Prop := ∀ p c, p ++ [c] ∈ P → p ∈ P

theorem lsuf_step (P : List Bytes) (hP : [] ∈ P) (hpc : PrefixClosed P) (w : Bytes) (c : UInt8) :
    lsuf P (w ++ [c]) = lsuf P (lsuf P w ++ [c]) := by
  refine List.IsSuffix.eq_of_length_le ?_ (List.IsSuffix.length_le ?_)
  · have hL := lsuf_mem P hP (w ++ [c])
    have hLs := lsuf_suffix P (w ++ [c])
    rcases List.suffix_concat_iff.mp hLs with h | ⟨L', hL', hL's⟩
    · rw [h]; exact List.nil_suffix
    · apply lsuf_max P _ _ hL
      rw [hL']
      apply List.suffix_append_self_iff.mpr
      apply lsuf_max P _ _ _ hL's
      apply hpc L' c
      rw [← hL']; exact hL
  · apply lsuf_max P _ _ (lsuf_mem P hP _)
    exact List.IsSuffix.trans (lsuf_suffix P _) (List.suffix_append_self_iff.mpr (lsuf_suffix P w))

theorem lsuf_of_mem (P : List Bytes) (w : Bytes) (h : w ∈ P) : lsuf P w = w := by
  cases w with
  | nil => rfl
  | cons c t => simp only [lsuf]; rw [if_pos (by simpa using h)]

theorem lsuf_of_not_mem (P : List Bytes) (c : UInt8) (t : Bytes) (h : c :: t ∉ P) : lsuf P (c :: t) = lsuf P t := by
  simp only [lsuf]; rw [if_neg (by simpa using h)]

theorem lsuf_tail_length_lt (P : List Bytes) {w : Bytes} (hw : w ≠ []) : (lsuf P w.tail).length < w.length := by
  cases w with
  | nil => exact absurd rfl hw
  | cons a t => exact Nat.lt_succ_of_le (lsuf_suffix P t).length_le

theorem lsuf_fail_step (P : List Bytes) (hP : [] ∈ P) (hpc : PrefixClosed P) (w : Bytes) (c : UInt8)
    (hno : w ++ [c] ∉ P) : lsuf P (w ++ [c]) = lsuf P (lsuf P w.tail ++ [c]) := by
  cases w with
  | nil => rfl
  | cons a t =>
    rw [List.cons_append]
    rw [lsuf_of_not_mem P a (t ++ [c]) hno, List.tail_cons]
    exact lsuf_step P hP hpc t c

theorem suffix_iff_suffix_lsuf (P : List Bytes) (w p : Bytes) (hp : p ∈ P) : p <:+ w ↔ p <:+ lsuf P w :=
  ⟨lsuf_max P w p hp, fun h => List.IsSuffix.trans h (lsuf_suffix P w)⟩

end YaraModel.AC
