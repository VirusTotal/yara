/- Text strings, first part: windows, the two encodings, what a comparison finds in a buffer (`Found`, with `keyOK` for the
   declared xor range) and the relation `Rel` between an encoded string and what the modifiers let it look like.  Membership in the
   specification's `variantsAt` is `Found ∧ keyOK`, for legal modifiers a `Rel`ated window; membership in the model's `atomsOf` is
   `Rel` on four bytes; that every documented occurrence carries an indexed atom (`atomAt_of_found`; `atoms_cover`, Thm/C01) is then immediate. -/
import YaraModel.Model.TextScan
namespace YaraModel.Text

theorem window_eq_some {buf : Bytes} {o n : Nat} {w : Bytes} :
    window buf o n = some w ↔ o + n ≤ buf.length ∧ w = (buf.drop o).take n := by
  unfold window
  split
  · simp_all [eq_comm]
  · simp; omega

theorem window_length {buf : Bytes} {o n : Nat} {w : Bytes} (h : window buf o n = some w) : w.length = n := by
  obtain ⟨hl, rfl⟩ := window_eq_some.mp h
  simp; omega

theorem window_sub {buf : Bytes} {o n : Nat} {w : Bytes} (h : window buf o n = some w) (i k : Nat)
    (hik : i + k ≤ n) : window buf (o + i) k = some ((w.drop i).take k) := by
  rw [window_eq_some] at h ⊢
  obtain ⟨hl, rfl⟩ := h
  refine ⟨by omega, ?_⟩
  rw [List.drop_take, List.drop_drop, List.take_take]
  congr 1
  omega

theorem window_head {buf : Bytes} {o n : Nat} {x : UInt8} {xs : Bytes} (h : window buf o n = some (x :: xs)) :
    buf[o]? = some x := by
  have hn := window_length h
  obtain ⟨hl, heq⟩ := window_eq_some.mp h
  have : ((buf.drop o).take n)[0]? = some x := by rw [← heq]; rfl
  simpa [List.getElem?_take, ← hn] using this

theorem widen_length (s : Bytes) : (widen s).length = 2 * s.length := by
  induction s with
  | nil => rfl
  | cons c t ih => simp [widen, ih]; omega

theorem widen_drop (s : Bytes) (i : Nat) : (widen s).drop (2 * i) = widen (s.drop i) := by
  induction i generalizing s with
  | zero => simp
  | succ n ih =>
    cases s with
    | nil => simp [widen]
    | cons c t => simp [Nat.mul_succ, widen, ih]

theorem widen_take (s : Bytes) (i : Nat) : (widen s).take (2 * i) = widen (s.take i) := by
  induction i generalizing s with
  | zero => simp [widen]
  | succ n ih =>
    cases s with
    | nil => simp [widen]
    | cons c t => simp [Nat.mul_succ, widen, ih]

def enc (wide : Bool) (s : Bytes) : Bytes := if wide then widen s else s

def scale (wide : Bool) (n : Nat) : Nat := if wide then 2 * n else n

def Mods.has (m : Mods) (wide : Bool) : Bool := if wide then m.wide else m.ascii

theorem enc_length (wide : Bool) (s : Bytes) : (enc wide s).length = scale wide s.length := by
  cases wide
  · rfl
  · exact widen_length s

theorem enc_ne_nil (wide : Bool) {s : Bytes} (hs : s ≠ []) : enc wide s ≠ [] := by
  cases s with
  | nil => exact absurd rfl hs
  | cons x t => cases wide <;> simp [enc, widen]

theorem scale_ne_zero (wide : Bool) {s : Bytes} (hs : s ≠ []) : scale wide s.length ≠ 0 := by
  rw [← enc_length]
  exact fun h0 => enc_ne_nil wide hs (List.eq_nil_of_length_eq_zero h0)

/-- the `RE_FLAGS_WIDE` test of the callback recovers the encoding from the length -/
theorem scale_beq (wide : Bool) {s : Bytes} (hs : s ≠ []) : (scale wide s.length == 2 * s.length) = wide := by
  have := List.length_pos_iff.mpr hs
  cases wide <;> simp [scale] <;> omega

theorem ValidWindow.scale_le {w : Nat} {s : Bytes} (hw : ValidWindow w s) (wide : Bool) :
    scale wide w + min 4 (scale wide s.length) ≤ scale wide s.length := by
  unfold ValidWindow at hw
  cases wide <;> simp only [scale, Bool.false_eq_true, if_false, if_true] <;> omega

def sub4 (e : Bytes) (i : Nat) : Bytes := (e.drop i).take 4

theorem sub4_map (f : UInt8 → UInt8) (e : Bytes) (i : Nat) : sub4 (e.map f) i = (sub4 e i).map f := by
  simp [sub4, List.map_drop, List.map_take]

theorem sub4_enc (wide : Bool) (s : Bytes) (w : Nat) : sub4 (enc wide s) (scale wide w) = ((enc wide (sub4 s w))).take 4 := by
  cases wide
  · simp [sub4, enc, scale, List.take_take]
  · simp only [sub4, enc, scale, if_true]
    rw [widen_drop, ← widen_take _ 4, List.take_take]
    rfl

theorem atomAt_sub4 {buf x : Bytes} {o n i : Nat} (h : window buf o n = some x) (hi : i ≤ n) :
    atomAt ⟨sub4 x i, i⟩ buf o := by
  have hn := window_length h
  unfold atomAt
  rw [window_sub h i (sub4 x i).length (by simp [sub4, hn]; omega)]
  simp [sub4]

theorem map_xor_zero (bs : Bytes) : bs.map (· ^^^ (0 : UInt8)) = bs := by
  simp only [UInt8.xor_zero, List.map_id']

theorem xor_cancel (a k : UInt8) : a ^^^ (a ^^^ k) = k := by
  rw [← UInt8.xor_assoc, UInt8.xor_self, UInt8.zero_xor]

theorem xorKeyAt_eq_some {e buf : Bytes} {o : Nat} {k : UInt8} :
    xorKeyAt e buf o = some k ↔ e ≠ [] ∧ window buf o e.length = some (e.map (· ^^^ k)) := by
  cases e with
  | nil => simp [xorKeyAt]
  | cons e0 et =>
    unfold xorKeyAt
    cases hw : window buf o (e0 :: et).length with
    | none => simp
    | some x =>
      cases x with
      | nil => simp
      | cons w0 wt =>
        simp only [Option.ite_none_right_eq_some, beq_iff_eq, ne_eq, reduceCtorEq, not_false_eq_true, true_and, Option.some.injEq]
        constructor
        · rintro ⟨h, rfl⟩; exact h
        · intro h
          have hk : e0 ^^^ w0 = k := by rw [(List.cons.inj h).1, xor_cancel]
          exact ⟨hk ▸ h, hk⟩

theorem xorKeyAt_zero {pat buf : Bytes} {o : Nat} (h : xorKeyAt pat buf o = some 0) : occursAt false pat buf o = true := by
  have := (xorKeyAt_eq_some.mp h).2
  rw [map_xor_zero] at this
  simp [occursAt, this, eqBytes]

/-- the ascii and the wide comparison read the key off the same first byte -/
theorem xorKeyAt_widen {s buf : Bytes} {o : Nat} {k k' : UInt8} (h : xorKeyAt s buf o = some k)
    (h' : xorKeyAt (widen s) buf o = some k') : k = k' := by
  cases s with
  | nil => simp [xorKeyAt] at h
  | cons x t =>
    have a := window_head (xorKeyAt_eq_some.mp h).2
    have a' := window_head (xorKeyAt_eq_some.mp h').2
    rw [a] at a'
    have := congrArg (x ^^^ ·) (Option.some.inj a')
    simpa [xor_cancel] using this

theorem occursAt_iff {nocase : Bool} {pat buf : Bytes} {o : Nat} :
    occursAt nocase pat buf o = true ↔ ∃ x, window buf o pat.length = some x ∧ eqBytes nocase x pat = true := by
  unfold occursAt
  cases window buf o pat.length <;> simp

theorem toNat_lower (c : UInt8) : (lower c).toNat = if 65 ≤ c.toNat ∧ c.toNat ≤ 90 then c.toNat + 32 else c.toNat := by
  simp only [lower, UInt8.le_iff_toNat_le, UInt8.toNat_ofNat]
  split
  · simp only [UInt8.toNat_add, UInt8.toNat_ofNat]; omega
  · rfl

theorem toNat_swapCase (c : UInt8) : (swapCase c).toNat =
    if 97 ≤ c.toNat ∧ c.toNat ≤ 122 then c.toNat - 32 else if 65 ≤ c.toNat ∧ c.toNat ≤ 90 then c.toNat + 32 else c.toNat := by
  simp only [swapCase, UInt8.le_iff_toNat_le, UInt8.toNat_ofNat]
  split
  · simp only [UInt8.toNat_sub, UInt8.toNat_ofNat]; omega
  · split
    · simp only [UInt8.toNat_add, UInt8.toNat_ofNat]; omega
    · rfl

theorem lower_eq_iff (c c' : UInt8) : lower c' = lower c ↔ c = c' ∨ (isLetter c = true ∧ swapCase c = c') := by
  simp only [← UInt8.toNat_inj, toNat_lower, toNat_swapCase, isLetter, UInt8.le_iff_toNat_le, UInt8.toNat_ofNat,
    Bool.or_eq_true, Bool.and_eq_true, decide_eq_true_eq]
  by_cases h : 65 ≤ c.toNat ∧ c.toNat ≤ 90 <;> by_cases h' : 65 ≤ c'.toNat ∧ c'.toNat ≤ 90 <;>
    by_cases hl : 97 ≤ c.toNat ∧ c.toNat ≤ 122 <;> simp only [h, h', hl, and_self, if_true, if_false, or_true, true_and, false_and, or_false] <;> omega

theorem mem_caseCombos : ∀ {bs bs' : Bytes}, bs' ∈ caseCombos bs ↔ bs'.map lower = bs.map lower
  | [], bs' => by cases bs' <;> simp [caseCombos]
  | c :: t, [] => by
      simp only [caseCombos]
      split <;> simp
  | c :: t, c' :: t' => by
      have mem_cons : ∀ (d : UInt8) (l : List Bytes), c' :: t' ∈ l.map (d :: ·) ↔ d = c' ∧ t' ∈ l := by
        intro d l
        simp only [List.mem_map, List.cons.injEq]
        constructor
        · rintro ⟨a, ha, rfl, rfl⟩; exact ⟨rfl, ha⟩
        · rintro ⟨rfl, h⟩; exact ⟨_, h, rfl, rfl⟩
      simp only [List.map_cons, List.cons.injEq, lower_eq_iff, ← @mem_caseCombos t t', caseCombos]
      cases isLetter c <;> simp [mem_cons, or_and_right]

theorem mem_keys {lo hi k : UInt8} : k ∈ keys lo hi ↔ inRange (lo, hi) k = true := by
  simp only [keys, inRange, List.mem_filterMap, Option.ite_none_right_eq_some, Option.some.injEq]
  constructor
  · rintro ⟨n, _, h, rfl⟩; exact h
  · intro h; exact ⟨k.toNat, by simpa using k.toNat_lt, by simpa using h⟩

def keyOK (m : Mods) (k : UInt8) : Prop :=
  match m.xor with
  | none => k = 0
  | some r => inRange r k = true

/-- `x` is `e` as the modifiers let it stand in the buffer, xored with `k` (`k = 0`: not xored) -/
def Rel (m : Mods) (k : UInt8) (x e : Bytes) : Prop :=
  if m.nocase then k = 0 ∧ x.map lower = e.map lower else keyOK m k ∧ x = e.map (· ^^^ k)

theorem Rel.length {m : Mods} {k : UInt8} {x e : Bytes} (h : Rel m k x e) : x.length = e.length := by
  cases hn : m.nocase <;> simp only [Rel, hn, Bool.false_eq_true, if_false, if_true] at h
  · simp [h.2]
  · simpa using congrArg List.length h.2

theorem Rel.sub4 {m : Mods} {k : UInt8} {x e : Bytes} (h : Rel m k x e) (i : Nat) : Rel m k (sub4 x i) (sub4 e i) := by
  cases hn : m.nocase <;> simp only [Rel, hn, Bool.false_eq_true, if_false, if_true] at h ⊢
  · exact ⟨h.1, by rw [h.2, sub4_map]⟩
  · exact ⟨h.1, by rw [← sub4_map, ← sub4_map, h.2]⟩

theorem Rel.key_zero {m : Mods} {k : UInt8} {x e : Bytes} (hx : m.xor = none) (h : Rel m k x e) : k = 0 := by
  unfold Rel keyOK at h
  rw [hx] at h
  split at h <;> exact h.1

theorem legal_nocase_xor {m : Mods} (hleg : m.legal = true) (hn : m.nocase = true) : m.xor = none := by
  unfold Mods.legal at hleg
  cases hx : m.xor with
  | none => rfl
  | some r => simp [hn, hx] at hleg

theorem legal_xor_nocase {m : Mods} (hleg : m.legal = true) (hx : m.xor.isSome = true) : m.nocase = false := by
  cases hn : m.nocase with
  | false => rfl
  | true => simp [legal_nocase_xor hleg hn] at hx

theorem legal_has {m : Mods} (hleg : m.legal = true) : m.has false = true ∨ m.has true = true := by
  unfold Mods.legal at hleg
  cases ha : m.ascii <;> simp_all [Mods.has]

theorem rel_zero {m : Mods} {x e : Bytes} (hleg : m.legal = true) :
    Rel m 0 x e ↔ keyOK m 0 ∧ eqBytes m.nocase x e = true := by
  unfold Rel eqBytes
  cases hn : m.nocase
  · simp
  · simp [keyOK, legal_nocase_xor hleg hn]

/-- what a comparison at `o` can see (`k = 0`: not xored).  Whether the declaration allows the key is `keyOK m k`; the verifier
    cannot know that. -/
def Found (m : Mods) (s buf : Bytes) (o : Nat) (wide : Bool) (k : UInt8) : Prop :=
  m.has wide = true ∧
    ((k = 0 ∧ occursAt m.nocase (enc wide s) buf o = true) ∨
     (k ≠ 0 ∧ m.xor.isSome = true ∧ xorKeyAt (enc wide s) buf o = some k))

theorem Found.inbounds {m : Mods} {s buf : Bytes} {o : Nat} {wide : Bool} {k : UInt8} (h : Found m s buf o wide k) :
    o + (enc wide s).length ≤ buf.length := by
  obtain ⟨_, ⟨_, hocc⟩ | ⟨_, _, hkey⟩⟩ := h
  · obtain ⟨x, hw, _⟩ := occursAt_iff.mp hocc
    exact (window_eq_some.mp hw).1
  · exact (window_eq_some.mp (xorKeyAt_eq_some.mp hkey).2).1

theorem mem_xor_seg {e buf : Bytes} {o len n : Nat} {r : UInt8 × UInt8} {k : UInt8} {w w0 : Bool} :
    (n, k, w) ∈ ((xorKeyAt e buf o).filter (fun k => inRange r k && k != 0)).toList.map (fun k => (len, k, w0)) ↔
      n = len ∧ w = w0 ∧ xorKeyAt e buf o = some k ∧ inRange r k = true ∧ k ≠ 0 := by
  simp only [List.mem_map, Option.mem_toList, Option.filter_eq_some_iff, Prod.mk.injEq, Bool.and_eq_true, bne_iff_ne]
  constructor
  · rintro ⟨k', ⟨hk, hr, h0⟩, rfl, rfl, rfl⟩; exact ⟨rfl, rfl, hk, hr, h0⟩
  · rintro ⟨rfl, rfl, hk, hr, h0⟩; exact ⟨k, ⟨hk, hr, h0⟩, rfl, rfl, rfl⟩

theorem mem_variantsAt {m : Mods} {s buf : Bytes} {o n : Nat} {k : UInt8} {wide : Bool} :
    (n, k, wide) ∈ variantsAt m s buf o ↔ s ≠ [] ∧ n = scale wide s.length ∧ Found m s buf o wide k ∧ keyOK m k := by
  -- `variantsAt` is four optional segments, each under its `if` (`List.mem_ite_nil_right`): plain ascii, plain wide, xor ascii, xor wide (`mem_xor_seg`)
  cases s with
  | nil => simp [variantsAt]
  | cons x t =>
    have hne : x :: t ≠ [] := List.cons_ne_nil x t
    cases hx : m.xor with
    | none =>
      simp only [variantsAt, hx, List.isEmpty_cons, Bool.false_eq_true, if_false, List.append_nil, List.mem_append,
        List.mem_ite_nil_right, List.mem_singleton, Prod.mk.injEq, Bool.and_eq_true, Bool.and_true, Found, keyOK, Option.isSome_none]
      constructor
      · rintro (⟨⟨ha, hocc⟩, rfl, rfl, rfl⟩ | ⟨⟨hw, hocc⟩, rfl, rfl, rfl⟩)
        · exact ⟨hne, rfl, ⟨ha, Or.inl ⟨rfl, hocc⟩⟩, rfl⟩
        · exact ⟨hne, rfl, ⟨hw, Or.inl ⟨rfl, hocc⟩⟩, rfl⟩
      · rintro ⟨_, rfl, ⟨hhas, ⟨_, hocc⟩ | ⟨_, hf, _⟩⟩, rfl⟩
        · cases wide
          · exact Or.inl ⟨⟨hhas, hocc⟩, rfl, rfl, rfl⟩
          · exact Or.inr ⟨⟨hhas, hocc⟩, rfl, rfl, rfl⟩
        · exact hf.elim
    | some r =>
      simp only [variantsAt, hx, List.isEmpty_cons, Bool.false_eq_true, if_false, List.mem_append,
        List.mem_ite_nil_right, List.mem_singleton, mem_xor_seg, Prod.mk.injEq, Bool.and_eq_true, Found, keyOK, Option.isSome_some, true_and]
      constructor
      · rintro ((⟨⟨⟨ha, hp⟩, hocc⟩, rfl, rfl, rfl⟩ | ⟨⟨⟨hw, hp⟩, hocc⟩, rfl, rfl, rfl⟩) |
          ⟨ha, rfl, rfl, hk, hr, h0⟩ | ⟨hw, rfl, rfl, hk, hr, h0⟩)
        · exact ⟨hne, rfl, ⟨ha, Or.inl ⟨rfl, hocc⟩⟩, hp⟩
        · exact ⟨hne, rfl, ⟨hw, Or.inl ⟨rfl, hocc⟩⟩, hp⟩
        · exact ⟨hne, rfl, ⟨ha, Or.inr ⟨h0, hk⟩⟩, hr⟩
        · exact ⟨hne, rfl, ⟨hw, Or.inr ⟨h0, hk⟩⟩, hr⟩
      · rintro ⟨_, rfl, ⟨hhas, ⟨rfl, hocc⟩ | ⟨h0, hk⟩⟩, hr⟩ <;> cases wide
        · exact Or.inl (Or.inl ⟨⟨⟨hhas, hr⟩, hocc⟩, rfl, rfl, rfl⟩)
        · exact Or.inl (Or.inr ⟨⟨⟨hhas, hr⟩, hocc⟩, rfl, rfl, rfl⟩)
        · exact Or.inr (Or.inl ⟨hhas, rfl, rfl, hk, hr, h0⟩)
        · exact Or.inr (Or.inr ⟨hhas, rfl, rfl, hk, hr, h0⟩)

theorem found_iff_rel {m : Mods} {s buf : Bytes} {o : Nat} {wide : Bool} {k : UInt8} (hleg : m.legal = true) (hs : s ≠ []) :
    Found m s buf o wide k ∧ keyOK m k ↔
      m.has wide = true ∧ ∃ x, window buf o (enc wide s).length = some x ∧ Rel m k x (enc wide s) := by
  unfold Found
  rw [and_assoc]
  refine and_congr_right fun _ => ?_
  by_cases hk : k = 0
  · subst hk
    simp only [true_and, ne_eq, not_true_eq_false, false_and, or_false, occursAt_iff, rel_zero hleg]
    constructor
    · rintro ⟨⟨x, hw, he⟩, hp⟩; exact ⟨x, hw, hp, he⟩
    · rintro ⟨x, hw, hp, he⟩; exact ⟨⟨x, hw, he⟩, hp⟩
  · simp only [hk, false_and, false_or, ne_eq, not_false_eq_true, true_and, xorKeyAt_eq_some]
    constructor
    · rintro ⟨⟨hx, _, hw⟩, hok⟩
      refine ⟨_, hw, ?_⟩
      simp [Rel, legal_xor_nocase hleg hx, hok]
    · rintro ⟨x, hw, hrel⟩
      have hx : m.xor.isSome = true := Option.isSome_iff_ne_none.mpr fun hx => hk (hrel.key_zero hx)
      unfold Rel at hrel
      split at hrel
      · exact absurd hrel.1 hk
      · obtain ⟨hok, rfl⟩ := hrel
        exact ⟨⟨hx, enc_ne_nil wide hs, hw⟩, hok⟩

/-- the `let l0` of `atomsOf` -/
def l0 (w : Nat) (m : Mods) (s : Bytes) : List Atom :=
  if m.wide then (if m.ascii then [baseAtom w s, wideOf (baseAtom w s)] else [wideOf (baseAtom w s)]) else [baseAtom w s]

theorem mem_l0 {w : Nat} {m : Mods} {s : Bytes} {a : Atom} (hleg : m.legal = true) :
    a ∈ l0 w m s ↔ ∃ wide, m.has wide = true ∧ a = ⟨sub4 (enc wide s) (scale wide w), scale wide w⟩ := by
  have hb : baseAtom w s = ⟨sub4 (enc false s) (scale false w), scale false w⟩ := rfl
  have hw : wideOf (baseAtom w s) = ⟨sub4 (enc true s) (scale true w), scale true w⟩ := by
    rw [sub4_enc]; rfl
  have := legal_has hleg
  unfold l0
  cases hwd : m.wide <;> cases ha : m.ascii <;> simp_all [Mods.has, or_comm]

theorem mem_atomsOf_l0 {w : Nat} {m : Mods} {s : Bytes} {a : Atom} (hleg : m.legal = true) :
    a ∈ atomsOf w m s ↔ ∃ a0 ∈ l0 w m s, ∃ k, a.backtrack = a0.backtrack ∧ Rel m k a.bytes a0.bytes := by
  obtain ⟨x, bt⟩ := a
  have hl0 : atomsOf w m s = (let l1 := if m.nocase then (l0 w m s).flatMap (fun a => (caseCombos a.bytes).map (⟨·, a.backtrack⟩)) else l0 w m s
    match m.xor with
    | none => l1
    | some (lo, hi) => l1.flatMap fun a => (keys lo hi).map fun k => ⟨a.bytes.map (· ^^^ k), a.backtrack⟩) := rfl
  rw [hl0]
  unfold Rel keyOK
  cases hn : m.nocase with
  | true =>
    simp only [legal_nocase_xor hleg hn, if_true, List.mem_flatMap, List.mem_map, Atom.mk.injEq]
    constructor
    · rintro ⟨a0, h0, y, hy, rfl, rfl⟩; exact ⟨a0, h0, 0, rfl, rfl, mem_caseCombos.mp hy⟩
    · rintro ⟨a0, h0, k, hb, _, hl⟩; exact ⟨a0, h0, x, mem_caseCombos.mpr hl, rfl, hb.symm⟩
  | false =>
    cases hx : m.xor with
    | none =>
      simp only [Bool.false_eq_true, if_false]
      constructor
      · intro h; exact ⟨_, h, 0, rfl, rfl, (map_xor_zero _).symm⟩
      · rintro ⟨⟨y, bt'⟩, h0, k, hb, rfl, hy⟩
        rw [map_xor_zero] at hy
        rw [hy, hb]; exact h0
    | some r =>
      obtain ⟨lo, hi⟩ := r
      simp only [Bool.false_eq_true, if_false, List.mem_flatMap, List.mem_map, Atom.mk.injEq, mem_keys]
      constructor
      · rintro ⟨a0, h0, k, hk, rfl, rfl⟩; exact ⟨a0, h0, k, rfl, hk, rfl⟩
      · rintro ⟨a0, h0, k, hb, hk, hy⟩; exact ⟨a0, h0, k, hk, hy.symm, hb.symm⟩

theorem mem_atomsOf {w : Nat} {m : Mods} {s : Bytes} {a : Atom} (hleg : m.legal = true) :
    a ∈ atomsOf w m s ↔ ∃ wide k, m.has wide = true ∧ a.backtrack = scale wide w ∧
      Rel m k a.bytes (sub4 (enc wide s) (scale wide w)) := by
  rw [mem_atomsOf_l0 hleg]
  constructor
  · rintro ⟨a0, h0, k, hb, hr⟩
    obtain ⟨wide, hh, rfl⟩ := (mem_l0 hleg).mp h0
    exact ⟨wide, k, hh, hb, hr⟩
  · rintro ⟨wide, k, hh, hb, hr⟩
    exact ⟨_, (mem_l0 hleg).mpr ⟨wide, hh, rfl⟩, k, hb, hr⟩

theorem atomAt_of_found {w : Nat} {m : Mods} {s buf : Bytes} {o : Nat} {wide : Bool} {k : UInt8} (hleg : m.legal = true) (hs : s ≠ [])
    (hw : ValidWindow w s) (h : Found m s buf o wide k ∧ keyOK m k) : ∃ a ∈ atomsOf w m s, atomAt a buf o := by
  obtain ⟨hhas, x, hwin, hrel⟩ := (found_iff_rel hleg hs).mp h
  have hi : scale wide w ≤ (enc wide s).length := by have := hw.scale_le wide; rw [enc_length]; omega
  exact ⟨⟨sub4 x (scale wide w), scale wide w⟩, (mem_atomsOf hleg).mpr ⟨wide, k, hhas, rfl, hrel.sub4 _⟩, atomAt_sub4 hwin hi⟩

theorem atomsOf_bytes_ne_nil {w : Nat} {m : Mods} {s : Bytes} (hleg : m.legal = true) (hs : s ≠ [])
    (hw : ValidWindow w s) : ∀ a ∈ atomsOf w m s, a.bytes ≠ [] := by
  intro a ha hnil
  obtain ⟨wide, k, _, _, hrel⟩ := (mem_atomsOf hleg).mp ha
  have hlen := hrel.length
  have := hw.scale_le wide
  have := scale_ne_zero wide hs
  rw [hnil] at hlen
  simp only [sub4, List.length_nil, List.length_take, List.length_drop, enc_length] at hlen
  omega

end YaraModel.Text
