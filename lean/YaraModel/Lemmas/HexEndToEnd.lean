/-
  Bridge between the automaton (Model/AcScan.lean, Thm/AcBuild.lean: atoms = labelled byte sequences, candidates =
  (label, offset, length)) and the verification of a hex string (Model/ReScan.lean: candidates = code positions + offset).
  The automaton model's match entries carry a label (for text strings: the string index) but no code references; here the
  label of an atom is its POSITION in the list `atomsOf q m r` handed to `yr_ac_add_string`, and the forward / backward code
  references of the real match entry are looked up from that list: for a non-empty atom the positions of the node it
  begins at (`ctxAt`: equal to the `fwdRef` / `bwdRef` the atoms model records, `candOfAtom_refs`), for the zero-length atom
  the beginning of the forward code and no backward code.
-/
import YaraModel.Lemmas.AcBuildCands
import YaraModel.Lemmas.ReScan
import YaraModel.Lemmas.ReAtomPos
namespace YaraModel.HexE2E
open YaraModel.Re YaraModel.ReEmit YaraModel.ReScan YaraModel.ReAtoms

/-- backtrack 0: hex / regex atoms are positioned by their code references, not by a backtrack -/
def acAtoms (al : List (List UInt8 × Nat)) : List (Nat × YaraModel.Text.Atom) := al.zipIdx.map fun xi => (xi.2, ⟨xi.1.1, 0⟩)

theorem acAtoms_backtrack (al : List (List UInt8 × Nat)) : ∀ a ∈ acAtoms al, a.2.bytes = [] → a.2.backtrack = 0 := by
  intro a ha _
  obtain ⟨_, _, rfl⟩ := List.mem_map.1 ha
  rfl

theorem acAtoms_length (al : List (List UInt8 × Nat)) : (acAtoms al).length = al.length := by simp [acAtoms]

def atomLeafB : Re → Bool
  | .lit _ | .masked _ _ | .any => true
  | _ => false

theorem atomLeafB_iff {y : Re} : atomLeafB y = true ↔ AtomLeaf y := by
  unfold AtomLeaf
  cases y <;> simp [atomLeafB]

def candOfAtom (r : Re) (x : List UInt8 × Nat) (off : Nat) : Option Cand :=
  if x.1 = [] then some ⟨0, none, off⟩
  else match ctxAt r x.2 with
    | some (c, y) => if atomLeafB y then some ⟨holePos c 0, some (bwdPos y c 0), off⟩ else none
    | none => none
-- `fun_cases candOfAtom`: 1 empty atom, 2 atom leaf found, 3 not an atom leaf, 4 no such leaf

def candsOf (r : Re) (al : List (List UInt8 × Nat)) (S : List (Nat × Nat × Nat)) : List Cand :=
  S.filterMap fun t => (al[t.1]?).bind fun x => candOfAtom r x t.2.1

theorem mem_candsOf {r : Re} {al : List (List UInt8 × Nat)} {S : List (Nat × Nat × Nat)} {cd : Cand} :
    cd ∈ candsOf r al S ↔ ∃ t ∈ S, ∃ x, al[t.1]? = some x ∧ candOfAtom r x t.2.1 = some cd := by
  simp only [candsOf, List.mem_filterMap, Option.bind_eq_some_iff]

theorem candOfAtom_refs {r : Re} (hh : HexAst r) {x : List UInt8 × Nat} {off : Nat} {cd : Cand} (h : candOfAtom r x off = some cd)
    (hne : x.1 ≠ []) : ∃ b, cd.bwd = some b ∧ fwdRef r x.2 = some cd.fwd ∧ bwdRef r x.2 = some (b + ReAtoms.clen false r + 1) := by
  revert h
  fun_cases candOfAtom r x off with
  | case1 h0 => exact absurd h0 hne
  | case2 _ c y hc hy => intro h; cases h; exact ⟨_, rfl, hexAst_refs hh hc (atomLeafB_iff.1 hy)⟩
  | case3 | case4 => exact fun h => nomatch h

theorem candOfAtom_ok {r : Re} (hh : HexAst r) {x : List UInt8 × Nat} {off : Nat} {cd : Cand} (h : candOfAtom r x off = some cd) :
    CandOK r cd ∧ cd.off = off := by
  revert h
  fun_cases candOfAtom r x off with
  | case1 => intro h; cases h; exact ⟨.inl ⟨rfl, rfl⟩, rfl⟩
  | case2 _ c y hc hy =>
    intro h
    cases h
    have hf := ctxAt_fill hc
    exact ⟨.inr ⟨c, y, atomLeafB_iff.1 hy, hexAst_ctx (by rw [hf]; exact hh), hf, rfl, rfl⟩, rfl⟩
  | case3 | case4 => exact fun h => nomatch h

theorem bytesAt_bound {buf : Bytes} : ∀ (l : List UInt8) (s : Nat), BytesAt buf l s → s ≤ buf.size → s + l.length ≤ buf.size
  | [], s, _, h => by simpa using h
  | b :: t, s, h, _ => by
    obtain ⟨h1, h2⟩ := h
    have : s < buf.size := (Array.getElem?_eq_some_iff.1 h1).1
    have := bytesAt_bound t (s + 1) h2 (by omega)
    simp only [List.length_cons]; omega

theorem bytesAt_eq_take_drop {buf : Bytes} : ∀ (l : List UInt8) (s : Nat), BytesAt buf l s → (buf.toList.drop s).take l.length = l
  | [], s, _ => by simp
  | b :: t, s, h => by
    obtain ⟨h1, h2⟩ := h
    have ih := bytesAt_eq_take_drop t (s + 1) h2
    have hs : s < buf.toList.length := Array.length_toList ▸ (Array.getElem?_eq_some_iff.1 h1).1
    have hb : buf.toList[s] = b := by
      have : buf.toList[s]? = some b := by simpa using h1
      rw [List.getElem?_eq_getElem hs] at this
      exact Option.some.inj this
    rw [List.drop_eq_getElem_cons hs, List.length_cons, List.take_succ_cons, hb, ih]

section
variable {r : Re} {al : List (List UInt8 × Nat)} {buf : Bytes} {S : List (Nat × Nat × Nat)}

/-- `hS`: what `build_sound` gives -/
theorem occ_reported (hS : ∀ t, t ∈ S ↔ ∃ k, k ≤ buf.toList.length ∧ t ∈ YaraModel.AC.expectedAt (acAtoms al) (buf.toList.take k))
    {x : List UInt8 × Nat} {i : Nat} (hi : al[i]? = some x) {s : Nat} (hs : s ≤ buf.size) (hb : BytesAt buf x.1 s) :
    (i, s, x.1.length) ∈ S := by
  have hbd := bytesAt_bound x.1 s hb hs
  refine (hS _).2 (YaraModel.AC.Build.expected_iff_atomAt.mpr ⟨(i, ⟨x.1, 0⟩), ?_, ?_, rfl, rfl⟩)
  · exact List.mem_map.mpr ⟨(x, i), List.mk_mem_zipIdx_iff_getElem?.2 hi, rfl⟩
  · exact YaraModel.Text.window_eq_some.mpr ⟨by simpa using hbd, (bytesAt_eq_take_drop x.1 s hb).symm⟩

/-- the automaton contract of `scan_complete_ctx`, discharged -/
theorem hcands_holds (hS : ∀ t, t ∈ S ↔ ∃ k, k ≤ buf.toList.length ∧ t ∈ YaraModel.AC.expectedAt (acAtoms al) (buf.toList.take k))
    {x : List UInt8 × Nat} (hx : x ∈ al) {s : Nat} (hs : s ≤ buf.size) (hb : BytesAt buf x.1 s) :
    (x.1 = [] → (⟨0, none, s⟩ : Cand) ∈ candsOf r al S) ∧
    (x.1 ≠ [] → ∀ c y, ctxAt r x.2 = some (c, y) → AtomLeaf y → (⟨holePos c 0, some (bwdPos y c 0), s⟩ : Cand) ∈ candsOf r al S) := by
  obtain ⟨i, hi⟩ := List.getElem?_of_mem hx
  have hocc := occ_reported hS hi hs hb
  exact ⟨fun h0 => mem_candsOf.2 ⟨_, hocc, x, hi, by simp [candOfAtom, h0]⟩,
    fun hne c y hc hy => mem_candsOf.2 ⟨_, hocc, x, hi, by simp [candOfAtom, hne, hc, atomLeafB_iff.2 hy]⟩⟩

theorem cands_ok (hh : HexAst r)
    (hS : ∀ t, t ∈ S ↔ ∃ k, k ≤ buf.toList.length ∧ t ∈ YaraModel.AC.expectedAt (acAtoms al) (buf.toList.take k)) :
    ∀ cd ∈ candsOf r al S, CandOK r cd ∧ cd.off ≤ buf.size := by
  intro cd hcd
  obtain ⟨t, ht, x, _, hcd⟩ := mem_candsOf.1 hcd
  obtain ⟨h1, h2⟩ := candOfAtom_ok hh hcd
  refine ⟨h1, ?_⟩
  rw [h2]
  obtain ⟨a, _, hocc, _, _⟩ := YaraModel.AC.Build.expected_iff_atomAt.mp ((hS t).1 ht)
  have := (YaraModel.Text.window_eq_some.mp hocc).1
  have : buf.toList.length = buf.size := by simp
  omega
end

end YaraModel.HexE2E
