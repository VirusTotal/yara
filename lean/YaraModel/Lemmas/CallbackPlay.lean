/- C11: how `play` (Spec/Callback.lean) delivers ANY message list to a scripted callback, and how a prefix of a
   list made of two parts with different kinds of messages splits. Nothing here depends on which messages a scan sends. -/
import YaraModel.Spec.Callback
namespace YaraModel.Cb

section Phases
variable {α : Type} {p : α → Bool} {tr A B : List α}

theorem prefix_append_cases (h : tr <+: A ++ B) : tr <+: A ∨ ∃ t, t <+: B ∧ tr = A ++ t := by
  rcases List.prefix_or_prefix_of_prefix h (List.prefix_append A B) with h1 | ⟨t, rfl⟩
  · exact .inl h1
  · exact .inr ⟨t, (List.prefix_append_right_inj A).1 h, rfl⟩

theorem filter_append_phases (hA : ∀ a ∈ A, p a = true) (hB : ∀ b ∈ B, p b = false) :
    (A ++ B).filter p = A := by
  rw [List.filter_append, List.filter_eq_self.2 hA, List.filter_eq_nil_iff.2 (by simpa using hB), List.append_nil]

theorem filter_of_prefix_append (h : tr <+: A ++ B) (hA : ∀ a ∈ A, p a = true) (hB : ∀ b ∈ B, p b = false) :
    tr.filter p <+: A ∧ ((∃ m ∈ tr, p m = false) → tr.filter p = A) := by
  refine ⟨filter_append_phases hA hB ▸ h.filter p, fun ⟨m, hm, hpm⟩ => ?_⟩
  rcases prefix_append_cases h with h1 | ⟨t, ht, rfl⟩
  · rw [hA m (h1.subset hm)] at hpm; cases hpm
  · exact filter_append_phases hA fun b hb => hB b (ht.subset hb)

theorem all_of_prefix_append_of_last (h : tr <+: A ++ B) (hA : ∀ a ∈ A, p a = true) (hB : ∀ b ∈ B, p b = false)
    {k : Nat} {m : α} (hk : tr.length = k + 1) (hm : tr[k]? = some m) (hp : p m = true) : ∀ a ∈ tr, p a = true := by
  rcases prefix_append_cases h with h1 | ⟨t, ht, rfl⟩
  · exact fun a ha => hA a (h1.subset ha)
  · cases t with
    | nil => simpa using hA
    | cons b t =>
      rw [List.getElem?_append_right (by simp at hk; omega)] at hm
      rw [hB m (ht.subset (List.mem_of_getElem? hm))] at hp; cases hp

end Phases

theorem call_fst (s : List Ret) : (call s).1 = answer s 0 := by
  cases s <;> rfl

theorem answer_call_snd (s : List Ret) (k : Nat) : answer (call s).2 k = answer s (k + 1) := by
  cases s <;> simp [call, answer]

theorem verdict_rule {m : Msg} (h : m.isRule = true) (a : Ret) :
    verdict m a = match a with | .abort => some .success | .error => some .callbackError | .cont => none := by
  cases a <;> simp [verdict, h]

theorem verdict_module {m : Msg} (h : m.isModule = true) (a : Ret) :
    verdict m a = if a = .error then some .callbackError else none := by
  cases m <;> cases a <;> simp_all [verdict, Msg.isRule, Msg.isModule]

theorem verdict_tooMany (s : Nat) (a : Ret) :
    verdict (.tooManyMatches s) a = match a with | .cont => none | _ => some .tooManyMatches := by
  cases a <;> rfl

theorem verdict_finished (a : Ret) : verdict .scanFinished a = none := rfl

theorem play_cons_stop {m : Msg} {s : List Ret} {rc : Rc} (ms : List Msg) (h : verdict m (call s).1 = some rc) :
    play (m :: ms) s = ⟨[m], some rc, (call s).2⟩ := by
  simp [play, h]

theorem play_cons_go {m : Msg} {s : List Ret} (ms : List Msg) (h : verdict m (call s).1 = none) :
    play (m :: ms) s = ⟨m :: (play ms (call s).2).trace, (play ms (call s).2).stopped, (play ms (call s).2).rest⟩ := by
  simp [play, h]

theorem play_append (a b : List Msg) (s : List Ret) :
    play (a ++ b) s =
      match (play a s).stopped with
      | some _ => play a s
      | none =>
        let q := play b (play a s).rest
        ⟨(play a s).trace ++ q.trace, q.stopped, q.rest⟩ := by
  fun_induction play a s with
  | case1 s => rfl
  | case2 m ms s rc hv => simp [play, hv]
  | case3 m ms s hv p ih =>
    simp only [List.cons_append, play, hv, ih]
    cases hs : p.stopped <;> simp [p, hs]

theorem play_prefix (ms : List Msg) (s : List Ret) : (play ms s).trace <+: ms := by
  fun_induction play ms s with
  | case1 s => simp
  | case2 m ms s rc hv => simp
  | case3 m ms s hv p ih => simpa using ih

theorem play_complete (ms : List Msg) (s : List Ret) (h : (play ms s).stopped = none) :
    (play ms s).trace = ms := by
  fun_induction play ms s with
  | case1 s => rfl
  | case2 m ms s rc hv => cases h
  | case3 m ms s hv p ih => exact congrArg (m :: ·) (ih h)

theorem play_trace_ne_nil (m : Msg) (ms : List Msg) (s : List Ret) : (play (m :: ms) s).trace ≠ [] := by
  simp only [play]; split <;> simp

theorem play_verdict (ms : List Msg) (s : List Ret) (k : Nat) (m : Msg) (h : (play ms s).trace[k]? = some m) :
    verdict m (answer s k) =
      if k + 1 = (play ms s).trace.length then (play ms s).stopped else none := by
  fun_induction play ms s generalizing k with
  | case1 s => simp at h
  | case2 m0 ms s rc hv =>
    cases k with
    | zero => simp at h; subst h; simpa [call_fst] using hv
    | succ k => simp at h
  | case3 m0 ms s hv p ih =>
    cases k with
    | zero =>
      simp at h; subst h
      rw [← call_fst, hv]
      cases ms with
      | nil => simp [p, play]
      | cons m' ms' =>
        have := play_trace_ne_nil m' ms' (call s).2
        simp [p, this]
    | succ k =>
      simp only [List.length_cons, Nat.add_right_cancel_iff]
      rw [← answer_call_snd]
      exact ih _ h

theorem play_shape (ms : List Msg) (s : List Ret) :
    ((play ms s).stopped = none ∧ (play ms s).trace = ms) ∨
    (∃ k m rc, (play ms s).stopped = some rc ∧ (play ms s).trace.length = k + 1 ∧
       (play ms s).trace[k]? = some m ∧ verdict m (answer s k) = some rc) := by
  cases hs : (play ms s).stopped with
  | none => exact Or.inl ⟨rfl, play_complete ms s hs⟩
  | some rc =>
    right
    cases ht : (play ms s).trace with
    | nil =>
      cases ms with
      | nil => cases hs
      | cons m ms => exact absurd ht (play_trace_ne_nil m ms s)
    | cons a t =>
      have hm : (play ms s).trace[t.length]? = some (a :: t)[t.length] := by simp [ht]
      refine ⟨t.length, _, rc, rfl, rfl, ht ▸ hm, ?_⟩
      rw [play_verdict ms s _ _ hm, if_pos (by simp [ht]), hs]

theorem play_stopped_mem {ms : List Msg} {s : List Ret} {rc : Rc} (h : (play ms s).stopped = some rc) :
    ∃ m ∈ ms, ∃ a, verdict m a = some rc := by
  rcases play_shape ms s with ⟨hs, _⟩ | ⟨k, m, rc', hs, _, hm, hv⟩
  · rw [hs] at h; cases h
  · rw [hs] at h; cases h
    exact ⟨m, (play_prefix ms s).subset (List.mem_of_getElem? hm), _, hv⟩

theorem play_all_none (ms : List Msg) (s : List Ret)
    (h : ∀ (k : Nat) (m : Msg), ms[k]? = some m → verdict m (answer s k) = none) :
    play ms s = ⟨ms, none, s.drop ms.length⟩ := by
  induction ms generalizing s with
  | nil => simp [play]
  | cons m ms ih =>
    have h0 : verdict m (call s).1 = none := by rw [call_fst]; exact h 0 m rfl
    rw [play_cons_go _ h0]
    have hrest : (call s).2 = s.drop 1 := by cases s <;> rfl
    have := ih (call s).2 (fun k m' hk => by rw [answer_call_snd]; exact h (k + 1) m' (by simpa using hk))
    rw [this, hrest]
    simp

/-- `specScan` and `specFullScan` are this, of `play` on their protocol -/
def Played.outcome (p : Played) : List Msg × Rc := (p.trace, p.stopped.getD .success)

def Plays (r : List Msg × Rc) (ms : List Msg) (s : List Ret) : Prop := r = (play ms s).outcome

section
variable {r : List Msg × Rc} {ms : List Msg} {s : List Ret}

theorem Plays.prefix (h : Plays r ms s) : r.1 <+: ms := by
  rw [h]; exact play_prefix ms s

theorem Plays.stop (h : Plays r ms s) {k : Nat} {m : Msg} {rc : Rc} (hm : r.1[k]? = some m)
    (hv : verdict m (answer s k) = some rc) : r.1.length = k + 1 ∧ r.2 = rc := by
  subst h
  have h := play_verdict ms s k m hm
  rw [hv] at h
  split at h
  · exact ⟨show (play ms s).trace.length = k + 1 by omega, congrArg (·.getD .success) h.symm⟩
  · cases h

theorem Plays.notStopped_iff (h : Plays r ms s) : NotStopped r.1 s ↔ (play ms s).stopped = none := by
  subst h
  constructor
  · intro h
    rcases play_shape ms s with ⟨hs, _⟩ | ⟨k, m, rc, _, _, hm, hv⟩
    · exact hs
    · rw [h k m hm] at hv; cases hv
  · intro h k m hm
    rw [play_verdict ms s k m hm, h]; simp

theorem Plays.complete (h : Plays r ms s) (hn : NotStopped r.1 s) : r.1 = ms ∧ r.2 = .success := by
  have hs := h.notStopped_iff.1 hn
  subst h
  exact ⟨play_complete ms s hs, congrArg (·.getD .success) hs⟩

end

end YaraModel.Cb
