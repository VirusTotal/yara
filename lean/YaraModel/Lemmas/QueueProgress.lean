/-
  Progress of the file-queue model (D11): deadlock freedom, a measure that every step decreases, runs of `k` steps
  and of a given schedule (`runActs_reachable`, with the schedule `demoSched` of the examples in Thm/C18).
-/
import YaraModel.Lemmas.QueueInv
namespace YaraModel.Queue
variable {α : Type}

/-- exact number of steps the producer still has to do, apart from `6 * |todo|` -/
def pbase (c : Cfg) : PPc α → Nat
  | .idle => c.finishPosts + 2
  | .wantLock _ => c.finishPosts + 7
  | .locked _ => c.finishPosts + 6
  | .wrote _ => c.finishPosts + 5
  | .advanced => c.finishPosts + 4
  | .unlocked => c.finishPosts + 3
  | .finishing k => k + 1
  | .done => 0

/-- consumer rank: steps left to `idle` resp. `exited`; the three `some` states rank above `idle` because the loop goes
    round again (`cAdvHead` raises the rank by 8 and pays with the 10 of one queued path) -/
def crank : CPc α → Nat
  | .idle => 8 | .wantLock => 7 | .locked => 6 | .reading => 5 | .haveRead _ => 4
  | .advanced (some _) => 12 | .unlocked (some _) => 11 | .returned (some _) => 10
  | .advanced none => 3 | .unlocked none => 2 | .returned none => 1 | .exited => 0

/-- The termination measure: remaining producer steps + 10 × (paths not yet dequeued) + consumer ranks. -/
def mu (c : Cfg) (s : State α) : Nat :=
  6 * s.todo.length + pbase c s.ppc + 10 * (s.todo.length + (cur s.ppc).length + s.q.length) + wsum crank s.cs

inductive StepsN (c : Cfg) : Nat → State α → State α → Prop where
  | refl (s : State α) : StepsN c 0 s s
  | cons {k : Nat} {s s' s'' : State α} : Step c s s' → StepsN c k s' s'' → StepsN c (k + 1) s s''

/-- one producer, one consumer, one path: a complete schedule -/
def demoSched (c : Cfg) : List Act :=
  [.pWait, .pLock, .pWrite, .pAdvTail, .pUnlock, .pPost,
   .cWait 0, .cLock 0, .cTest 0, .cRead 0, .cAdvHead 0, .cUnlock 0, .cPost 0, .cReturn 0, .pFinishBegin] ++
  List.replicate c.finishPosts .pFinishPost ++
  [.pFinishEnd, .cWait 0, .cLock 0, .cTest 0, .cUnlock 0, .cPost 0, .cReturn 0]

theorem prod_blocked {c : Cfg} {s : State α} (hne : ¬ Enabled c s) :
    pCrit s.ppc = false ∧ (s.lock = none → (s.ppc = .idle ∧ s.unused = 0) ∨ s.ppc = .done) := by
  have stuck : ∀ {a : Act} {s' : State α}, Fires c s a s' → False := fun hf => hne ⟨_, _, step_eq_some.2 hf⟩
  cases hp : s.ppc with
  | idle =>
    cases ht : s.todo with
    | nil => exact (stuck (.pFinishBegin hp ht)).elim
    | cons x rest =>
      by_cases hu : 0 < s.unused
      · exact (stuck (.pWait hp ht hu)).elim
      · exact ⟨rfl, fun _ => Or.inl ⟨rfl, by omega⟩⟩
  | wantLock x => exact ⟨rfl, fun hl => (stuck (.pLock hp hl)).elim⟩
  | locked x => exact (stuck (.pWrite hp)).elim
  | wrote x => exact (stuck (.pAdvTail hp)).elim
  | advanced => exact (stuck (.pUnlock hp)).elim
  | unlocked => exact (stuck (.pPost hp)).elim
  | finishing k =>
    cases k with
    | zero => exact (stuck (.pFinishEnd hp)).elim
    | succ k => exact (stuck (.pFinishPost hp)).elim
  | done => exact ⟨rfl, fun _ => Or.inr rfl⟩

theorem cons_blocked {c : Cfg} {s : State α} (hne : ¬ Enabled c s) (i : Nat) (pc : CPc α) (hi : s.cs[i]? = some pc) :
    cCrit pc = false ∧ (s.lock = none → (pc = .idle ∧ s.used = 0) ∨ pc = .exited) := by
  have stuck : ∀ {a : Act} {s' : State α}, Fires c s a s' → False := fun hf => hne ⟨_, _, step_eq_some.2 hf⟩
  cases pc with
  | idle =>
    by_cases hu : 0 < s.used
    · exact (stuck (.cWait hi hu)).elim
    · exact ⟨rfl, fun _ => Or.inl ⟨rfl, by omega⟩⟩
  | wantLock => exact ⟨rfl, fun hl => (stuck (.cLock hi hl)).elim⟩
  | locked =>
    by_cases he : s.head = s.tail
    · exact (stuck (.cTestEmpty hi he)).elim
    · exact (stuck (.cTestNonempty hi he)).elim
  | reading => exact (stuck (.cRead hi)).elim
  | haveRead r => exact (stuck (.cAdvHead hi)).elim
  | advanced r => exact (stuck (.cUnlock hi)).elim
  | unlocked r => exact (stuck (.cPost hi)).elim
  | returned r =>
    cases r with
    | none => exact (stuck (.cReturnNull hi)).elim
    | some x => exact (stuck (.cReturnFile hi)).elim
  | exited => exact ⟨rfl, fun _ => Or.inr rfl⟩

theorem enabled_of_inv {c : Cfg} {n : Nat} {input : List α} {s : State α} (hc : c.WF) (hn : 1 ≤ n) (hnl : n ≤ c.threadLimit)
    (h : Inv c n input s) (hf : ¬ Final s) : Enabled c s := by
  apply Classical.byContradiction
  intro hne
  -- nobody holds the mutex: its holder would be inside the critical section, where nothing blocks
  have hlock : s.lock = none := by
    cases hl : s.lock with
    | none => rfl
    | some t =>
      cases t with
      | prod => exact absurd (h.lockP.2 hl) (by rw [(prod_blocked hne).1]; nofun)
      | cons i =>
        have hi := List.getElem?_eq_getElem (h.lockR i hl)
        exact absurd ((h.lockC i _ hi).2 hl) (by rw [(cons_blocked hne i _ hi).1]; nofun)
  have hC : ∀ (i : Nat) (pc : CPc α), s.cs[i]? = some pc → (pc = .idle ∧ s.used = 0) ∨ pc = .exited :=
    fun i pc hi => (cons_blocked hne i pc hi).2 hlock
  have e1 := h.unusedEq
  have e2 := h.usedEq
  rcases (prod_blocked hne).2 hlock with ⟨hp, hu⟩ | hp
  · -- producer waits for a free slot: every consumer is idle, so the queue is full and `used_slots` is not 0
    have hfin : pFin s.ppc = false := by rw [hp]; rfl
    have hidle : ∀ x ∈ s.cs, x = CPc.idle ∧ s.used = 0 := fun x hx => by
      obtain ⟨i, hi⟩ := List.mem_iff_getElem?.1 hx
      rcases hC i _ hi with h1 | h3
      · exact h1
      · have := (h.seenEmpty i _ hi (by rw [h3]; rfl)).2
        rw [hfin] at this
        cases this
    have ho : wsum owes s.cs = 0 := wsum_eq_zero _ _ fun x hx => by rw [(hidle x hx).1]; rfl
    have ha : wsum au s.cs = 0 := wsum_eq_zero _ _ fun x hx => by rw [(hidle x hx).1]; rfl
    have hused : s.used = 0 := (hidle _ (List.getElem_mem (h.len ▸ hn : 0 < s.cs.length))).2
    have := hc.cap_pos
    simp only [hp, pHold, pPend, posted] at e1 e2
    omega
  · -- producer is done: a consumer that has not exited is idle, and a finish token is left for it
    refine hf ⟨hp, fun pc hpc => ?_⟩
    obtain ⟨i, hi⟩ := List.mem_iff_getElem?.1 hpc
    rcases hC i _ hi with ⟨h1, hu⟩ | h3
    · have hlt := wsum_lt_length au s.cs au_le_one i _ hi (by rw [h1]; rfl)
      have := hc.limit_le
      have := h.len
      simp only [hp, pPend, posted] at e2
      omega
    · exact h3

theorem mu_cons_lt {c : Cfg} {s s' : State α} {i : Nat} {pc pc' : CPc α} (hi : s.cs[i]? = some pc)
    (hcs : s'.cs = s.cs.set i pc') (hp : s'.ppc = s.ppc) (ht : s'.todo = s.todo)
    (hlt : 10 * s'.q.length + crank pc' < 10 * s.q.length + crank pc) : mu c s' < mu c s := by
  have := wsum_set crank hi pc'
  simp only [mu, hcs, hp, ht]
  omega

theorem mu_prod_lt {c : Cfg} {s s' : State α} {p : PPc α} (hp : s.ppc = p) (hcs : s'.cs = s.cs)
    (hload : s'.todo.length + (cur s'.ppc).length + s'.q.length = s.todo.length + (cur p).length + s.q.length)
    (hlt : 6 * s'.todo.length + pbase c s'.ppc < 6 * s.todo.length + pbase c p) : mu c s' < mu c s := by
  subst hp
  simp only [mu, hcs]
  omega

theorem mu_decreases {c : Cfg} {n : Nat} {input : List α} {s s' : State α} {a : Act} (h : Inv c n input s)
    (hf : Fires c s a s') : mu c s' < mu c s := by
  cases hf with
  -- a path goes from `todo` into the producer's hand (6 less, `pbase` 5 more), then from the hand into the queue
  | @pWait x rest hp ht _ =>
    exact mu_prod_lt hp rfl (by rw [ht]; rfl)
      (by rw [ht]; show 6 * rest.length + (_ + 7) < 6 * (rest.length + 1) + (_ + 2); omega)
  | pAdvTail hp =>
    exact mu_prod_lt hp rfl (by simp only [cur, List.length_append, List.length_cons, List.length_nil]; omega)
      (Nat.add_lt_add_left (Nat.lt_succ_self _) _)
  | pLock hp | pWrite hp | pUnlock hp | pPost hp | pFinishBegin hp | pFinishPost hp | pFinishEnd hp =>
    exact mu_prod_lt hp rfl rfl (Nat.add_lt_add_left (Nat.lt_succ_self _) _)
  | cWait hi => exact mu_cons_lt hi rfl rfl rfl (Nat.add_lt_add_left (by decide : 7 < 8) _)
  | cLock hi => exact mu_cons_lt hi rfl rfl rfl (Nat.add_lt_add_left (by decide : 6 < 7) _)
  | cTestEmpty hi => exact mu_cons_lt hi rfl rfl rfl (Nat.add_lt_add_left (by decide : 3 < 6) _)
  | cTestNonempty hi => exact mu_cons_lt hi rfl rfl rfl (Nat.add_lt_add_left (by decide : 5 < 6) _)
  | cRead hi => exact mu_cons_lt hi rfl rfl rfl (Nat.add_lt_add_left (by decide : 4 < 5) _)
  | @cAdvHead i r hi =>
    -- the rank goes up by 8, the queue gets shorter by one
    obtain ⟨x, rest, hq, rfl⟩ := h.haveRead i r hi
    refine mu_cons_lt hi rfl rfl rfl ?_
    simp only [hq, List.drop_one, List.tail_cons, List.length_cons, crank]
    omega
  | @cUnlock i r hi => exact mu_cons_lt hi rfl rfl rfl (Nat.add_lt_add_left (by cases r <;> exact Nat.lt_succ_self _) _)
  | @cPost i r hi => exact mu_cons_lt hi rfl rfl rfl (Nat.add_lt_add_left (by cases r <;> exact Nat.lt_succ_self _) _)
  | cReturnFile hi => exact mu_cons_lt hi rfl rfl rfl (Nat.add_lt_add_left (by decide : 8 < 10) _)
  | cReturnNull hi => exact mu_cons_lt hi rfl rfl rfl (Nat.add_lt_add_left (by decide : 0 < 1) _)

theorem reachable_stepsN {c : Cfg} {n : Nat} {input : List α} {k : Nat} {s s' : State α}
    (hr : Reachable c n input s) (hs : StepsN c k s s') : Reachable c n input s' := by
  induction hs with
  | refl => exact hr
  | cons h1 _ ih => exact ih (Reachable.step hr h1)

theorem stepsN_of_seq {c : Cfg} {f : Nat → State α} (hstep : ∀ k, Step c (f k) (f (k + 1))) (j k : Nat) :
    StepsN c k (f j) (f (j + k)) := by
  induction k generalizing j with
  | zero => exact .refl _
  | succ k ih => exact .cons (hstep j) (Nat.add_right_comm j 1 k ▸ ih (j + 1))

theorem reaches_final {c : Cfg} {n : Nat} {input : List α} {s : State α} (hc : c.WF) (hn : 1 ≤ n) (hnl : n ≤ c.threadLimit)
    (hr : Reachable c n input s) : ∃ k s', StepsN c k s s' ∧ Final s' := by
  induction hm : mu c s using Nat.strongRecOn generalizing s with
  | _ m ih =>
    by_cases hf : Final s
    · exact ⟨0, s, .refl s, hf⟩
    · have hi := inv_reachable hc hr
      obtain ⟨a, s', ha⟩ := enabled_of_inv hc hn hnl hi hf
      obtain ⟨k, s'', hk, hf''⟩ := ih _ (hm ▸ mu_decreases hi (step_eq_some.1 ha)) (Reachable.step hr ⟨a, ha⟩) rfl
      exact ⟨k + 1, s'', .cons ⟨a, ha⟩ hk, hf''⟩

theorem runActs_reachable {c : Cfg} {n : Nat} {input : List α} (acts : List Act) {s s' : State α}
    (hr : Reachable c n input s) (h : runActs c s acts = some s') : Reachable c n input s' := by
  fun_induction runActs c s acts with
  | case1 s => cases h; exact hr
  | case2 s a as s1 h1 ih => exact ih (Reachable.step hr ⟨a, h1⟩) h
  | case3 => cases h

end YaraModel.Queue
