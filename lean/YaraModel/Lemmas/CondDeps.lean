/- C05, condition level: a condition's value depends on the other rules only through the verdicts of the rules it names;
   `evalRules` and `evalRulesD` as one accumulation of verdicts (`accum`, also behind Thm/C04 (g)); a rule's verdict is the same
   in every rule set that holds the rule and the rules it names, also with rules switched off. -/
import YaraModel.Spec.CondDeps
namespace YaraModel.Cond

/-- only for the corollary `eval_rename` (no rule switched off); the frame lemma is `eval_rename_of` (`_of`: of field equations) -/
structure SameButRules (env env' : Env) : Prop where
  strs : env'.strs = env.strs
  blocks : env'.blocks = env.blocks
  filesize : env'.filesize = env.filesize
  ext : env'.ext = env.ext
  nod : env.disabled = []          -- no rule is switched off through the API in either environment
  nod' : env'.disabled = []
  fops : env'.fops = env.fops

/-- A named predicate: with the bare `∀ k ∈ ks, P k` as their premise, `simp` does not apply the induction hypotheses of the
    proofs below. -/
def All (P : Nat → Prop) (ks : List Nat) : Prop := ∀ k ∈ ks, P k

theorem all_append {P : Nat → Prop} {as bs : List Nat} : All P (as ++ bs) ↔ All P as ∧ All P bs := List.forall_mem_append

theorem all_singleton {P : Nat → Prop} {k : Nat} : All P [k] ↔ P k := List.forall_mem_singleton

def SameRule (env env' : Env) (f : Nat → Nat) (k : Nat) : Prop :=
  env'.disabled.contains (f k) = env.disabled.contains k ∧ env'.rules.getD (f k) false = env.rules.getD k false

theorem countP_ruleMatched_map {env env' : Env} {f : Nat → Nat} {set : List Nat} (h : All (SameRule env env' f) set) :
    (set.map f).countP env'.ruleMatched = set.countP env.ruleMatched := by
  rw [List.countP_map]
  exact List.countP_congr fun k hk => by simp only [Function.comp, Env.ruleMatched, (h k hk).1, (h k hk).2]

/-- **Frame lemma.** By induction on the condition: `eval` consults the rules only at `ruleRef` and at the rule sets of
    `of` / `%`; everywhere else it combines the values of the subexpressions, whose references are among those of the expression. -/
theorem eval_rename_of {env env' : Env} (hs : env'.strs = env.strs) (hb : env'.blocks = env.blocks)
    (hz : env'.filesize = env.filesize) (hx : env'.ext = env.ext) (ho : env'.fops = env.fops) (f : Nat → Nat) (e : Expr) :
    ∀ l, All (SameRule env env' f) (ruleRefs e) → eval env' l (renameRules f e) = eval env l e := by
  have hm : ∀ l s, env'.matchesOf l s = env.matchesOf l s := fun l s => by cases s <;> simp only [Env.matchesOf, hs]
  have hf : strFound env' = strFound env := by funext n; simp only [strFound, hs]
  have hl : lookupExt env' = lookupExt env := by funext n; simp only [lookupExt, hx]
  induction e using Expr.rec
    (motive_2 := fun es => ∀ l, All (SameRule env env' f) (ruleRefsList es) →
      evalList env' l (renameRulesList f es) = evalList env l es)
  case nil => rfl
  case cons =>
    rename_i l h
    simp only [ruleRefsList, all_append] at h
    simp only [renameRulesList, evalList, *]
  all_goals
    dsimp only [ruleRefs, renameRules, eval]
    simp +contextual only [all_append, all_singleton, SameRule, countP_ruleMatched_map (env := env), List.length_map,
      implies_true, *]

theorem eval_rename {env env' : Env} (S : SameButRules env env') (f : Nat → Nat) :
    ∀ (e : Expr) (l : LEnv), (∀ k ∈ ruleRefs e, env'.rules.getD (f k) false = env.rules.getD k false) →
      eval env' l (renameRules f e) = eval env l e :=
  fun e l h => eval_rename_of S.strs S.blocks S.filesize S.ext S.fops f e l
    fun k hk => ⟨by simp only [S.nod, S.nod', List.contains_nil], h k hk⟩

theorem evalList_rename {env env' : Env} (S : SameButRules env env') (f : Nat → Nat) :
    ∀ (es : List Expr) (l : LEnv), (∀ k ∈ ruleRefsList es, env'.rules.getD (f k) false = env.rules.getD k false) →
      evalList env' l (renameRulesList f es) = evalList env l es
  | [], _, _ => rfl
  | e :: es, l, h => by
    simp only [ruleRefsList, List.forall_mem_append] at h
    simp only [renameRulesList, evalList, eval_rename S f e l h.1, evalList_rename S f es l h.2]

def accum (f : List Bool → Rule → Bool) : List Rule → List Bool → List Bool
  | [], acc => acc
  | r :: rs, acc => accum f rs (acc ++ [f acc r])

theorem accum_length (f : List Bool → Rule → Bool) :
    ∀ (rs : List Rule) (acc : List Bool), (accum f rs acc).length = acc.length + rs.length
  | [], acc => by simp [accum]
  | r :: rs, acc => by
    simp only [accum, accum_length f rs, List.length_append, List.length_cons, List.length_nil]
    omega

theorem accum_prefix (f : List Bool → Rule → Bool) : ∀ (rs : List Rule) (acc : List Bool), acc <+: accum f rs acc
  | [], acc => List.prefix_refl acc
  | _ :: rs, acc => (List.prefix_append acc _).trans (accum_prefix f rs _)

theorem accum_getD (f : List Bool → Rule → Bool) : ∀ (rs : List Rule) (acc : List Bool) (i : Nat) (h : i < rs.length),
    (accum f rs acc).getD (acc.length + i) false = f ((accum f rs acc).take (acc.length + i)) rs[i]
  | [], _, _, h => by simp at h
  | r :: rs, acc, 0, _ => by
    obtain ⟨t, ht⟩ := accum_prefix f rs (acc ++ [f acc r])
    simp only [accum, ← ht, Nat.add_zero, List.getElem_cons_zero, List.append_assoc, List.take_left']
    simp [List.getD_eq_getElem?_getD]
  | r :: rs, acc, i + 1, h => by
    have ih := accum_getD f rs (acc ++ [f acc r]) i (by simpa using h)
    simp only [List.length_append, List.length_cons, List.length_nil, Nat.add_assoc, Nat.add_comm 1 i] at ih
    exact ih

theorem evalRules_eq (blocks : List (Nat × Bytes)) (filesize : Int) (ext : List (String × Val)) :
    ∀ (rs : List Rule) (acc : List Bool), evalRules blocks filesize ext rs acc =
      accum (fun acc r => ruleVerdict { strs := r.strs, blocks, filesize, ext, rules := acc } r.cond) rs acc
  | [], _ => rfl
  | _ :: rs, _ => evalRules_eq blocks filesize ext rs _

theorem evalRulesD_eq (blocks : List (Nat × Bytes)) (filesize : Int) (ext : List (String × Val)) (dis : List Nat)
    (fops : FloatOps) :
    ∀ (rs : List Rule) (acc : List Bool), evalRulesD blocks filesize ext dis fops rs acc =
      accum (fun acc r => !dis.contains acc.length &&
        ruleVerdict { strs := r.strs, blocks, filesize, ext, rules := acc, disabled := dis, fops } r.cond) rs acc
  | [], _ => rfl
  | _ :: rs, _ => evalRulesD_eq blocks filesize ext dis fops rs _

theorem evalRules_length (blocks : List (Nat × Bytes)) (filesize : Int) (ext : List (String × Val)) :
    ∀ (rs : List Rule) (acc : List Bool), (evalRules blocks filesize ext rs acc).length = acc.length + rs.length :=
  fun rs acc => by rw [evalRules_eq]; exact accum_length _ rs acc

theorem evalRules_getD (blocks : List (Nat × Bytes)) (filesize : Int) (ext : List (String × Val)) :
    ∀ (rs : List Rule) (acc : List Bool) (i : Nat) (h : i < rs.length),
      (evalRules blocks filesize ext rs acc).getD (acc.length + i) false =
        ruleVerdict { strs := rs[i].strs, blocks, filesize, ext,
                      rules := (evalRules blocks filesize ext rs acc).take (acc.length + i) } rs[i].cond :=
  fun rs acc i h => by rw [evalRules_eq]; exact accum_getD _ rs acc i h

theorem evalRulesD_getD (blocks : List (Nat × Bytes)) (filesize : Int) (ext : List (String × Val)) (dis : List Nat)
    (fo : FloatOps) (rs : List Rule) (i : Nat) (h : i < rs.length) :
    (evalRulesD blocks filesize ext dis fo rs []).getD i false =
      (!dis.contains i && ruleVerdict { strs := rs[i].strs, blocks, filesize, ext,
                                          rules := (evalRulesD blocks filesize ext dis fo rs []).take i, disabled := dis, fops := fo } rs[i].cond) := by
  rw [evalRulesD_eq]
  have := accum_getD (fun acc r => !dis.contains acc.length &&
        ruleVerdict { strs := r.strs, blocks, filesize, ext, rules := acc, disabled := dis, fops := fo } r.cond) rs [] i h
  simp only [List.length_nil, Nat.zero_add] at this
  rw [this, List.length_take_of_le (by rw [accum_length]; simp only [List.length_nil]; omega)]

theorem evalRulesD_nil (blocks : List (Nat × Bytes)) (filesize : Int) (ext : List (String × Val)) (rs : List Rule) (acc : List Bool) :
    evalRulesD blocks filesize ext [] FloatOps.trivial rs acc = evalRules blocks filesize ext rs acc := by
  -- with nothing disabled the two judging functions agree by computation (`![].contains _ && v` is `v`)
  rw [evalRulesD_eq, evalRules_eq]; rfl

/-- **Independence of the company, condition level, with rules switched off** (`hdis`; the other rules of `big` are free).
    By strong induction on the rule index: verdict `i` is the rule's condition against the earlier verdicts
    (`evalRulesD_getD`), of which it consults only those it names (`eval_rename_of`), and these are earlier (`BackRefs`). -/
theorem verdictD_company_independent (blocks : List (Nat × Bytes)) (filesize : Int) (ext : List (String × Val))
    (fo : FloatOps) (dis dis' : List Nat)
    (pos : Nat → Nat) (small big : List Rule) (E : Embeds pos small big) (B : BackRefs small)
    (hdis : ∀ i, i < small.length → dis'.contains (pos i) = dis.contains i) :
    ∀ i, i < small.length →
      (evalRulesD blocks filesize ext dis' fo big []).getD (pos i) false =
        (evalRulesD blocks filesize ext dis fo small []).getD i false := by
  intro i
  induction i using Nat.strongRecOn with
  | _ i ih =>
    intro hi
    have hpi := E.inside i hi
    rw [evalRulesD_getD _ _ _ _ _ small i hi, evalRulesD_getD _ _ _ _ _ big (pos i) hpi, E.same i hi hpi, hdis i hi]
    simp only [ruleVerdict]
    congr 2
    -- `by rfl`, not `rfl`: a tactic block is elaborated last, when the goal has fixed the two environments
    refine eval_rename_of (by rfl) (by rfl) (by rfl) (by rfl) (by rfl) pos _ _ fun k hk => ?_
    have hki : k < i := B i hi k hk
    have hpk : pos k < pos i := E.mono k i hki hi
    refine ⟨hdis k (by omega), ?_⟩
    show ((evalRulesD blocks filesize ext dis' fo big []).take (pos i)).getD (pos k) false =
      ((evalRulesD blocks filesize ext dis fo small []).take i).getD k false
    simp only [List.getD_eq_getElem?_getD, List.getElem?_take_of_lt hpk, List.getElem?_take_of_lt hki]
    simpa only [List.getD_eq_getElem?_getD] using ih k hki (by omega)

theorem map_eq_self {f : Nat → Nat} {set : List Nat} (h : All (fun k => f k = k) set) : set.map f = set := by
  rw [List.map_congr_left h, List.map_id']

theorem renameRules_eq_self (f : Nat → Nat) (e : Expr) : (∀ k ∈ ruleRefs e, f k = k) → renameRules f e = e := by
  show All (fun k => f k = k) (ruleRefs e) → _
  induction e using Expr.rec
    (motive_2 := fun es => All (fun k => f k = k) (ruleRefsList es) → renameRulesList f es = es)
  case nil => rfl
  case cons =>
    rename_i h
    simp only [ruleRefsList, all_append] at h
    simp only [renameRulesList, *]
  all_goals
    dsimp only [ruleRefs, renameRules]
    simp +contextual only [all_append, all_singleton, map_eq_self, implies_true, *]

theorem renameRulesList_eq_self (f : Nat → Nat) : ∀ (es : List Expr), (∀ k ∈ ruleRefsList es, f k = k) → renameRulesList f es = es
  | [], _ => rfl
  | e :: es, h => by
    simp only [ruleRefsList, List.forall_mem_append] at h
    simp only [renameRulesList, renameRules_eq_self f e h.1, renameRulesList_eq_self f es h.2]

theorem renameRules_id (e : Expr) : renameRules id e = e := renameRules_eq_self id e (fun _ _ => rfl)

end YaraModel.Cond
