/- C07 — what one event, and so a run, does to the error count and the callback log. -/
import YaraModel.Model.CompilerErr
namespace YaraModel.CompilerErr

def Counted (s : St) : Prop := s.errors = s.log.length

def LinesInv (s : St) : Prop := ∀ e ∈ s.log, 1 ≤ e.line

theorem yyerror_counted (ln : Nat) (s : St) (h : Counted s) : Counted (yyerror true ln s) := by
  simp only [Counted, yyerror, ite_true, List.length_append, List.length_singleton] at *
  omega

theorem yyerror_lines (ln : Nat) (s : St) (h : LinesInv s) (hl : 1 ≤ ln) : LinesInv (yyerror true ln s) := by
  intro e he
  rcases List.mem_append.1 he with he | he
  · exact h e he
  · cases List.mem_singleton.1 he
    show 1 ≤ if s.curLine ≠ 0 then s.curLine else ln
    split
    · exact Nat.pos_of_ne_zero ‹_›
    · exact hl

/-- What an event does to the error count and the log, for any property `P` of the two: nothing, the silent set-up failure,
    or one `yyerror` (with a line ≥ 1 if the event's lines are). -/
theorem step_errors_log {cb : Bool} {s : St} {e : Ev} {P : Nat → List Entry → Prop} (h : P s.errors s.log)
    (setup : isSetupFail e = true → P 1 s.log)
    (yy : ∀ ln, (linesOk e = true → 1 ≤ ln) → P (yyerror cb ln s).errors (yyerror cb ln s).log) :
    P (step cb s e).errors (step cb s e).log := by
  unfold step
  split
  · exact h
  · cases e with
    | setupFail => exact setup rfl
    | failWithError oom ln => cases oom <;> exact yy ln of_decide_eq_true
    | syntaxError ln =>
      dsimp only
      split
      · exact yy ln of_decide_eq_true
      · exact h
    | lexError ln | fatal ln => exact yy ln of_decide_eq_true
    | _ => exact h

end YaraModel.CompilerErr
