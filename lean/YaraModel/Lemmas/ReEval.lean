/-
  The driver's set evaluator (Model/ReEval.lean) computes the specification:
      q ∈ r.endsSet fl buf S ↔ ∃ p ∈ S, q ∈ r.ends fl buf p        (for position sets inside the buffer)
  — `mem_endsSet`, stated as `Lifts` (Lemmas/Re.lean), the form in which the closure lemmas take it.
-/
import YaraModel.Lemmas.Re
namespace YaraModel.Re

open YaraModel.ReEmit (Iter exists_comp)

section
variable (fl : Flags) (buf : Bytes)

theorem ends_le {r : Re} {p q : Nat} (hp : p ≤ buf.size) (h : q ∈ r.ends fl buf p) : q ≤ buf.size := by
  have := Matches.bounds ((ends_iff_Matches fl buf r p q).1 h)
  omega

theorem mem_stepSet (t : UInt8 → Bool) (s : List Nat) (q : Nat) :
    q ∈ stepSet fl buf t s ↔ ∃ p, p ∈ s ∧ q ∈ step fl buf t p := by
  simp [stepSet, List.mem_flatMap]

theorem any_dotall (hd : fl.dotall = true) (hw : fl.wide = false) {p q : Nat} :
    Re.Matches fl buf .any p q ↔ q = p + 1 ∧ p < buf.size := by
  rw [← mem_step_any, mem_step, charOk_iff, Flags.cs_narrow hw]
  constructor
  · rintro ⟨⟨c, hc, _⟩, rfl⟩; exact ⟨rfl, (Array.getElem?_eq_some_iff.1 hc).1⟩
  · rintro ⟨rfl, hlt⟩; exact ⟨⟨buf[p], Array.getElem?_eq_getElem hlt, by simp [hw], by simp [testAny, hd]⟩, rfl⟩

theorem iter_any_dotall (hd : fl.dotall = true) (hw : fl.wide = false) {k p q : Nat} :
    Iter (Re.Matches fl buf .any) k p q ↔ q = p + k ∧ (k = 0 ∨ q ≤ buf.size) := by
  simp only [Iter.unit_iff (fun x y h => ((any_dotall fl buf hd hw).1 h).1), any_dotall fl buf hd hw, true_and]
  refine and_congr_right ?_
  rintro rfl
  exact ⟨fun h => by cases k with | zero => exact .inl rfl | succ k => have := h k (by omega); omega, fun h i hi => by omega⟩

theorem mem_jumpSet (lo hi : Nat) (s : List Nat) (q : Nat) :
    q ∈ jumpSet buf lo hi s ↔ q ≤ buf.size ∧ ∃ p, p ∈ s ∧ p + lo ≤ q ∧ q ≤ p + hi := by
  simp only [jumpSet, List.mem_filter, List.mem_range, List.any_eq_true, Bool.and_eq_true, decide_eq_true_eq]
  constructor
  · rintro ⟨h1, p, hp, h2, h3⟩; exact ⟨by omega, p, hp, h2, h3⟩
  · rintro ⟨h1, p, hp, h2, h3⟩; exact ⟨by omega, p, hp, h2, h3⟩

theorem mem_endsSet (r : Re) : Lifts (r.endsSet fl buf) (fun p q => q ∈ r.ends fl buf p) (· ≤ buf.size) := by
  refine ⟨?_, fun _ _ => ends_le fl buf⟩
  induction r with
  | lit b | masked v m | notLit b | maskedNot v m | any | cls bm neg | wordCh | nonWordCh | space | nonSpace
  | digit | nonDigit =>
    intro s _ q
    simp only [Re.endsSet, Re.ends, mem_stepSet]
  | empty | bol | eol | wordB | nonWordB =>
    -- a filter against a test at each start: `∃ p ∈ s, t p ∧ q = p` is `q ∈ s ∧ t q`
    intro s _ q
    simp only [Re.endsSet, Re.ends, List.mem_filter, beq_iff_eq, List.mem_ite_nil_right, List.mem_ite_nil_left,
      List.mem_singleton, Bool.not_eq_true, Bool.not_eq_true', exists_eq_right_right', exists_eq_right']
  | cat a b iha ihb =>
    intro s hs q
    simp only [Re.endsSet, Re.ends, ihb _ (Lifts.image ⟨iha, fun _ _ => ends_le fl buf⟩ hs), iha s hs, List.mem_eraseDups,
      List.mem_flatMap, exists_comp]
  | alt a b iha ihb =>
    intro s hs q
    simp only [Re.endsSet, Re.ends, List.mem_eraseDups, List.mem_append, iha s hs, ihb s hs, and_or_left, exists_or]
  | star a g iha =>
    intro s hs q
    simp only [Re.endsSet, Re.ends, mem_upToS_self ⟨iha, fun _ _ => ends_le fl buf⟩ _ s hs,
      mem_upTo_self (fun _ _ => Iff.rfl), List.mem_singleton, exists_eq_left]
  | plus a g iha =>
    intro s hs q
    have hs1 : ∀ x, x ∈ (a.endsSet fl buf s).eraseDups → x ≤ buf.size := fun x hx =>
      Lifts.image ⟨iha, fun _ _ => ends_le fl buf⟩ hs x (List.mem_eraseDups.1 hx)
    simp only [Re.endsSet, Re.ends, mem_upToS_self ⟨iha, fun _ _ => ends_le fl buf⟩ _ _ hs1,
      mem_upTo_self (fun _ _ => Iff.rfl), List.mem_eraseDups, iha s hs, exists_comp]
  | range a lo hi g iha =>
    intro s hs q
    simp only [Re.endsSet, Re.ends, mem_range_ends (fun _ _ => Iff.rfl)]
    exact mem_counted ⟨iha, fun _ _ => ends_le fl buf⟩ lo hi s hs q
  | rangeAny lo hi g =>
    intro s hs q
    simp only [Re.endsSet, Re.ends, mem_range_ends (fun _ _ => mem_step_any)]
    by_cases hfast : (fl.dotall && !fl.wide) = true
    · -- the interval arithmetic of `jumpSet` against stepping
      simp only [hfast, if_true, List.mem_ite_nil_right, mem_jumpSet]
      simp only [Bool.and_eq_true, Bool.not_eq_true'] at hfast
      simp only [iter_any_dotall fl buf hfast.1 hfast.2]
      constructor
      · rintro ⟨_, _, p, hp, h1, h2⟩; exact ⟨p, hp, q - p, by omega, by omega, by omega, by omega⟩
      · rintro ⟨p, hp, k, h1, h2, rfl, h3⟩
        have := hs p hp
        exact ⟨by omega, by omega, p, hp, by omega, by omega⟩
    · simp only [hfast, Bool.false_eq_true, if_false]
      exact mem_counted ⟨fun X _ y => (mem_stepSet fl buf _ X y).trans (by simp only [mem_step_any]),
        fun x y hx hy => by have := (Matches.bounds hy).2; omega⟩ lo hi s hs q

/-- what the driver prints for offset `o` -/
theorem endsSet_single (r : Re) (o : Nat) (ho : o ≤ buf.size) (q : Nat) :
    q ∈ r.endsSet fl buf [o] ↔ q ∈ r.ends fl buf o := by
  rw [(mem_endsSet fl buf r).mem [o] (by simp; exact ho)]
  simp

end

theorem endsSet_iff_Matches (fl : Flags) (buf : Bytes) (r : Re) (o : Nat) (ho : o ≤ buf.size) (q : Nat) :
    q ∈ r.endsSet fl buf [o] ↔ Re.Matches fl buf r o q := by
  rw [endsSet_single fl buf r o ho q]; exact ends_iff_Matches fl buf r o q

end YaraModel.Re
