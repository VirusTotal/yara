/- Pointer <-> reference conversions of the arena model under the heap picture `RangesOk`, save's pointer -> reference
   pass as an instance of `mapSlots`, and `setMeta` (a buffer's capacity / address / dirtiness changed, bytes untouched). -/
import YaraModel.Lemmas.ArenaSlots
namespace YaraModel.Arena
open YaraModel.Gen.ArenaLayout

theorem findBuf_test (b : Buf) (p : Nat) :
    (b.base ≠ 0 ∧ geLo ptrToRefLowerInclusive b.base p = true ∧ ltHi ptrToRefUpperExclusive p (b.base + b.data.length) = true)
      ↔ Hits b p := by
  simp [geLo, ltHi, ptrToRefLowerInclusive, ptrToRefUpperExclusive, Hits]

theorem findBuf_cons (p : Nat) (b : Buf) (t : List Buf) (k : Nat) :
    findBuf p (b :: t) k = if Hits b p then some ⟨k, p - b.base⟩ else findBuf p t (k + 1) := by
  simp only [findBuf, findBuf_test]

theorem mem_iff_getD {l : List Buf} {x : Buf} : x ∈ l ↔ ∃ j, j < l.length ∧ l.getD j {} = x := by
  rw [List.mem_iff_getElem]
  constructor
  · rintro ⟨j, hj, rfl⟩; exact ⟨j, hj, by simp [hj]⟩
  · rintro ⟨j, hj, rfl⟩; exact ⟨j, hj, by simp [hj]⟩

theorem getD_mem {l : List Buf} (j : Nat) (hj : j < l.length) : l.getD j {} ∈ l := mem_iff_getD.2 ⟨j, hj, rfl⟩

theorem findBuf_hit {l : List Buf} (hp : l.Pairwise Apart) (hf : ∀ b ∈ l, b.data.length ≤ b.cap)
    {j : Nat} (hj : j < l.length) {p : Nat} (h : Hits (l.getD j {}) p) (k : Nat) :
    findBuf p l k = some ⟨k + j, p - (l.getD j {}).base⟩ := by
  induction l generalizing j k with
  | nil => cases hj
  | cons b t ih =>
    rw [findBuf_cons]
    cases j with
    | zero => exact if_pos h
    | succ j =>
      rw [List.getD_cons_succ] at h ⊢
      have hj' : j < t.length := Nat.lt_of_succ_lt_succ hj
      have hmem := getD_mem j hj'
      -- the head is apart from the buffer that is hit, and neither is used beyond its capacity
      have hnb : ¬ Hits b p := by
        have h1 := hf b (List.mem_cons_self ..)
        have h2 := hf _ (List.mem_cons_of_mem _ hmem)
        have h3 := (List.pairwise_cons.1 hp).1 _ hmem
        unfold Hits Apart at *
        omega
      rw [if_neg hnb, ih (List.pairwise_cons.1 hp).2 (fun c hc => hf c (List.mem_cons_of_mem _ hc)) hj' h, Nat.add_assoc,
        Nat.add_comm 1 j]

theorem ptrToRef_zero (bufs : List Buf) : ptrToRef bufs 0 = (true, none) := by simp [ptrToRef]

theorem ptrToRef_hit {bufs : List Buf} (hr : RangesOk bufs) {i : Nat} (hi : i < bufs.length) {p : Nat}
    (h : Hits (bufs.getD i {}) p) : ptrToRef bufs p = (true, some ⟨i, p - (bufs.getD i {}).base⟩) := by
  have hp : p ≠ 0 := by unfold Hits at h; omega
  unfold ptrToRef
  rw [if_neg hp, findBuf_hit hr.apart (fun b hb => (hr.fits b hb).1) hi h 0]
  simp

theorem refToPtr_some {bufs : List Buf} {i o : Nat} (hi : i < bufs.length) (ho : o ≤ (bufs.getD i {}).data.length) :
    refToPtr bufs (some ⟨i, o⟩) = .ok (if (bufs.getD i {}).base = 0 then 0 else (bufs.getD i {}).base + o) := by
  have e : bufs.getD i {} = bufs[i] := by simp [hi]
  rw [e] at ho ⊢
  simp [refToPtr, hi, ho]

theorem encRef_lt (x : Option Ref) : encRef x < 2 ^ 64 := by
  cases x with
  | none => simp [encRef, nullRefVal]
  | some r =>
    simp only [encRef, refBufOff, refOffOff]
    omega

theorem decRef_encRef_none : decRef (encRef none) = none := by
  simp [decRef, encRef, nullRefVal]

theorem decRef_encRef_some {r : Ref} (hb : r.buf < 2 ^ 32 - 1) (ho : r.off < 2 ^ 32) : decRef (encRef (some r)) = some r := by
  obtain ⟨b, o⟩ := r
  simp only at hb ho
  have hv : encRef (some ⟨b, o⟩) = b + o * 4294967296 := by
    simp only [encRef, refBufOff, refOffOff]
    rw [Nat.mod_eq_of_lt (by omega), Nat.mod_eq_of_lt ho]
    simp
  rw [hv]
  unfold decRef
  have hne : ¬ (b + o * 4294967296) % 2 ^ 64 = nullRefVal := by unfold nullRefVal; omega
  rw [if_neg hne]
  simp only [refBufOff, refOffOff, Option.some.injEq, Ref.mk.injEq]
  constructor <;> omega

theorem toRefs_eq (a : Arena) : toRefs a = mapSlots (fun v => encRef (ptrToRef a.bufs v).2) a.relocs a :=
  foldl_fst_eq_mapSlots (fun _ _ _ => rfl) ..

/-- mind the order (cap, base): `growBuf` and `Fresh` take (base, cap) -/
def setMeta (a : Arena) (i cap base : Nat) (dirty : Bool) : Arena :=
  { a with bufs := a.bufs.modify i (fun b => { b with cap := cap, base := base, dirty := dirty }) }

theorem setBuf_eq_setMeta (a : Arena) (b cap base : Nat) (d : Bool) :
    a.setBuf b { data := (a.bufAt b).data, cap := cap, base := base, dirty := d } = setMeta a b cap base d :=
  setBuf_bufAt a b (fun x => { x with cap := cap, base := base, dirty := d })

theorem bufAt_setMeta (a : Arena) (i cap base : Nat) (d : Bool) (j : Nat) :
    (setMeta a i cap base d).bufAt j =
      if i = j ∧ j < a.bufs.length then { a.bufAt j with cap := cap, base := base, dirty := d } else a.bufAt j := by
  unfold setMeta Arena.bufAt
  rw [List.getD_modify]

theorem setMeta_length (a : Arena) (i cap base : Nat) (d : Bool) : (setMeta a i cap base d).bufs.length = a.bufs.length := by
  simp [setMeta]

theorem bufAt_setMeta_data (a : Arena) (i cap base : Nat) (dirty : Bool) (j : Nat) :
    ((setMeta a i cap base dirty).bufAt j).data = (a.bufAt j).data := by
  rw [bufAt_setMeta]; split <;> rfl

theorem getSlot_setMeta (a : Arena) (i cap base : Nat) (dirty : Bool) (r : Ref) :
    getSlot (setMeta a i cap base dirty) r = getSlot a r := by
  simp only [getSlot, bufAt_setMeta_data]

theorem bodies_setMeta (a : Arena) (i cap base : Nat) (dirty : Bool) : bodies (setMeta a i cap base dirty) = bodies a :=
  map_modify_same (fun x : Buf => x.data) (fun x => { x with cap := cap, base := base, dirty := dirty }) (fun _ => rfl) a.bufs i

end YaraModel.Arena
