/- Not the compiler (that is Model/CondCompile.lean) but the EXECUTION layer of `compile_correct_partial` (Thm/C04.lean): step
   sequences, code placement, `Runs` (a fragment pushes given words and falls through) with its composition lemmas, and the
   fragments the compiler builds from them.  No `Val` here: words only. -/
import YaraModel.Lemmas.Cond
namespace YaraModel.CondCompile
open YaraModel.C YaraModel.Cond YaraModel.CondVm YaraModel.Gen.VmOps

variable {env : Env} {code : List Instr} {c : Ctx} {l : LEnv} {pure : Bool}

def stepAt (env : Env) (code : List Instr) (s : St) : Option St :=
  match code[s.pc]? with
  | some i => step env i s
  | none => none

def runN (env : Env) (code : List Instr) : Nat → St → Option St
  | 0, s => some s
  | n + 1, s => (stepAt env code s).bind (runN env code n)

def Steps (env : Env) (code : List Instr) (s s' : St) : Prop := ∃ n, runN env code n s = some s'

theorem runN_add (env : Env) (code : List Instr) (m n : Nat) (s : St) :
    runN env code (m + n) s = (runN env code m s).bind (runN env code n) := by
  induction m generalizing s with
  | zero => simp [runN]
  | succ m ih =>
    rw [Nat.succ_add]
    simp only [runN]
    cases stepAt env code s with
    | none => rfl
    | some s1 => simp [ih]

theorem Steps.refl (env : Env) (code : List Instr) (s : St) : Steps env code s s := ⟨0, rfl⟩

theorem Steps.trans {a b c : St}
    (h1 : Steps env code a b) (h2 : Steps env code b c) : Steps env code a c := by
  obtain ⟨m, hm⟩ := h1
  obtain ⟨n, hn⟩ := h2
  exact ⟨m + n, by rw [runN_add, hm]; exact hn⟩

theorem Steps.one {s s' : St} {i : Instr}
    (hi : code[s.pc]? = some i) (hs : step env i s = some s') : Steps env code s s' :=
  ⟨1, by simp [runN, stepAt, hi, hs]⟩

/-- `Steps` that end at the end of the code are a `run` for every larger fuel -/
theorem run_of_runN_le (env : Env) (code : List Instr) (n : Nat) (s s' : St)
    (h : runN env code n s = some s') (hend : s'.pc = code.length) :
    ∀ fuel, n < fuel → run env code.toArray fuel s = some s' := by
  induction n generalizing s with
  | zero =>
    intro fuel hf
    obtain ⟨f, rfl⟩ := Nat.exists_eq_add_one.mpr hf
    cases h
    simp [run, hend]
  | succ n ih =>
    intro fuel hf
    obtain ⟨f, rfl⟩ := Nat.exists_eq_add_one.mpr (Nat.zero_lt_of_lt hf)
    obtain ⟨s1, h1, h2⟩ := Option.bind_eq_some_iff.mp h
    unfold stepAt at h1
    split at h1
    · next i hi =>
      simp only [run, List.getElem?_toArray, hi, h1]
      exact ih s1 h2 f (by omega)
    · cases h1

def CodeAt (code : List Instr) (pc : Nat) (frag : List Instr) : Prop :=
  ∃ pre post, code = pre ++ frag ++ post ∧ pre.length = pc

theorem CodeAt.left {code : List Instr} {pc : Nat} {f1 f2 : List Instr}
    (h : CodeAt code pc (f1 ++ f2)) : CodeAt code pc f1 := by
  obtain ⟨pre, post, hc, hl⟩ := h
  exact ⟨pre, f2 ++ post, by simp [hc], hl⟩

theorem CodeAt.right {code : List Instr} {pc : Nat} {f1 f2 : List Instr}
    (h : CodeAt code pc (f1 ++ f2)) : CodeAt code (pc + f1.length) f2 := by
  obtain ⟨pre, post, hc, hl⟩ := h
  exact ⟨pre ++ f1, post, by simp [hc], by simp [hl]⟩

theorem CodeAt.head {code : List Instr} {pc : Nat} {i : Instr} {rest : List Instr}
    (h : CodeAt code pc (i :: rest)) : code[pc]? = some i := by
  obtain ⟨pre, post, hc, hl⟩ := h
  subst hc; subst hl
  simp

theorem CodeAt.tail {code : List Instr} {pc : Nat} {i : Instr} {rest : List Instr}
    (h : CodeAt code pc (i :: rest)) : CodeAt code (pc + 1) rest := by
  have := CodeAt.right (f1 := [i]) (f2 := rest) (by simpa using h)
  simpa using this

theorem CodeAt.whole (code : List Instr) : CodeAt code 0 code := ⟨[], [], by simp, rfl⟩

/-! `Runs env code frag c l pure vs`: wherever `frag` is placed in `code`, started with the pc at its first instruction and a
loop memory that holds the loop variables of `l` (`MemInv c l`), the VM reaches the end of the fragment having
pushed `vs` (top first); the stack below is untouched and so are the memory slots of the enclosing loops
(slots below `4 * depth`) and the iterators that already exist; slots of deeper loops may have changed and new
iterators may have been appended.  With `pure = true` the fragment promises more: memory and iterators are exactly as
before (code without loops); the operands of a loop header and of every non-boolean operator are run under that promise.
The flag is there because of the loop template: the range bounds / enumeration items run after `CLEAR_M f; CLEAR_M f+1; POP_M f+2`
have set this loop's own slots, which `Agree (4 * depth)` does not protect.  `mem.length = 20` is `St.mem`'s initial length
(YR_MAX_LOOP_NESTING · (YR_MAX_LOOP_VARS + 3)): `setM` is `List.set`, silent beyond the end, so a slot has to exist to be written. -/

def Agree (lo : Nat) (m' m : List Int) : Prop := (∀ k, k < lo → getM m' k = getM m k) ∧ m'.length = m.length

theorem Agree.refl (lo : Nat) (m : List Int) : Agree lo m m := ⟨fun _ _ => rfl, rfl⟩

theorem Agree.trans {lo : Nat} {a b c : List Int} (h1 : Agree lo a b) (h2 : Agree lo b c) : Agree lo a c :=
  ⟨fun k hk => (h1.1 k hk).trans (h2.1 k hk), h1.2.trans h2.2⟩

theorem Agree.mono {lo lo' : Nat} {a b : List Int} (h : Agree lo a b) (hle : lo' ≤ lo) : Agree lo' a b :=
  ⟨fun k hk => h.1 k (by omega), h.2⟩

theorem MemInv.stable {c : Ctx} {l : LEnv} {m m' : List Int} (h : MemInv c l m)
    (ha : Agree (4 * c.vars.length) m' m) : MemInv c l m' := by
  refine ⟨h.1, ?_, ?_⟩
  · intro k hk
    have hlt : k < c.vars.length := by
      apply Decidable.byContradiction
      intro hn
      exact hk (by simp [List.getD_eq_getElem?_getD, List.getElem?_eq_none (by omega : c.vars.length ≤ k)])
    rw [ha.1 (4 * k + 3) (by omega)]
    exact h.2.1 k hk
  · intro n hn
    obtain ⟨slot, h1, h2, h3⟩ := h.2.2 n hn
    exact ⟨slot, h1, h2, by rw [ha.1 slot h2]; exact h3⟩

def Runs (env : Env) (code : List Instr) (frag : List Instr) (c : Ctx) (l : LEnv) (pure : Bool) (vs : List Int) : Prop :=
  ∀ pc st mem its, CodeAt code pc frag → MemInv c l mem → mem.length = 20 →
    ∃ mem' ext, Steps env code ⟨pc, st, mem, its⟩ ⟨pc + frag.length, vs ++ st, mem', its ++ ext⟩ ∧
      Agree (4 * c.vars.length) mem' mem ∧ (pure = true → mem' = mem ∧ ext = [])

theorem Runs.mono {f : List Instr} {p p' : Bool} {vs : List Int}
    (h : Runs env code f c l p vs) (hp : p' = true → p = true) : Runs env code f c l p' vs := by
  intro pc st mem its hc hP hlen
  obtain ⟨m, e, s, a, hpure⟩ := h pc st mem its hc hP hlen
  exact ⟨m, e, s, a, fun h' => hpure (hp h')⟩

theorem Runs.nil (env : Env) (code : List Instr) (c : Ctx) (l : LEnv) (pure : Bool) : Runs env code [] c l pure [] := by
  intro pc st mem its _ _ _
  exact ⟨mem, [], by simpa using Steps.refl env code _, Agree.refl _ _, fun _ => ⟨rfl, rfl⟩⟩

theorem Runs.seq {f1 f2 : List Instr} {v1 v2 : List Int}
    (h1 : Runs env code f1 c l pure v1) (h2 : Runs env code f2 c l pure v2) :
    Runs env code (f1 ++ f2) c l pure (v2 ++ v1) := by
  intro pc st mem its hc hP hlen
  obtain ⟨m1, e1, s1, a1, p1⟩ := h1 pc st mem its hc.left hP hlen
  obtain ⟨m2, e2, s2, a2, p2⟩ := h2 (pc + f1.length) (v1 ++ st) m1 (its ++ e1) hc.right (hP.stable a1) (a1.2.trans hlen)
  refine ⟨m2, e1 ++ e2, ?_, a2.trans a1, ?_⟩
  · have := Steps.trans s1 s2
    simpa [Nat.add_assoc] using this
  · intro hp
    obtain ⟨rfl, rfl⟩ := p1 hp
    obtain ⟨rfl, rfl⟩ := p2 hp
    exact ⟨rfl, rfl⟩

theorem Runs.congr {env : Env} {code f f' : List Instr} {c : Ctx} {l : LEnv} {pure : Bool} {vs : List Int}
    (h : f = f') (hr : Runs env code f c l pure vs) : Runs env code f' c l pure vs := h ▸ hr

theorem Runs.val1 {f : List Instr} {r r' : Int}
    (h : r = r') (hr : Runs env code f c l pure [r]) : Runs env code f c l pure [r'] := h ▸ hr

theorem Runs.push1 (i : Instr) (v : Int)
    (h : ∀ pc st mem its, MemInv c l mem → step env i ⟨pc, st, mem, its⟩ = some ⟨pc + 1, v :: st, mem, its⟩) :
    Runs env code [i] c l pure [v] := by
  intro pc st mem its hc hP _
  exact ⟨mem, [], Steps.one (by simpa using hc.head) (by simpa using h pc st mem its hP), Agree.refl _ _,
    fun _ => ⟨rfl, rfl⟩⟩

theorem Runs.opL {f : List Instr} (i : Instr) (args res : List Int)
    (hf : Runs env code f c l pure args)
    (h : ∀ pc st mem its, step env i ⟨pc, args ++ st, mem, its⟩ = some ⟨pc + 1, res ++ st, mem, its⟩) :
    Runs env code (f ++ [i]) c l pure res := by
  intro pc st mem its hc hP hlen
  obtain ⟨m1, e1, s1, a1, p1⟩ := hf pc st mem its hc.left hP hlen
  refine ⟨m1, e1, ?_, a1, p1⟩
  have s2 := Steps.one (s := ⟨pc + f.length, args ++ st, m1, its ++ e1⟩) (by simpa using hc.right.head) (h _ st m1 _)
  have := Steps.trans s1 s2
  simpa [Nat.add_assoc] using this

theorem Runs.op {f : List Instr} (i : Instr) (args : List Int) (r : Int)
    (hf : Runs env code f c l pure args)
    (h : ∀ pc st mem its, step env i ⟨pc, args ++ st, mem, its⟩ = some ⟨pc + 1, r :: st, mem, its⟩) :
    Runs env code (f ++ [i]) c l pure [r] :=
  Runs.opL i args [r] hf h

theorem Runs.pushOp {f : List Instr} {j : Instr} {v : Int}
    (i : Instr) (args : List Int) (r : Int) (hf : Runs env code f c l pure args) (hj : Runs env code [j] c l pure [v])
    (h : ∀ pc st mem its, step env i ⟨pc, [v] ++ args ++ st, mem, its⟩ = some ⟨pc + 1, r :: st, mem, its⟩) :
    Runs env code (f ++ [j, i]) c l pure [r] :=
  Runs.congr (by simp) (Runs.op i _ r (Runs.seq hf hj) h)

def srefIdx (l : LEnv) : SRef → Nat
  | .id n => n
  | .cur => l.cur.getD 0

theorem matchesOf_idx (env : Env) (c : Ctx) (l : LEnv) (s : SRef) (h : SRefOk c l s) :
    env.matchesOf l s = env.strs.getD (srefIdx l s) [] := by
  cases s with
  | id n => rfl
  | cur =>
    obtain ⟨⟨n, hn⟩, _⟩ := h
    simp [Env.matchesOf, srefIdx, hn]

theorem runs_pushStr (env : Env) (code : List Instr) (c : Ctx) (l : LEnv) (pure : Bool) (s : SRef) (h : SRefOk c l s) :
    Runs env code [pushStr c s] c l pure [encStr (srefIdx l s)] := by
  cases s with
  | id n => exact Runs.push1 _ _ (fun _ _ _ _ _ => rfl)
  | cur =>
    obtain ⟨⟨n, hn⟩, _⟩ := h
    apply Runs.push1
    intro pc st mem its hP
    obtain ⟨slot, hs, _, hg⟩ := hP.2.2 n hn
    simp only [pushStr, hs, srefIdx, hn, Option.getD_some, ← hg]
    rfl

theorem jump_eq {pc n : Nat} {d : Int} (h : (pc : Int) + d = n) : jump pc d = n := by
  simp only [jump, h, Int.toNat_natCast]

/-- short-circuit evaluation: `A; j; B; o` where the jump `j` either skips `B; o`, leaving `A`'s word as the result, or
    falls through to `B` and the operator `o` -/
theorem runs_short {A B : List Instr} {wa wb : Int}
    (j o : Instr) (taken : Int → Bool) (res : Int → Int → Int)
    (hj : ∀ pc v st mem its, step env j ⟨pc, v :: st, mem, its⟩ =
      some ⟨if taken v then jump pc ((B.length : Int) + 2) else pc + 1, v :: st, mem, its⟩)
    (ho : ∀ pc a b st mem its, step env o ⟨pc, b :: a :: st, mem, its⟩ = some ⟨pc + 1, res a b :: st, mem, its⟩)
    (ha : Runs env code A c l pure [wa]) (hb : Runs env code B c l pure [wb]) :
    Runs env code (A ++ [j] ++ B ++ [o]) c l pure [if taken wa then wa else res wa wb] := by
  by_cases hk : taken wa = true
  · rw [if_pos hk]
    intro pc st mem its hc hP hlen
    obtain ⟨m1, e1, s1, a1, p1⟩ := ha pc st mem its hc.left.left.left hP hlen
    have s2 := Steps.one (s := ⟨pc + A.length, [wa] ++ st, m1, its ++ e1⟩) hc.left.left.right.head (hj _ _ _ _ _)
    rw [if_pos hk, jump_eq (n := pc + (A ++ [j] ++ B ++ [o]).length) (by simp; omega)] at s2
    exact ⟨m1, e1, Steps.trans s1 s2, a1, p1⟩
  · -- not taken: `j` leaves the stack as it is, and `A; j; B; o` is a binary operator on two operands
    rw [if_neg hk]
    exact Runs.op o [wb, wa] _ (Runs.seq (Runs.opL j [wa] [wa] ha fun pc st mem its => by rw [List.singleton_append, hj, if_neg hk]) hb)
      (ho · wa wb)

/-- the word `a or b` leaves: the left operand's own word when it is true (the jump skips OP_OR), else OP_OR's 0/1 -/
def orWord (wa wb : Int) : Int := if (!isU wa && wa != 0) = true then wa else b2i (!isU wb && wb != 0)

theorem popToMarker_spec (ys acc rest : List Int) (h : ∀ y ∈ ys, isU y = false) :
    popToMarker (ys ++ UNDEF :: rest) acc = (ys.reverse ++ acc, rest) := by
  induction ys generalizing acc with
  | nil => simp [popToMarker]
  | cons y ys ih =>
    have hy : isU y = false := h y (by simp)
    simp only [List.cons_append, popToMarker, hy, Bool.false_eq_true, if_false]
    rw [ih (y :: acc) (fun z hz => h z (by simp [hz]))]
    simp

theorem popToMarker_set (ws : List Int) (h : ∀ w ∈ ws, isU w = false) (qw : Int) (st : List Int) :
    popToMarker ((ws.reverse ++ ([UNDEF] ++ [qw])) ++ st) [] = (ws, qw :: st) := by
  have := popToMarker_spec ws.reverse [] (qw :: st) (fun y hy => h y (by simpa using hy))
  simpa using this

/-- the stack the compiler builds for OP_OF, OP_OF_PERCENT, OP_OF_FOUND_IN, OP_OF_FOUND_AT: quantifier word, marker, members (bracketed as `Runs.seq` leaves it) -/
theorem step_of_set (env : Env) (rules : Bool) (ws : List Int) (h : ∀ w ∈ ws, isU w = false) (qw : Int)
    (pc : Nat) (st mem : List Int) (its : List Iter) :
    step env (.of_ rules) ⟨pc, (ws.reverse ++ ([UNDEF] ++ [qw])) ++ st, mem, its⟩ =
      some ⟨pc + 1, ofResult qw (if rules then ws.countP (fun v => v != 0)
                                 else ws.countP fun sv => !(matchesOfStr env sv).isEmpty) ws.length :: st, mem, its⟩ := by
  simp only [step, popToMarker_set ws h]

theorem step_ofPercent_set (env : Env) (rules : Bool) (ws : List Int) (h : ∀ w ∈ ws, isU w = false) (qw : Int)
    (pc : Nat) (st mem : List Int) (its : List Iter) :
    step env (.ofPercent rules) ⟨pc, (ws.reverse ++ ([UNDEF] ++ [qw])) ++ st, mem, its⟩ =
      some ⟨pc + 1, pctResult qw (if rules then ws.countP (fun v => v != 0)
                                  else ws.countP fun sv => !(matchesOfStr env sv).isEmpty) ws.length :: st, mem, its⟩ := by
  simp only [step, popToMarker_set ws h]

theorem step_ofFoundIn_set (env : Env) (ws : List Int) (h : ∀ w ∈ ws, isU w = false) (qw lo hi : Int)
    (pc : Nat) (st mem : List Int) (its : List Iter) :
    step env .ofFoundIn ⟨pc, ([hi] ++ ([lo] ++ (ws.reverse ++ ([UNDEF] ++ [qw])))) ++ st, mem, its⟩ =
      some ⟨pc + 1, (if isU lo || isU hi then UNDEF else
        ofResult qw (ws.countP fun sv => (matchesOfStr env sv).any (inRange lo hi)) ws.length) :: st, mem, its⟩ := by
  show step env .ofFoundIn ⟨pc, hi :: lo :: ((ws.reverse ++ ([UNDEF] ++ [qw])) ++ st), mem, its⟩ = _
  simp only [step, popToMarker_set ws h]
  split <;> rfl

theorem step_ofFoundAt_set (env : Env) (ws : List Int) (h : ∀ w ∈ ws, isU w = false) (qw x : Int)
    (pc : Nat) (st mem : List Int) (its : List Iter) :
    step env .ofFoundAt ⟨pc, ([x] ++ (ws.reverse ++ ([UNDEF] ++ [qw]))) ++ st, mem, its⟩ =
      some ⟨pc + 1, (if isU x then UNDEF else
        ofResult qw (ws.countP fun sv => (matchesOfStr env sv).any fun m => m.1 == x) ws.length) :: st, mem, its⟩ := by
  show step env .ofFoundAt ⟨pc, x :: ((ws.reverse ++ ([UNDEF] ++ [qw])) ++ st), mem, its⟩ = _
  simp only [step, popToMarker_set ws h]
  split <;> rfl

theorem Runs.flatMap {α : Type} (g : α → List Instr) (w : α → Int)
    (xs : List α) (h : ∀ x ∈ xs, Runs env code (g x) c l pure [w x]) :
    Runs env code (xs.flatMap g) c l pure (xs.map w).reverse := by
  induction xs with
  | nil => exact Runs.nil env code c l pure
  | cons x xs ih =>
    have := Runs.seq (h x (by simp)) (ih fun y hy => h y (by simp [hy]))
    simpa using this

theorem runs_strset (set : List Nat) :
    Runs env code (set.map fun n => Instr.push (encStr n)) c l pure (set.map encStr).reverse := by
  rw [List.map_eq_flatMap]
  exact Runs.flatMap _ _ set fun _ _ => Runs.push1 _ _ (fun _ _ _ _ _ => rfl)

/-- the word OP_PUSH_RULE pushes -/
def ruleWord (env : Env) (k : Nat) : Int := if env.disabled.contains k then UNDEF else b2i (env.rules.getD k false)

theorem ruleWord_or (env : Env) (prim : String → List Int → Int) (k : Nat) :
    vmBin prim .OP_OR (ruleWord env k) 0 = b2i (env.ruleMatched k) := by
  unfold ruleWord Env.ruleMatched
  by_cases hd : env.disabled.contains k = true
  · simp only [hd, if_true, Bool.not_true, Bool.and_false]
    rfl
  · have hd' : env.disabled.contains k = false := by simpa using hd
    simp only [hd', Bool.false_eq_true, if_false, Bool.not_false, Bool.and_true]
    cases env.rules.getD k false <;> rfl

/-- a rule-set member `PUSH_RULE k; PUSH 0; OR` leaves 0/1: the rule matched (a disabled rule: 0, never the end-of-set marker) -/
theorem runs_ruleMember (k : Nat) :
    Runs env code (ruleMember k) c l pure [b2i (env.ruleMatched k)] := by
  have h1 : Runs env code [Instr.pushRule k] c l pure [ruleWord env k] := Runs.push1 _ _ (fun _ _ _ _ _ => rfl)
  have h2 : Runs env code [Instr.push 0] c l pure [0] := Runs.push1 _ _ (fun _ _ _ _ _ => rfl)
  have := Runs.op (.bin .OP_OR) _ _ (Runs.seq h1 h2) (fun _ _ _ _ => rfl)
  exact Runs.val1 (ruleWord_or env _ k) (by simpa [ruleMember] using this)

theorem runs_ruleset (set : List Nat) :
    Runs env code (set.flatMap ruleMember) c l pure (set.map fun k => b2i (env.ruleMatched k)).reverse :=
  Runs.flatMap _ _ set fun k _ => runs_ruleMember k

end YaraModel.CondCompile
