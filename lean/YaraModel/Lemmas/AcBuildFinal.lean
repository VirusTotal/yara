/- Aho-Corasick construction: on the packed tables of the built automaton the lookup loop computes the longest path-suffix, so
   the certificate facts `Cert` hold and the scan is, as a sequence, `expectedScan` -/
import YaraModel.Lemmas.AcBuildTable
import YaraModel.Lemmas.AcCertLemmas
namespace YaraModel.AC.Build
open YaraModel.Text

/-- everything known about the result of `compile (addAtoms atoms)`. `A`: the automaton after the optimisation (paths, links, match
    lists); `P.A` is `A` but for the slots (`I4.frame`) -/
structure Built (atoms : List (Nat × Atom)) (A : Auto) (P : Pack) (ord : List Nat) : Prop where
  i3 : I3 A atoms
  order : OrderOK A ord
  i4 : I4 A P (0 :: ord)

theorem Built.trie {atoms : List (Nat × Atom)} {A : Auto} {P : Pack} {ord : List Nat} (h : Built atoms A P ord) : Trie A := h.i3.mf.trie

theorem compile_built {atoms : List (Nat × Atom)} (hbt : ∀ a ∈ atoms, a.2.bytes = [] → a.2.backtrack = 0) :
    ∃ A ord, Built atoms A (compile (addAtoms atoms)) ord := by
  have h1 := addAtoms_P1 atoms
  have s2 := createFailureLinks_same (addAtoms atoms)
  have h2 := createFailureLinks_I2 h1 hbt
  have h3 := optimizeFailureLinks_I3 (I3_of_I2 h2)
  have hz : ((optimizeFailureLinks (createFailureLinks (addAtoms atoms))).st 0).slot = 0 := by
    rw [(optimizeFailureLinks_same _).slot, s2.slot]; exact h1.root_slot
  obtain ⟨ord, ho, h4⟩ := buildTransitionTable_I4 h3 hz
  exact ⟨_, ord, ⟨h3, ho, h4⟩⟩

variable {atoms : List (Nat × Atom)} {A : Auto} {P : Pack} {ord : List Nat}

def tablesOf (P : Pack) : Tables := { t := P.t, m := P.m, pool := P.A.pool }

def slotPaths (A : Auto) (P : Pack) : List (Nat × Bytes) :=
  (List.range A.states.size).map fun x => ((P.A.st x).slot, (A.st x).path)

theorem mem_slotPaths {sp : Nat × Bytes} : sp ∈ slotPaths A P ↔ ∃ x, x < A.states.size ∧ sp = ((P.A.st x).slot, (A.st x).path) := by
  simp [slotPaths, eq_comm]

theorem slotPaths_snd : (slotPaths A P).map (·.2) = pathsOf A := by
  simp [slotPaths, pathsOf]

theorem build_eq_some {T : Tables} (hb : build atoms = some T) :
    (compile (addAtoms atoms)).ok = true ∧ T = tablesOf (compile (addAtoms atoms)) := by
  unfold build at hb
  simp only at hb
  split at hb
  · rename_i hok; exact ⟨hok, (Option.some.inj hb).symm⟩
  · cases hb

theorem Built.all_placed (h : Built atoms A P ord) (x : Nat) (hx : x < A.states.size) : x ∈ 0 :: ord :=
  List.mem_cons.mpr ((Nat.eq_zero_or_pos x).imp id (fun e => h.order.complete x e hx))

theorem Built.ord_le (h : Built atoms A P ord) : ord.length ≤ P.t.size := by
  have h1 : (ord.map fun x => (P.A.st x).slot).Nodup := by
    unfold List.Nodup
    rw [List.pairwise_map]
    refine List.Pairwise.imp_of_mem ?_ h.order.nodup
    intro a b ha hb hab e
    exact hab (h.i4.inj a b (List.mem_cons_of_mem _ ha) (List.mem_cons_of_mem _ hb) (h.order.range a ha).2 (h.order.range b hb).2 e)
  have h2 := nodup_length_le P.t.size _ h1 (by
    intro v hv
    obtain ⟨x, hx, rfl⟩ := List.mem_map.mp hv
    have := (h.i4.hdr x (List.mem_cons_of_mem _ hx) (h.order.range x hx).2).room
    omega)
  simpa using h2

theorem Built.fuel (h : Built atoms A P ord) (x : Nat) (hx : x < A.states.size) : (A.st x).depth < fuelOf (tablesOf P) := by
  have := h.order.long x hx
  have := h.ord_le
  unfold fuelOf tablesOf
  simp only
  omega

theorem delta_succ (T : Tables) (fuel state index : Nat) :
    delta T (fuel + 1) state index =
      if invalid (tAt T (state + index)) index = false then nextOf (tAt T (state + index))
      else if state = 0 then 0 else delta T fuel (nextOf (tAt T state)) index := by
  simp only [delta]
  cases invalid (tAt T (state + index)) index with
  | false => simp
  | true => simp

theorem Built.delta_spec (h : Built atoms A P ord) (hok : P.ok = true) (c : UInt8) : ∀ (fuel x : Nat), x < A.states.size →
    (A.st x).depth < fuel →
    ∃ y, y < A.states.size ∧ delta (tablesOf P) fuel (P.A.st x).slot (c.toNat + 1) = (P.A.st y).slot ∧
      (A.st y).path = lsuf (pathsOf A) ((A.st x).path ++ [c]) := by
  have hT := h.trie
  have htAt : ∀ i, tAt (tablesOf P) i = P.t.getD i 0 := fun _ => rfl
  intro fuel
  induction fuel with
  | zero => intro x _ hd; omega
  | succ fuel ih =>
    intro x hx hd
    have hhx := h.all_placed x hx
    rw [delta_succ]
    rw [← Nat.add_assoc, htAt, htAt]
    cases hn : nextState A x c with
    | some y =>
      obtain ⟨hy, hi⟩ := nextState_some hn
      have hylt := hT.child_lt x hx y hy
      obtain ⟨e1, e2, e3⟩ := h.i4.entry x hhx hx y hy
      rw [hi] at e2
      have hyo := h.all_placed y hylt.2
      rw [if_pos hyo] at e2
      have hsl := (h.i4.hdr y hyo hylt.2).small hok
      have hlt : c.toNat + 1 < 512 := by have := c.toNat_lt; omega
      have hv : invalid (mkTransition (P.A.st y).slot (c.toNat + 1)) (c.toNat + 1) = false := by
        rw [invalid_false_iff]; exact low9_mk_byte _ c
      rw [e2, if_pos hv]
      refine ⟨y, hylt.2, nextOf_mk _ _ hsl hlt, ?_⟩
      have hp := hT.child_path x hx y hy
      rw [hi] at hp
      rw [← hp]
      exact (lsuf_of_mem _ _ (mem_pathsOf.mpr ⟨y, hylt.2, rfl⟩)).symm
    | none =>
      have hno := nextState_none hn
      have hinv := h.i4.noentry x hhx hx c hno
      have hv : ¬ invalid (P.t.getD ((P.A.st x).slot + c.toNat + 1) 0) (c.toNat + 1) = false := by
        rw [invalid_false_iff]; exact hinv
      rw [if_neg hv]
      by_cases hx0 : x = 0
      · subst hx0
        rw [h.i4.root_slot, if_pos rfl]
        refine ⟨0, hx, h.i4.root_slot.symm, ?_⟩
        have hnp := hT.not_path_of_no_child hx hno
        rw [hT.root_path] at hnp ⊢
        rw [List.nil_append] at hnp ⊢
        rw [lsuf_of_not_mem _ _ _ hnp]; rfl
      · have hh := h.i4.hdr x hhx hx
        rw [if_neg (hh.nonzero hx0)]
        obtain ⟨f1, f2, f3⟩ := h.i3.fail x (by omega) hx
        have hfs := (h.i4.hdr _ (h.all_placed _ f1) f1).small hok
        rw [hh.t, nextOf_mk _ _ hfs (by omega)]
        obtain ⟨y, hy1, hy2, hy3⟩ := ih (A.st x).failure f1 (by omega)
        refine ⟨y, hy1, hy2, ?_⟩
        rw [hy3]
        exact f3 c hno

theorem entries_spec (T : Tables) : ∀ (l : List Nat) (r fuel : Nat), ChainSeg T.pool r l 0 → l.length < fuel →
    entries T fuel r = l.map fun e => ((T.pool.getD e (0, 0, 0)).1, (T.pool.getD e (0, 0, 0)).2.1) := by
  intro l
  induction l with
  | nil =>
    intro r fuel hc hl
    subst hc
    cases fuel with
    | zero => simp at hl
    | succ f => simp [entries]
  | cons e l ih =>
    intro r fuel hc hl
    obtain ⟨hr, he, hc'⟩ := hc
    cases fuel with
    | zero => simp at hl
    | succ f =>
      simp only [entries]
      rw [hr]
      simp only [Nat.add_one_ne_zero, if_false, Nat.add_sub_cancel]
      have hget : T.pool[e]? = some (T.pool.getD e (0, 0, 0)) := by
        simp [Array.getElem?_eq_getElem he]
      rw [hget]
      simp only [List.map_cons]
      congr 1
      exact ih _ f hc' (by simpa using hl)

theorem Built.ref_le (h : Built atoms A P ord) (x : Nat) (hx : x < A.states.size) : (A.st x).matchesRef ≤ atoms.length := by
  have hc := h.i3.mf.chain x hx
  cases hl : specList atoms (A.st x).path with
  | nil => rw [hl] at hc; simp only [ChainSeg] at hc; omega
  | cons e l => rw [hl] at hc; simp only [ChainSeg] at hc; have := h.i3.mf.pool_size; omega

theorem Built.entries_eq (h : Built atoms A P ord) (hlen : atoms.length < 2 ^ 32) (x : Nat) (hx : x < A.states.size) :
    entries (tablesOf P) (fuelOf (tablesOf P)) ((tablesOf P).m.getD (P.A.st x).slot 0).toNat =
      (specList atoms (A.st x).path).map fun e => ((A.pool.getD e (0, 0, 0)).1, (A.pool.getD e (0, 0, 0)).2.1) := by
  have hm : ((tablesOf P).m.getD (P.A.st x).slot 0).toNat = (A.st x).matchesRef := by
    show (P.m.getD (P.A.st x).slot 0).toNat = _
    rw [(h.i4.hdr x (h.all_placed x hx) hx).m, UInt32.toNat_ofNat']
    have := h.ref_le x hx
    exact Nat.mod_eq_of_lt (by omega)
  have hpool : (tablesOf P).pool = A.pool := h.i4.pool_eq
  rw [hm, entries_spec (tablesOf P) _ _ _ (by rw [hpool]; exact h.i3.mf.chain x hx) (by
    have := specList_length_le atoms (A.st x).path
    unfold fuelOf; rw [hpool, h.i3.mf.pool_size]; omega), hpool]

theorem Built.cert (h : Built atoms A P ord) (hok : P.ok = true) (hlen : atoms.length < 2 ^ 32) :
    Cert (tablesOf P) atoms (slotPaths A P) := by
  have hT := h.trie
  have hms := h.i3.mf
  constructor
  · exact mem_slotPaths.mpr ⟨0, hT.size_pos, by rw [h.i4.root_slot, hT.root_path]⟩
  · intro sp hsp
    obtain ⟨x, hx, rfl⟩ := mem_slotPaths.mp hsp
    rw [slotPaths_snd]
    rcases Nat.eq_zero_or_pos x with e | e
    · subst e; exact Or.inl hT.root_path
    · right
      obtain ⟨p, hp1, hp2⟩ := hT.has_parent x e hx
      rw [hT.child_path p hp1 x hp2, List.dropLast_concat]
      exact mem_pathsOf.mpr ⟨p, hp1, rfl⟩
  · intro sp hsp c hc
    obtain ⟨x, hx, rfl⟩ := mem_slotPaths.mp hsp
    rw [slotPaths_snd]
    have hcn : (UInt8.ofNat c).toNat = c := by
      rw [UInt8.toNat_ofNat']; omega
    obtain ⟨y, hy1, hy2, hy3⟩ := h.delta_spec hok (UInt8.ofNat c) (fuelOf (tablesOf P)) x hx (h.fuel x hx)
    rw [hcn] at hy2
    exact mem_slotPaths.mpr ⟨y, hy1, by rw [hy2, hy3]⟩
  · intro sp hsp e
    obtain ⟨x, hx, rfl⟩ := mem_slotPaths.mp hsp
    rw [h.entries_eq hlen x hx]
    simp only [List.mem_map, List.mem_filter, List.isSuffixOf_iff_suffix]
    constructor
    · rintro ⟨i, hi, rfl⟩
      obtain ⟨a, ha, hs⟩ := (mem_specList _).mp hi
      obtain ⟨nx, hnx⟩ := hms.pool_info i a ha
      refine ⟨a, ⟨List.mem_of_getElem? ha, hs⟩, ?_⟩
      simp [hnx]
    · rintro ⟨a, ⟨ha, hs⟩, rfl⟩
      obtain ⟨i, hi⟩ := List.getElem?_of_mem ha
      obtain ⟨nx, hnx⟩ := hms.pool_info i a hi
      refine ⟨i, (mem_specList _).mpr ⟨a, hi, hs⟩, ?_⟩
      simp [hnx]
  · intro sa hsa
    rw [slotPaths_snd]
    obtain ⟨s, hs, hp⟩ := hms.atoms_in sa hsa
    exact mem_pathsOf.mpr ⟨s, hs, hp⟩

theorem filterMap_congr_mem {α β : Type} (l : List α) (f g : α → Option β) (h : ∀ x ∈ l, f x = g x) :
    l.filterMap f = l.filterMap g := by
  induction l with
  | nil => rfl
  | cons a l ih =>
    simp only [List.filterMap_cons, h a List.mem_cons_self, ih (fun x hx => h x (List.mem_cons_of_mem _ hx))]

theorem Built.report_eq (h : Built atoms A P ord) (hlen : atoms.length < 2 ^ 32) (x : Nat) (hx : x < A.states.size) (i : Nat) :
    report (tablesOf P) (P.A.st x).slot i = (specList atoms (A.st x).path).filterMap (candOf atoms i) := by
  unfold report
  rw [h.entries_eq hlen x hx, List.filterMap_map]
  apply filterMap_congr_mem
  intro e he
  obtain ⟨a, ha, _⟩ := (mem_specList _).mp he
  obtain ⟨nx, hnx⟩ := h.i3.mf.pool_info e a ha
  simp only [Function.comp, candOf, ha, Array.getD_eq_getD_getElem?, hnx, Option.getD_some]

/-- position by position the certificate says which state the scan is in (`Cert.run_root`), and `report_eq` what is reported there -/
theorem Built.scan_eq (h : Built atoms A P ord) (hok : P.ok = true) (hlen : atoms.length < 2 ^ 32) (buf : Bytes) :
    scan (tablesOf P) buf = expectedScan atoms buf := by
  simp only [scan, scanFrom_eq_reports, expectedScan]
  rw [List.flatMap_def, List.flatMap_def]
  refine congrArg _ (List.map_congr_left fun k hk => ?_)
  obtain ⟨x, hx, he⟩ := mem_slotPaths.mp ((h.cert hok hlen).run_root (buf.take k))
  rw [slotPaths_snd, Prod.mk.injEq] at he
  rw [he.1, h.report_eq hlen x hx, ← he.2, ← specList_lsuf (atoms_in_paths h.i3.mf.atoms_in)]
  simp [expectedSeq, Nat.min_eq_left (Nat.lt_succ_iff.mp (List.mem_range.mp hk))]

end YaraModel.AC.Build
