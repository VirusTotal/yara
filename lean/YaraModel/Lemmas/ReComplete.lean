/-
  VM completeness, executable side: the model of `yr_re_exec` (Model/ReVm.lean `exec`: the fiber list, its de-duplication,
  `_yr_re_fiber_sync`, the per-position pass) loses no accepting path of stopped fibers (as `sync` returns them, on a non-control
  instruction; not the `Stopped` of Lemmas/ReVm.lean) — provided the run ends without an error (`exec e = .done ..`: no fiber
  explosion, no fuel error) and is not in scan mode.
-/
import YaraModel.Lemmas.ReVm
namespace YaraModel.ReVm

/-- accepting path of `n` consuming steps from a stopped fiber.  The letters: `AccN` from a stopped fiber; `AccU` (below) from a fiber
    still Unsynced, for a top-level sync call; `AccE` (Lemmas/ReCompleteSF) from an unsynced fiber for a sync call under any Executed-split
    set with ids below a bound (`AccE.top : AccE → AccU`).  Zero-width instructions are not steps (the fragment of
    ReCompleteSF has none) -/
def AccN (e : Env) : Nat → Fiber → Nat → Prop
  | 0, f, _ => u8 e.code f.ip = OP_MATCH
  | n + 1, f, bm => isConsuming (u8 e.code f.ip) = true ∧ consumeOk e bm f = true ∧
      ∀ F l a ex', sync e.code F [] (advance e.code f) = some (l, a, ex') → ∃ g, g ∈ l ∧ AccN e n g (bm + e.cs)

def AccU (e : Env) (n : Nat) (f : Fiber) (bm : Nat) : Prop :=
  ∀ F l a ex', sync e.code F [] f = some (l, a, ex') → ∃ g, g ∈ l ∧ AccN e n g bm

/-- what a pass that ends in `st'` has done for the fiber `f` of its list: at MATCH the result is set (and the position
    reported when exhaustive); the successors of an accepted consuming fiber are kept — unless a fiber of higher priority
    stood at MATCH in non-exhaustive mode (KILL_TAIL), and then the result is set as well -/
def Handled (e : Env) (bm : Nat) (st' : PassSt) (f : Fiber) : Prop :=
  (e.fl.exhaustive = false ∧ 0 ≤ st'.mval) ∨
  ((u8 e.code f.ip = OP_MATCH → 0 ≤ st'.mval ∧ (e.fl.exhaustive = true → bm ∈ st'.calls)) ∧
   (isConsuming (u8 e.code f.ip) = true → consumeOk e bm f = true →
      ∃ l a ex', sync e.code e.syncFuel [] (advance e.code f) = some (l, a, ex') ∧ ∀ g ∈ l, g ∈ st'.kept))

theorem pass_keeps (e : Env) (bm fuel : Nat) (fs : List Fiber) (st st' : PassSt) :
    pass e bm fuel fs st = some st' →
    (∀ x ∈ st.calls, x ∈ st'.calls) ∧ (0 ≤ st.mval → 0 ≤ st'.mval) ∧ (∀ g ∈ st.kept, g ∈ st'.kept) ∧
    ∀ f ∈ fs, Handled e bm st' f := by
  have hbm : (0 : Int) ≤ (bm : Int) := Int.natCast_nonneg bm
  have nm : ∀ {f : Fiber}, isConsuming (u8 e.code f.ip) = true → u8 e.code f.ip ≠ OP_MATCH :=
    fun hc hm => by rw [hm] at hc; exact absurd hc (by decide)
  -- the branches of the `while (fiber != NULL)` loop, in the order of `pass`: 1 no fuel, 2 list empty; a consuming instruction:
  -- 3 sync out of fuel, 4 accepted, 5 rejected; MATCH: 6 exhaustive, 7 not (KILL_TAIL); zero-width: 8 sync out of fuel, 9 holds, 10 fails
  fun_induction pass e bm fuel fs st with
  | case1 | case3 | case8 => exact fun h => nomatch h
  | case2 => intro h; cases h; exact ⟨fun _ hx => hx, id, fun _ hg => hg, fun _ hf => nomatch hf⟩
  | case4 fuel f rest st op hc hok l a ex hs ih =>
    intro h
    obtain ⟨r1, r2, r3, r4⟩ := ih h
    exact ⟨r1, r2, fun g hg => r3 g (List.mem_append_left _ hg), List.forall_mem_cons.2
      ⟨.inr ⟨fun hm => absurd hm (nm hc), fun _ _ => ⟨l, a, ex, hs, fun g hg => r3 g (List.mem_append_right _ hg)⟩⟩, r4⟩⟩
  | case5 fuel f rest st op hc hok ih =>
    intro h
    obtain ⟨r1, r2, r3, r4⟩ := ih h
    exact ⟨r1, r2, r3, List.forall_mem_cons.2 ⟨.inr ⟨fun hm => absurd hm (nm hc), fun _ h2 => absurd h2 hok⟩, r4⟩⟩
  | case6 fuel f rest st op hc hm st1 hx ih =>
    intro h
    obtain ⟨r1, r2, r3, r4⟩ := ih h
    exact ⟨fun x hx' => r1 x (List.mem_append_left _ hx'), fun _ => r2 hbm, r3, List.forall_mem_cons.2
      ⟨.inr ⟨fun _ => ⟨r2 hbm, fun _ => r1 bm (List.mem_append_right _ (List.mem_singleton.2 rfl))⟩, fun h1 => absurd h1 hc⟩, r4⟩⟩
  | case7 fuel f rest st op hc hm st1 hx =>
    intro h
    obtain rfl := Option.some.inj h
    exact ⟨fun _ hx' => hx', fun _ => hbm, fun _ hg => hg, fun _ _ => .inl ⟨by simpa using hx, hbm⟩⟩
  | case9 fuel f rest st op hc hm hz l a ex hs ih =>
    intro h
    obtain ⟨r1, r2, r3, r4⟩ := ih h
    exact ⟨r1, r2, r3, List.forall_mem_cons.2
      ⟨.inr ⟨fun h1 => absurd h1 hm, fun h1 => absurd h1 hc⟩, fun f' hf' => r4 f' (List.mem_append_right _ hf')⟩⟩
  | case10 fuel f rest st op hc hm hz ih =>
    intro h
    obtain ⟨r1, r2, r3, r4⟩ := ih h
    exact ⟨r1, r2, r3, List.forall_mem_cons.2 ⟨.inr ⟨fun h1 => absurd h1 hm, fun h1 => absurd h1 hc⟩, r4⟩⟩

theorem loop_reports (e : Env) (hs : e.fl.scan = false) (fuel : Nat) (fibers : List Fiber) (bm : Nat)
    (mval : Int) (calls : List Nat) (m : Int) (c : List Nat) : loop e fuel fibers bm mval calls = .done m c →
    (∀ x ∈ calls, x ∈ c) ∧ (0 ≤ mval → 0 ≤ m) ∧
    ∀ n f, f ∈ fibers → AccN e n f bm → 0 ≤ m ∧ (e.fl.exhaustive = true → (bm + n * e.cs) ∈ c) := by
  -- `loop`: 1 no fuel, 2 no fiber left, 3 too many fibers, 4 pass out of fuel, 5 / 6 scan mode, 7 the next position
  fun_induction loop e fuel fibers bm mval calls with
  | case1 | case3 | case4 => exact fun h => nomatch h
  | case2 fuel fibers bm mval calls hemp =>
    intro h
    cases h
    rw [List.isEmpty_iff] at hemp
    exact ⟨fun x hx' => hx', id, fun n f hf => by rw [hemp] at hf; cases hf⟩
  | case5 fuel fibers bm mval calls _ _ st hp bm' hscan | case6 fuel fibers bm mval calls _ _ st hp bm' hscan =>
    rw [hs] at hscan
    cases hscan
  | case7 fuel fibers bm mval calls _ _ st hp bm' _ ih =>
    intro h
    obtain ⟨p1, p2, p3, p4⟩ := pass_keeps e bm 4000 _ _ st hp
    obtain ⟨i1, i2, i3⟩ := ih h
    refine ⟨fun x hx' => i1 x (p1 x hx'), fun h0 => i2 (p2 h0), ?_⟩
    intro n f hf hacc
    rcases p4 f ((mem_dedup fibers []).2 (.inl hf)) with ⟨hx, q0⟩ | ⟨q1, q2⟩
    · exact ⟨i2 q0, fun hx' => by rw [hx] at hx'; cases hx'⟩
    · cases n with
      | zero =>
        obtain ⟨q0, qc⟩ := q1 hacc
        exact ⟨i2 q0, fun hx => by simpa using i1 bm (qc hx)⟩
      | succ k =>
        obtain ⟨a1, a2, a3⟩ := hacc
        obtain ⟨l, a, ex', hsy, hkept⟩ := q2 a1 a2
        obtain ⟨g, hg, hgacc⟩ := a3 _ _ _ _ hsy
        have e1 : bm + e.cs + k * e.cs = bm + (k + 1) * e.cs := by rw [Nat.add_mul]; omega
        rw [← e1]
        exact i3 k g (hkept g hg) hgacc

theorem exec_reports (e : Env) (hs : e.fl.scan = false) (m : Int) (c : List Nat)
    (h : exec e = .done m c) (n : Nat) (hacc : AccU e n { ip := e.entry } 0) : 0 ≤ m ∧ (e.fl.exhaustive = true → n * e.cs ∈ c) := by
  unfold exec at h
  split at h
  · cases h
  · rename_i l a ex hsy
    obtain ⟨g, hg, hga⟩ := hacc _ _ _ _ hsy
    simpa using (loop_reports e hs _ l 0 (-1) [] m c h).2.2 n g hg hga

end YaraModel.ReVm
