/-
  Soundness of the hex-string scan model (Model/ReScan.lean) for one block: whatever candidates the automaton reports —
  any list whose entries point to the code positions of atom nodes of the pattern, or the zero-length atom — every
  (offset, length) that reaches the match list is a match of the pattern.
-/
import YaraModel.Model.ReScan
import YaraModel.Lemmas.ReAtomEntry
import YaraModel.Lemmas.ReEmit
import YaraModel.Lemmas.ReChain
namespace YaraModel.ReScan
open YaraModel.Re YaraModel.ReVm YaraModel.ReEmit

def CandOK (r : Re) (c : Cand) : Prop :=
  (c.fwd = 0 ∧ c.bwd = none) ∨ ∃ ctx y, AtomLeaf y ∧ HexCtx ctx ∧ ctx.fill y = r ∧ c.fwd = holePos ctx 0 ∧ c.bwd = some (bwdPos y ctx 0)

theorem mem_verifyOne {r : Re} {buf : Bytes} {fl : VmFlags} {fuel : Nat} {c : Cand} {x : Nat × Nat} :
    x ∈ verifyOne r buf fl fuel c ↔ ∃ m cl,
      exec { code := (emitCode false r).toArray, entry := c.fwd, buf := buf, start := c.off, fl := fwdFlags fl, syncFuel := fuel } = .done m cl ∧
      0 ≤ m ∧ ((c.bwd = none ∧ x = (c.off, m.toNat)) ∨ ∃ b m2 calls lb, c.bwd = some b ∧
        exec { code := (emitCode true r).toArray, entry := b, buf := buf, start := c.off, fl := bwdFlags fl, syncFuel := fuel } = .done m2 calls ∧
        lb ∈ calls ∧ x = (c.off - lb, lb + m.toNat)) := by
  unfold verifyOne
  constructor
  · intro hx
    split at hx
    · rename_i m cl hfw
      split at hx
      · cases hx
      · refine ⟨m, cl, hfw, by omega, ?_⟩
        split at hx
        · rename_i hb
          exact .inl ⟨hb, List.mem_singleton.1 hx⟩
        · rename_i b hb
          split at hx
          · rename_i m2 calls hbw
            obtain ⟨lb, hlb, rfl⟩ := List.mem_map.1 hx
            exact .inr ⟨b, m2, calls, lb, hb, hbw, hlb, rfl⟩
          · cases hx
    · cases hx
  · rintro ⟨m, cl, hfw, hm, h⟩
    rw [hfw]
    simp only
    rw [if_neg (by omega)]
    rcases h with ⟨hb, rfl⟩ | ⟨b, m2, calls, lb, hb, hbw, hlb, rfl⟩
    · rw [hb]; exact List.mem_singleton.2 rfl
    · rw [hb]
      simp only
      rw [hbw]
      exact List.mem_map.2 ⟨lb, hlb, rfl⟩

theorem verifyOne_sound (r : Re) (hwf : WF r) (hszf : (emit false r 0).1.length < 32000) (hszb : (emit true r 0).1.length < 32000)
    (buf : Bytes) (fl : VmFlags) (fuel : Nat) (c : Cand) (hc : CandOK r c) (ho : c.off ≤ buf.size) :
    ∀ x ∈ verifyOne r buf fl fuel c, Re.Matches (specFlagsG fl) buf r x.1 (x.1 + x.2) := by
  intro x hx
  obtain ⟨m, cl, hfw, hm0, hx⟩ := mem_verifyOne.1 hx
  obtain ⟨f, b, o⟩ := c
  rcases hc with ⟨rfl, rfl⟩ | ⟨ctx, y, hy, hctx, rfl, rfl, rfl⟩
  · obtain ⟨_, rfl⟩ | ⟨_, _, _, _, ⟨⟩, _⟩ := hx
    obtain ⟨s0, _, _, k3, k4⟩ := (vm_sound_fwd r hwf hszf buf o ho (fwdFlags fl) rfl (fun hh => by simp [fwdFlags] at hh) fuel m cl hfw).2 hm0
    rw [k3 rfl] at k4
    exact k4
  · obtain ⟨⟨⟩, _⟩ | ⟨_, m2, calls, lb, ⟨⟩, hbw, hlb, rfl⟩ := hx
    obtain ⟨e, k1, k2⟩ := (vm_sound_from_atom_fwd ctx hctx y hy hszf buf o ho (fwdFlags fl) rfl rfl fuel m cl hfw).2 hm0
    obtain ⟨k3, k4⟩ := (vm_sound_from_atom_bwd ctx hctx y hy hszb buf o ho (bwdFlags fl) rfl rfl fuel m2 calls hbw).1 lb hlb
    have := through_sound ctx y _ _ ⟨o, o + e, k4, k1, k2⟩
    rwa [show o + m.toNat = o - lb + (lb + m.toNat) by omega] at this

theorem scanHex_eq (r : Re) (buf : Bytes) (fl : VmFlags) (fuel : Nat) (cands : List Cand) :
    scanHex r buf fl fuel cands =
      (cands.flatMap (verifyOne r buf fl fuel)).foldl (fun acc m => YaraModel.ReChain.addConfirmed m.1 m.2 acc) [] := by
  unfold scanHex
  rw [List.foldl_flatMap]

theorem mem_scanHex {r : Re} {buf : Bytes} {fl : VmFlags} {fuel : Nat} {cands : List Cand} {x : Nat × Nat}
    (h : x ∈ scanHex r buf fl fuel cands) : ∃ c ∈ cands, x ∈ verifyOne r buf fl fuel c := by
  rw [scanHex_eq] at h
  rcases YaraModel.ReChain.foldl_addConfirmed_mem Prod.fst Prod.snd _ [] x h with h | ⟨m, hm, rfl⟩
  · cases h
  · exact List.mem_flatMap.1 hm

theorem scanHex_sound (r : Re) (hwf : WF r) (hszf : (emit false r 0).1.length < 32000) (hszb : (emit true r 0).1.length < 32000)
    (buf : Bytes) (fl : VmFlags) (fuel : Nat) (cands : List Cand) (hc : ∀ c ∈ cands, CandOK r c ∧ c.off ≤ buf.size) :
    ∀ x ∈ scanHex r buf fl fuel cands, Re.Matches (specFlagsG fl) buf r x.1 (x.1 + x.2) := by
  intro x hx
  obtain ⟨c, hcm, hv⟩ := mem_scanHex hx
  exact verifyOne_sound r hwf hszf hszb buf fl fuel c (hc c hcm).1 (hc c hcm).2 x hv

end YaraModel.ReScan
