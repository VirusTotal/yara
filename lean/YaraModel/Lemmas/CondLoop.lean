/- Loops.  First, as pure list reasoning: what the loop protocol of the VM (ITER_CONDITION / ADD_M / INCR_M / ITER_END with
   short-circuit exit) leaves (`loopGo_spec`; that it is the word of the specification's quantifier over the body results is
   `loop_protocol`, in CondExec).  Then the loop template of grammar.y executed on the VM model: `loop_exec` (the rounds), `runs_loop`
   (the whole template).  1152921504606846976 = 2^60. -/
import YaraModel.Lemmas.CondCompile
namespace YaraModel.CondCompile
open YaraModel.C YaraModel.Cond YaraModel.CondVm

/-- what the loop leaves in M[f] (true count) and M[f+1] (iterations) after the body words `rs`, started from `t`, `n` -/
def loopGo (qw : Int) : List Int → Int → Int → Int × Int
  | [], t, n => (t, n)
  | r :: rs, t, n =>
    if contWord qw t r then loopGo qw rs (if isU r then t else C.add t r) (C.add n 1)
    else (if isU r then t else C.add t r, C.add n 1)

def ones (rs : List Int) : Nat := rs.countP (· == 1)

def BoolWords (rs : List Int) : Prop := ∀ r ∈ rs, r = 0 ∨ r = 1 ∨ r = UNDEF

theorem ones_cons (r : Int) (rs : List Int) : ones (r :: rs) = ones rs + (if r = 1 then 1 else 0) := by
  unfold ones
  by_cases h : r = 1 <;> simp [h]

theorem add_counter_one (n : Nat) (h : n < 1152921504606846976) : C.add (n : Int) 1 = ((n + 1 : Nat) : Int) := by
  rw [C.add_exact (by unfold C.inRange INT64_MIN INT64_MAX; omega)]
  rfl

/-- ITER_CONDITION adds the body word to the true-count before it tests, also an undefined one (the raw sentinel): no wrap-around -/
theorem add_bodyWord (t : Nat) (r : Int) (hr : r = 0 ∨ r = 1 ∨ r = UNDEF) (ht : t < 1152921504606846976) :
    C.add (t : Int) r = (t : Int) + r :=
  C.add_exact (by
    have : UNDEF = -1483400188077313 := rfl
    unfold C.inRange INT64_MIN INT64_MAX
    omega)

/-- ADD_M skips an undefined body word: M[f] counts the true bodies -/
theorem addM_bodyWord (t : Nat) (r : Int) (hr : r = 0 ∨ r = 1 ∨ r = UNDEF) (ht : t < 1152921504606846976) :
    (if isU r then (t : Int) else C.add t r) = ((t + if r = 1 then 1 else 0 : Nat) : Int) := by
  rw [add_bodyWord t r hr ht]
  rcases hr with rfl | rfl | rfl <;> simp [isUndef, UNDEF] <;> omega

/-- when ITER_CONDITION ends the loop early, the remaining bodies (`k` true ones among `m`) cannot change what ITER_END says -/
theorem stop_ok (qw r : Int) (hr : r = 0 ∨ r = 1 ∨ r = UNDEF) (t n k m : Nat) (htn : t ≤ n) (hk : k ≤ m)
    (ht : t < 1152921504606846976) (hc : contWord qw (t : Int) r = false) :
    ofResult qw (t + if r = 1 then 1 else 0) (n + 1) = ofResult qw ((t + if r = 1 then 1 else 0) + k) (n + 1 + m) := by
  have ha := add_bodyWord t r hr ht
  have u0 : (UNDEF != 0) = true := by decide
  have u1 : (UNDEF != 1) = true := by decide
  have une : UNDEF ≠ 1 := by decide
  have uneg : UNDEF < 0 := by decide
  unfold contWord at hc
  unfold ofResult
  by_cases hu : isU qw = true
  · -- `all`: stopped by a false body, so not all were true
    simp only [hu, if_true] at hc ⊢
    rcases hr with rfl | rfl | rfl <;> simp [u0] at hc ⊢
    have h1 : ¬ (n + 1 ≤ t) := by omega
    have h2 : ¬ (n + 1 + m ≤ t + k) := by omega
    simp [h1, h2]
  · by_cases h0 : qw = 0
    · -- `none`: stopped by a true body
      subst h0
      simp only [hu, beq_self_eq_true, if_true] at hc ⊢
      rcases hr with rfl | rfl | rfl <;> simp [u1] at hc ⊢
      exact congrArg b2i (beq_eq_false_iff_ne.mpr (by omega)).symm
    · -- at least `qw`: stopped because the count has reached `qw`
      have h0' : (qw == 0) = false := by simp [h0]
      simp only [hu, h0', ha, Bool.false_eq_true] at hc ⊢
      rcases hr with rfl | rfl | rfl <;> simp [une] at hc ⊢
      all_goals exact congrArg b2i (decide_eq_decide.mpr (by omega))

/-- the counters the loop rounds leave make ITER_END say what it would say had every body been evaluated
    (third conjunct: for ITER_END's `n = 0` branch) -/
theorem loopGo_spec (qw : Int) (rs : List Int) (hrs : BoolWords rs) (t n : Nat) (htn : t ≤ n)
    (hb : n + rs.length < 1152921504606846976) :
    ∃ t' n' : Nat, loopGo qw rs t n = ((t' : Int), (n' : Int)) ∧ t' ≤ n' ∧ (n' = 0 ↔ n = 0 ∧ rs = []) ∧
      ofResult qw t' n' = ofResult qw (t + ones rs) (n + rs.length) := by
  induction rs generalizing t n with
  | nil => exact ⟨t, n, rfl, htn, by simp, rfl⟩
  | cons r rs ih =>
    have hr := hrs r (by simp)
    simp only [List.length_cons] at hb
    have ht1 := addM_bodyWord t r hr (by omega)
    have hn1 := add_counter_one n (by omega)
    have hle : (if r = 1 then 1 else 0) ≤ 1 := by split <;> omega
    have hol : ones rs ≤ rs.length := List.countP_le_length
    have e1 : t + (if r = 1 then 1 else 0) + ones rs = t + (ones rs + if r = 1 then 1 else 0) := by omega
    have e2 : n + 1 + rs.length = n + (rs.length + 1) := by omega
    simp only [loopGo, ht1, hn1, ones_cons, List.length_cons]
    by_cases hc : contWord qw (t : Int) r = true
    · obtain ⟨t', n', h1, h2, h3, h4⟩ := ih (fun x hx => hrs x (by simp [hx])) (t + if r = 1 then 1 else 0) (n + 1) (by omega) (by omega)
      refine ⟨t', n', by simpa [hc] using h1, h2, by simp at h3 ⊢; omega, ?_⟩
      rw [h4, e1, e2]
    · simp only [hc, Bool.false_eq_true, if_false]
      refine ⟨_, n + 1, rfl, by omega, by simp, ?_⟩
      rw [stop_ok qw r hr t n (ones rs) rs.length htn hol (by omega) (by simpa using hc), e1, e2]

theorem endWord_ofResult (qw : Int) (t n : Nat) (h : t ≤ n) :
    endWord qw t n = if n = 0 then 0 else ofResult qw t n := by
  unfold endWord ofResult
  by_cases hn : n = 0
  · simp [hn]
  · have e1 : (((t : Int) == (n : Int)) = decide (t ≥ n)) := by
      rw [Bool.beq_eq_decide_eq]; exact decide_eq_decide.mpr (by omega)
    have e2 : (((t : Int) == 0) = (t == 0)) := by
      rw [Bool.beq_eq_decide_eq, Bool.eq_iff_iff]; simp
    simp [hn, e1, e2]

theorem getM_setM_same (m : List Int) (k : Nat) (v : Int) (h : k < m.length) : getM (setM m k v) k = v := by
  simp [getM, setM, h]

theorem getM_setM_ne (m : List Int) (k j : Nat) (v : Int) (h : j ≠ k) : getM (setM m k v) j = getM m j := by
  simp only [getM, setM, List.getD_eq_getElem?_getD]
  rw [List.getElem?_set_ne (by omega)]

theorem length_setM (m : List Int) (k : Nat) (v : Int) : (setM m k v).length = m.length := by
  simp [setM]

theorem agree_setM (lo : Nat) (m : List Int) (k : Nat) (v : Int) (h : lo ≤ k) : Agree lo (setM m k v) m :=
  ⟨fun j hj => getM_setM_ne m k j v (by omega), length_setM m k v⟩

/-- `iterAdvance` hands out exactly `ws`, then `none` -/
inductive Yields : Iter → List Int → Prop
  | done (it : Iter) (h : iterAdvance it = none) : Yields it []
  | more (it it' : Iter) (w : Int) (ws : List Int) (h : iterAdvance it = some (w, it')) (ht : Yields it' ws) :
      Yields it (w :: ws)

theorem yields_list (items : List Int) (k : Nat) : Yields (.list items k) (items.drop k) := by
  by_cases hk : k < items.length
  · have hd : items.drop k = items[k] :: items.drop (k + 1) := (List.drop_eq_getElem_cons hk)
    rw [hd]
    refine Yields.more _ (.list items (k + 1)) _ _ ?_ (yields_list items (k + 1))
    simp [iterAdvance, hk]
  · have hd : items.drop k = [] := List.drop_eq_nil_of_le (by omega)
    rw [hd]
    apply Yields.done
    simp [iterAdvance, List.getElem?_eq_none (by omega : items.length ≤ k)]
termination_by items.length - k

def rangeWords (a b : Int) : List Int := (List.range (b - a + 1).toNat).map fun (i : Nat) => a + (i : Int)

theorem rangeWords_cons (a b : Int) (h : a ≤ b) : rangeWords a b = a :: rangeWords (a + 1) b := by
  unfold rangeWords
  have : (b - a + 1).toNat = (b - (a + 1) + 1).toNat + 1 := by omega
  rw [this, List.range_succ_eq_map]
  simp only [List.map_cons, List.map_map, Int.natCast_zero, Int.add_zero, List.cons.injEq, true_and]
  apply List.map_congr_left
  intro i _
  simp only [Function.comp, Nat.succ_eq_add_one, Int.natCast_add, Int.natCast_one]
  omega

theorem rangeWords_nil (a b : Int) (h : b < a) : rangeWords a b = [] := by
  unfold rangeWords
  have : (b - a + 1).toNat = 0 := by omega
  simp [this]

theorem yields_range_undef (a b : Int) (h : isU a = true ∨ isU b = true) : Yields (.range a b) [] := by
  apply Yields.done
  simp only [isU_eq] at h
  rcases h with h | h <;> simp [iterAdvance, h]

theorem yields_range (a b : Int) (hb : b ≤ INT64_MAX) (hlo : INT64_MIN ≤ a)
    (hs : ∀ i, a ≤ i → i ≤ b → i ≠ UNDEF) :
    Yields (.range a b) (rangeWords a b) := by
  by_cases hab : a ≤ b
  · rw [rangeWords_cons a b hab]
    have ha := isUndef_of_ne (hs a (by omega) hab)
    have hbb := isUndef_of_ne (hs b hab (Int.le_refl b))
    by_cases hmax : a = INT64_MAX
    · -- the last representable value: the iterator is marked exhausted instead of wrapping around
      have hnil : rangeWords (a + 1) b = [] := rangeWords_nil _ _ (by omega)
      rw [hnil]
      refine Yields.more _ (.range UNDEF b) _ _ ?_ (yields_range_undef _ _ (Or.inl (by decide)))
      have h1 : isUndef INT64_MAX = false := by decide
      have h2 : INT64_MAX ≤ b := by omega
      simp [iterAdvance, hbb, hmax, h1, h2]
    · have hadd : C.add a 1 = a + 1 :=
        C.add_exact (by unfold C.inRange; unfold INT64_MAX at hb hmax ⊢; unfold INT64_MIN at hlo ⊢; omega)
      have hne : (a == INT64_MAX) = false := by simp [hmax]
      refine Yields.more _ (.range (a + 1) b) _ _ ?_ (yields_range (a + 1) b hb (by omega) (fun i h1 h2 => hs i (by omega) h2))
      simp [iterAdvance, ha, hbb, hab, hadd, hne]
  · rw [rangeWords_nil a b (by omega)]
    apply Yields.done
    simp only [iterAdvance]
    have : ¬ (a ≤ b) := hab
    simp [this]
termination_by (b - a + 1).toNat
decreasing_by omega

theorem step_iterNext_some (env : Env) (pre post : List Iter) (it it' : Iter) (w : Int) (pc : Nat) (st mem : List Int)
    (ha : iterAdvance it = some (w, it')) :
    step env .iterNext ⟨pc, encIt pre.length :: st, mem, pre ++ it :: post⟩ =
      some ⟨pc + 1, w :: 0 :: encIt pre.length :: st, mem, pre ++ it' :: post⟩ := by
  simp [step, decIt_encIt, ha]

theorem step_iterNext_none (env : Env) (pre post : List Iter) (it : Iter) (pc : Nat) (st mem : List Int)
    (ha : iterAdvance it = none) :
    step env .iterNext ⟨pc, encIt pre.length :: st, mem, pre ++ it :: post⟩ =
      some ⟨pc + 1, UNDEF :: 1 :: encIt pre.length :: st, mem, pre ++ it :: post⟩ := by
  simp [step, decIt_encIt, ha]

/-- `frag`, none of whose instructions jumps, takes `s` to `s'` -/
inductive Block (env : Env) : List Instr → St → St → Prop
  | nil (s : St) : Block env [] s s
  | cons {i : Instr} {is : List Instr} {s s1 s' : St} (h : step env i s = some s1) (hpc : s1.pc = s.pc + 1)
      (ht : Block env is s1 s') : Block env (i :: is) s s'

theorem Block.steps {env : Env} {code frag : List Instr} {s s' : St} (hb : Block env frag s s')
    (hc : CodeAt code s.pc frag) : Steps env code s s' := by
  induction hb with
  | nil s => exact Steps.refl env code s
  | cons h hpc _ ih => exact Steps.trans (Steps.one hc.head h) (ih (hpc ▸ hc.tail))

/- a round = head, body, tail (`roundCode` below); `L` = pc of ITER_NEXT, `f` = frame -/

theorem round_head {env : Env} {code : List Instr} {L f : Nat} {d : Int}
    (hc : CodeAt code L [.iterNext, .popM (f + 3), .jtrueP d]) (pre post : List Iter) (it it' : Iter) (w : Int) (st mem : List Int)
    (ha : iterAdvance it = some (w, it')) :
    Steps env code ⟨L, encIt pre.length :: st, mem, pre ++ it :: post⟩
      ⟨L + 3, encIt pre.length :: st, setM mem (f + 3) w, pre ++ it' :: post⟩ :=
  (Block.cons (step_iterNext_some env pre post it it' w L st mem ha) rfl (.cons rfl rfl (.cons rfl rfl (.nil _)))).steps hc

theorem round_exit {env : Env} {code : List Instr} {L f : Nat} {d : Int}
    (hc : CodeAt code L [.iterNext, .popM (f + 3), .jtrueP d]) (pre post : List Iter) (it : Iter) (st mem : List Int)
    (ha : iterAdvance it = none) :
    Steps env code ⟨L, encIt pre.length :: st, mem, pre ++ it :: post⟩
      ⟨jump (L + 2) d, encIt pre.length :: st, setM mem (f + 3) UNDEF, pre ++ it :: post⟩ :=
  Steps.trans ((Block.cons (step_iterNext_none env pre post it L st mem ha) rfl (.cons rfl rfl (.nil _))).steps
      (show CodeAt code L ([.iterNext, .popM (f + 3)] ++ [.jtrueP d]) from hc).left)
    (Steps.one (s := ⟨L + 2, 1 :: encIt pre.length :: st, setM mem (f + 3) UNDEF, pre ++ it :: post⟩) hc.tail.tail.head rfl)

/-- the three internal slots of the loop with frame `f`: true count, iterations, quantifier word -/
structure Frame (f : Nat) (m : List Int) (t n qw : Int) : Prop where
  t : getM m f = t
  n : getM m (f + 1) = n
  q : getM m (f + 2) = qw

theorem Frame.agree {f : Nat} {m m' : List Int} {t n qw : Int} (h : Frame f m t n qw) (a : Agree (f + 3) m' m) : Frame f m' t n qw :=
  ⟨(a.1 f (by omega)).trans h.t, (a.1 (f + 1) (by omega)).trans h.n, (a.1 (f + 2) (by omega)).trans h.q⟩

theorem Frame.setT {f : Nat} {m : List Int} {t n qw : Int} (h : Frame f m t n qw) (v : Int) (hl : f < m.length) :
    Frame f (setM m f v) v n qw :=
  ⟨getM_setM_same _ _ _ hl, (getM_setM_ne _ _ _ _ (by omega)).trans h.n, (getM_setM_ne _ _ _ _ (by omega)).trans h.q⟩

theorem Frame.setN {f : Nat} {m : List Int} {t n qw : Int} (h : Frame f m t n qw) (v : Int) (hl : f + 1 < m.length) :
    Frame f (setM m (f + 1) v) t v qw :=
  ⟨(getM_setM_ne _ _ _ _ (by omega)).trans h.t, getM_setM_same _ _ _ hl, (getM_setM_ne _ _ _ _ (by omega)).trans h.q⟩

theorem Frame.setQ {f : Nat} {m : List Int} {t n qw : Int} (h : Frame f m t n qw) (v : Int) (hl : f + 2 < m.length) :
    Frame f (setM m (f + 2) v) t n v :=
  ⟨(getM_setM_ne _ _ _ _ (by omega)).trans h.t, (getM_setM_ne _ _ _ _ (by omega)).trans h.n, getM_setM_same _ _ _ hl⟩

theorem round_tail {env : Env} {code : List Instr} {pc f : Nat} {d : Int}
    (hc : CodeAt code pc [.incrM (f + 1), .pushM f, .pushM (f + 2), .iterCondition, .addM f, .jtrueP d])
    (w : Int) (st m : List Int) (its : List Iter) (hlen : f + 3 < m.length) {t n qw : Int} (hF : Frame f m t n qw) :
    ∃ m', Steps env code ⟨pc, w :: st, m, its⟩ ⟨if contWord qw t (normW w) then jump (pc + 5) d else pc + 6, st, m', its⟩ ∧
      Agree f m' m ∧ Frame f m' (if isU (normW w) then t else C.add t (normW w)) (C.add n 1) qw := by
  obtain ⟨rfl, rfl, rfl⟩ := hF
  let m1 := setM m (f + 1) (C.add (getM m (f + 1)) 1)
  have F1 : Frame f m1 (getM m f) (C.add (getM m (f + 1)) 1) (getM m (f + 2)) := Frame.setN ⟨rfl, rfl, rfl⟩ _ (by omega)
  have a1 : Agree f m1 m := agree_setM f m (f + 1) _ (by omega)
  let go := contWord (getM m1 (f + 2)) (getM m1 f) (normW w)
  let m2 := if isU (normW w) then m1 else setM m1 f (C.add (getM m1 f) (normW w))
  have sA : Steps env code ⟨pc, w :: st, m, its⟩ ⟨pc + 5, b2i go :: st, m2, its⟩ :=
    (Block.cons rfl rfl (.cons rfl rfl (.cons rfl rfl (.cons rfl rfl (.cons rfl rfl (.nil _)))))).steps
      (show CodeAt code pc ([.incrM (f + 1), .pushM f, .pushM (f + 2), .iterCondition, .addM f] ++ [.jtrueP d]) from hc).left
  have sB := Steps.one (env := env) (s := ⟨pc + 5, b2i go :: st, m2, its⟩) hc.tail.tail.tail.tail.tail.head rfl
  have hgo : (!isU (b2i go) && b2i go != 0) = go := by cases go <;> rfl
  rw [hgo] at sB
  refine ⟨m2, by simpa only [go, F1.t, F1.q] using Steps.trans sA sB, ?_⟩
  simp only [m2, F1.t]
  split
  · exact ⟨a1, F1⟩
  · exact ⟨(agree_setM f m1 f _ (Nat.le_refl f)).trans a1, F1.setT _ (by rw [a1.2]; omega)⟩

theorem Frame.setM_above {f k : Nat} {m : List Int} {t n qw v : Int} (h : Frame f m t n qw) (hk : f + 3 ≤ k) : Frame f (setM m k v) t n qw :=
  h.agree ((agree_setM (f + 3) m k v hk))

/-- memory unchanged, one iterator appended (it yields `ws`), its handle pushed -/
def InitRuns (env : Env) (code : List Instr) (c : Ctx) (l : LEnv) (init : List Instr) (ws : List Int) : Prop :=
  ∀ pc st mem its, CodeAt code pc init → MemInv c l mem → mem.length = 20 →
    ∃ it, Yields it ws ∧ Steps env code ⟨pc, st, mem, its⟩ ⟨pc + init.length, encIt its.length :: st, mem, its ++ [it]⟩

def roundCode (body : List Instr) (f : Nat) : List Instr :=
  [.iterNext, .popM (f + 3), .jtrueP ((body.length : Int) + 7)] ++ body ++
  [.incrM (f + 1), .pushM f, .pushM (f + 2), .iterCondition, .addM f, .jtrueP (-((body.length : Int) + 8))]

/-- **the loop rounds**: from the ITER_NEXT at `L`, with M[f] = t, M[f+1] = n, M[f+2] = quantifier word and an iterator
    that still yields the words `word x` of the items `x` of `rest`, the VM reaches the epilogue (`L + |body| + 9`) with M[f],
    M[f+1] as `loopGo` says of the body words `nb x` (what ITER_CONDITION makes of the word the body leaves for `x`), whether
    the iterator is exhausted or ITER_CONDITION stops the loop early.  The body runs in `c'`, one level deeper, and `l' x`,
    which `hin` establishes once `word x` is in M[f+3]. -/
theorem loop_exec {α : Type} (env : Env) (code : List Instr) (c : Ctx) (l : LEnv) (body : List Instr) (f L : Nat) (word nb : α → Int)
    (hf : f = 4 * c.vars.length) (hf20 : f + 3 < 20)
    (hcode : CodeAt code L (roundCode body f)) (qw : Int) (pre : List Iter)
    (c' : Ctx) (l' : α → LEnv) (hc' : 4 * c'.vars.length = f + 4)
    (hin : ∀ x mem, MemInv c l mem → getM mem (f + 3) = word x → MemInv c' (l' x) mem) :
    ∀ (rest : List α), (∀ x ∈ rest, ∃ w, Runs env code body c' (l' x) false [w] ∧ normW w = nb x) →
    ∀ (st mem : List Int) (it : Iter) (post : List Iter) (t n : Int),
      MemInv c l mem → mem.length = 20 → Yields it (rest.map word) → Frame f mem t n qw →
      ∃ mem' it' post', Steps env code ⟨L, encIt pre.length :: st, mem, pre ++ it :: post⟩
          ⟨L + body.length + 9, encIt pre.length :: st, mem', pre ++ it' :: post'⟩ ∧
        Agree f mem' mem ∧ Frame f mem' (loopGo qw (rest.map nb) t n).1 (loopGo qw (rest.map nb) t n).2 qw := by
  have hH : CodeAt code L [.iterNext, .popM (f + 3), .jtrueP ((body.length : Int) + 7)] := hcode.left.left
  have hT : CodeAt code (L + 3 + body.length)
      [.incrM (f + 1), .pushM f, .pushM (f + 2), .iterCondition, .addM f, .jtrueP (-((body.length : Int) + 8))] := by
    have h := hcode.right
    rwa [show L + ([Instr.iterNext, .popM (f + 3), .jtrueP ((body.length : Int) + 7)] ++ body).length = L + 3 + body.length by
      simp; omega] at h
  intro rest
  induction rest with
  | nil =>
    intro _ st mem it post t n hP hlen hy hF
    have hadv : iterAdvance it = none := by cases hy with | done _ h => exact h
    have s := round_exit (env := env) hH pre post it st mem hadv
    rw [jump_eq (n := L + body.length + 9) (by omega)] at s
    exact ⟨_, it, post, s, agree_setM f mem (f + 3) UNDEF (by omega), hF.setM_above (Nat.le_refl _)⟩
  | cons p rest ih =>
    intro hbody st mem it post t n hP hlen hy hF
    obtain ⟨it', hadv, hy'⟩ : ∃ it', iterAdvance it = some (word p, it') ∧ Yields it' (rest.map word) := by
      simp only [List.map_cons] at hy
      cases hy with | more _ it' _ _ h ht => exact ⟨it', h, ht⟩
    have s1 := round_head (env := env) hH pre post it it' (word p) st mem hadv
    have a1 : Agree (f + 3) (setM mem (f + 3) (word p)) mem := agree_setM _ _ _ _ (Nat.le_refl _)
    obtain ⟨w, hr, hnw⟩ := hbody p (by simp)
    obtain ⟨m2, ext, sb, ab, _⟩ := hr (L + 3) (encIt pre.length :: st) _ (pre ++ it' :: post) hcode.left.right
      (hin p _ (hP.stable (hf ▸ a1.mono (by omega))) (getM_setM_same _ _ _ (by omega))) (a1.2.trans hlen)
    rw [hc'] at ab
    rw [List.append_assoc, List.cons_append] at sb
    have a2 : Agree (f + 3) m2 mem := (ab.mono (by omega)).trans a1
    obtain ⟨m3, s3, a3, hF3⟩ := round_tail (env := env) hT w (encIt pre.length :: st) m2 (pre ++ it' :: (post ++ ext))
      (by rw [a2.2, hlen]; exact hf20) (hF.agree a2)
    rw [hnw] at s3 hF3
    have a4 : Agree f m3 mem := a3.trans (a2.mono (by omega))
    by_cases hc : contWord qw t (nb p) = true
    · rw [if_pos hc, jump_eq (n := L) (by omega)] at s3
      obtain ⟨m5, it5, post5, s10, a5, hF5⟩ :=
        ih (fun q hq => hbody q (by simp [hq])) st m3 it' _ _ _ (hP.stable (hf ▸ a4)) (a4.2.trans hlen) hy' hF3
      exact ⟨m5, it5, post5, Steps.trans s1 (Steps.trans sb (Steps.trans s3 s10)), a5.trans a4,
        by simpa only [List.map_cons, loopGo, hc, if_true] using hF5⟩
    · rw [if_neg hc, show L + 3 + body.length + 6 = L + body.length + 9 by omega] at s3
      exact ⟨m3, it', _, Steps.trans s1 (Steps.trans sb s3), a4,
        by simpa only [List.map_cons, loopGo, hc, Bool.false_eq_true, if_false] using hF3⟩

/-- after CLEAR_M f, CLEAR_M f+1, POP_M f+2 -/
theorem Frame.init (f : Nat) (m : List Int) (qw : Int) (h : f + 2 < m.length) :
    Frame f (setM (setM (setM m f 0) (f + 1) 0) (f + 2) qw) 0 0 qw :=
  (((Frame.mk rfl rfl rfl : Frame f m _ _ _).setT 0 (by omega)).setN 0 (by rw [length_setM]; omega)).setQ qw
    (by rw [length_setM, length_setM]; exact h)

theorem loopCode_eq (q init body : List Instr) (f : Nat) :
    loopCode q init body f =
      ((q ++ [.clearM f, .clearM (f + 1), .popM (f + 2)]) ++ init) ++ roundCode body f ++
        [.pop, .pushM (f + 1), .pushM f, .pushM (f + 2), .iterEnd] := by
  simp [loopCode, roundCode]

theorem runs_loop {α : Type} (env : Env) (code : List Instr) (c : Ctx) (l : LEnv) (q init body : List Instr) (f : Nat)
    (hf : f = 4 * c.vars.length) (hf20 : f + 3 < 20) (qw : Int) (hq : Runs env code q c l true [qw])
    (vals : List α) (word nb : α → Int)
    (hinit : InitRuns env code c l init (vals.map word))
    (c' : Ctx) (l' : α → LEnv) (hc' : 4 * c'.vars.length = f + 4)
    (hin : ∀ x mem, MemInv c l mem → getM mem (f + 3) = word x → MemInv c' (l' x) mem)
    (hbody : ∀ x ∈ vals, ∃ w, Runs env code body c' (l' x) false [w] ∧ normW w = nb x) :
    Runs env code (loopCode q init body f) c l false
      [endWord qw (loopGo qw (vals.map nb) 0 0).1 (loopGo qw (vals.map nb) 0 0).2] := by
  intro pc st mem its hc hP hlen
  rw [loopCode_eq] at hc ⊢
  have hci := hc.left.left.right
  have hcr := hc.left.right
  have hce := hc.right
  simp only [List.length_append, List.length_cons, List.length_nil] at hci hcr hce ⊢
  -- quantifier (pure), then CLEAR_M f, CLEAR_M f+1, POP_M f+2
  obtain ⟨m1, e1, s1, _, p1⟩ := hq pc st mem its hc.left.left.left.left hP hlen
  obtain ⟨rfl, rfl⟩ := p1 rfl
  simp only [List.append_nil] at s1
  let m2 := setM (setM (setM m1 f 0) (f + 1) 0) (f + 2) qw
  have s2 : Steps env code ⟨pc + q.length, [qw] ++ st, m1, its⟩ ⟨pc + q.length + 3, st, m2, its⟩ :=
    (Block.cons rfl rfl (.cons rfl rfl (.cons rfl rfl (.nil _)))).steps hc.left.left.left.right
  have a2 : Agree f m2 m1 :=
    (agree_setM f _ (f + 2) qw (by omega)).trans ((agree_setM f _ (f + 1) 0 (by omega)).trans (agree_setM f _ f 0 (Nat.le_refl f)))
  have hlen2 : m2.length = 20 := a2.2.trans hlen
  have hP2 : MemInv c l m2 := hP.stable (hf ▸ a2)
  obtain ⟨it, hy, s5⟩ := hinit (pc + (q.length + 3)) st m2 its hci hP2 hlen2
  rw [show pc + (q.length + 3) + init.length = pc + (q.length + 3 + init.length) by omega] at s5
  obtain ⟨m5, it5, post5, s6, a5, hF5⟩ :=
    loop_exec env code c l body f (pc + (q.length + 3 + init.length)) word nb hf hf20 hcr qw its c' l' hc' hin
      vals hbody st m2 it [] 0 0 hP2 hlen2 hy (Frame.init f m1 qw (by omega))
  -- epilogue: POP, PUSH_M f+1, PUSH_M f, PUSH_M f+2, ITER_END
  have s7 : Steps env code ⟨pc + (q.length + 3 + init.length) + body.length + 9, encIt its.length :: st, m5, its ++ it5 :: post5⟩
      ⟨pc + (q.length + 3 + init.length) + body.length + 9 + 5,
        endWord (getM m5 (f + 2)) (getM m5 f) (getM m5 (f + 1)) :: st, m5, its ++ it5 :: post5⟩ :=
    (Block.cons rfl rfl (.cons rfl rfl (.cons rfl rfl (.cons rfl rfl (.cons rfl rfl (.nil _)))))).steps
      (by simpa [roundCode, Nat.add_assoc, Nat.add_comm, Nat.add_left_comm] using hce)
  refine ⟨m5, it5 :: post5, ?_, hf ▸ a5.trans a2, fun h => by cases h⟩
  rw [← hF5.t, ← hF5.n, ← hF5.q]
  have hall := Steps.trans s1 (Steps.trans s2 (Steps.trans s5 (Steps.trans s6 s7)))
  simpa [roundCode, Nat.add_assoc, Nat.add_comm, Nat.add_left_comm] using hall
end YaraModel.CondCompile
