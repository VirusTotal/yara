/-
  Invariant of the output-mutex model (Model/CliOutput.lean): while every print happens inside a block,
  the chunks of each block are adjacent in the stream.
-/
import YaraModel.Model.CliOutput
import YaraModel.Base.List
namespace YaraModel.CliOut
open List (getElem?_set_cases forall_set forall_set_of_ne)
variable {χ : Type}

theorem contig_between {i k : Nat} {out : List (Entry χ)} (h : Contig i k out) {p q r : Nat} {e₁ e₂ e₃ : Entry χ}
    (hpq : p ≤ q) (hqr : q ≤ r) (hp : out[p]? = some e₁) (hq : out[q]? = some e₂) (hr : out[r]? = some e₃)
    (t₁ : tagIs i k e₁) (t₃ : tagIs i k e₃) : tagIs i k e₂ := by
  obtain ⟨l1, seg, l2, rfl, hseg, hl1, hl2⟩ := h
  have h1 : l1.length ≤ p := Nat.le_of_not_lt fun hlt => by
    rw [List.append_assoc, List.getElem?_append_left hlt] at hp
    exact hl1 e₁ (List.mem_of_getElem? hp) t₁
  have h3 : r < (l1 ++ seg).length := Nat.lt_of_not_le fun hle => by
    rw [List.getElem?_append_right hle] at hr
    exact hl2 e₃ (List.mem_of_getElem? hr) t₃
  rw [List.getElem?_append_left (by omega), List.getElem?_append_right (by omega)] at hq
  exact hseg e₂ (List.mem_of_getElem? hq)

/-- The inductive invariant behind `output_atomic`; `C` is the property itself, the other fields make it inductive. -/
structure Inv (s : St χ) : Prop where
  /-- lock: `output_mutex` is held by exactly the thread that is inside a block -/
  L : ∀ (i : Nat) (th : Th χ), s.ths[i]? = some th → (th.inside.isSome = true ↔ s.lock = some i)
  /-- block numbers: every chunk printed so far belongs to a block its thread has already started -/
  B : ∀ e ∈ s.out, ∃ k, e.blk = some k ∧ ∀ (th : Th χ), s.ths[e.tid]? = some th → k < th.next
  /-- the block in progress: it is the thread's latest, and its chunks so far are the end of the stream -/
  D : ∀ (i : Nat) (th : Th χ) (k : Nat) (r : List χ), s.ths[i]? = some th → th.inside = some (k, r) →
        k + 1 = th.next ∧ ∃ l1 seg, s.out = l1 ++ seg ∧ (∀ e ∈ seg, tagIs i k e) ∧ (∀ e ∈ l1, ¬ tagIs i k e)
  C : ∀ (i k : Nat), Contig i k s.out
  N : ∀ th ∈ s.ths, ∀ it ∈ th.prog, ∃ cs, it = Item.block cs

theorem inv_init (progs : List (List (Item χ))) (hn : NoLoose progs) : Inv (init progs) := by
  have hnone : ∀ (i : Nat) (th : Th χ), (init progs).ths[i]? = some th → th.inside = none := fun i th h => by
    obtain ⟨p, _, rfl⟩ := List.mem_map.1 (List.mem_of_getElem? h)
    rfl
  refine ⟨fun i th h => ?_, nofun, fun i th k r h hin => ?_, fun i k => ⟨[], [], [], rfl, nofun, nofun, nofun⟩, ?_⟩
  · rw [hnone i th h]
    exact ⟨nofun, nofun⟩
  · rw [hnone i th h] at hin
    cases hin
  · intro th hth it hit
    obtain ⟨p, hp, rfl⟩ := List.mem_map.1 hth
    exact hn p hp it hit

theorem not_inside {s : St χ} (h : Inv s) {j : Nat} {th : Th χ} (hj : s.ths[j]? = some th) (hl : s.lock ≠ some j) :
    th.inside = none := by
  cases hin : th.inside with
  | none => rfl
  | some p => exact absurd ((h.L j th hj).1 (by rw [hin]; rfl)) hl

/-- What `B` says of an entry survives a step of thread `i` that does not lower its block counter. -/
theorem entry_bound_set {ths : List (Th χ)} {i : Nat} {th th' : Th χ} (hi : ths[i]? = some th) (hn : th.next ≤ th'.next)
    {e : Entry χ} (he : ∃ k, e.blk = some k ∧ ∀ t, ths[e.tid]? = some t → k < t.next) :
    ∃ k, e.blk = some k ∧ ∀ t, (ths.set i th')[e.tid]? = some t → k < t.next := by
  obtain ⟨k, hk, hlt⟩ := he
  refine ⟨k, hk, fun t ht => ?_⟩
  rcases getElem?_set_cases ht with ⟨e1, rfl⟩ | ⟨_, ht'⟩
  · exact Nat.lt_of_lt_of_le (hlt _ (e1 ▸ hi)) hn
  · exact hlt t ht'

/-- …and `N` one that only consumes its program. -/
theorem no_loose_set {ths : List (Th χ)} {i : Nat} {th th' : Th χ}
    (hN : ∀ t ∈ ths, ∀ it ∈ t.prog, ∃ cs, it = Item.block cs) (hi : ths[i]? = some th)
    (hp : ∀ it ∈ th'.prog, it ∈ th.prog) : ∀ t ∈ ths.set i th', ∀ it ∈ t.prog, ∃ cs, it = Item.block cs := by
  intro t ht it hit
  rcases List.mem_or_eq_of_mem_set ht with hm | rfl
  · exact hN t hm it hit
  · exact hN _ (List.mem_of_getElem? hi) it (hp it hit)

theorem inv_step {s s' : St χ} (h : Inv s) (a : Act) (hs : step s a = some s') : Inv s' := by
  revert hs
  fun_cases step s a <;> intro hs <;> cases hs
  next i k cs rest hl hi =>     -- lock
    refine ⟨?_, fun e he => entry_bound_set hi (Nat.le_succ _) (h.B e he), ?_, h.C,
      no_loose_set h.N hi fun it hit => List.mem_cons_of_mem _ hit⟩
    · exact forall_set_of_ne
        (fun j th hne hj => by simp only [h.L j th hj, hl, Option.some.injEq, hne.symm, reduceCtorEq])
        ⟨fun _ => rfl, fun _ => rfl⟩
    · intro j th k' r hj hin
      rcases getElem?_set_cases hj with ⟨rfl, rfl⟩ | ⟨hne, hj'⟩
      · cases hin
        -- the new block is empty so far, and no entry carries its number yet
        refine ⟨rfl, s.out, [], (List.append_nil _).symm, nofun, fun e he ht => ?_⟩
        obtain ⟨ke, hke, hlt⟩ := h.B e he
        have := hlt _ (ht.1 ▸ hi)
        rw [ht.2] at hke
        cases hke
        exact Nat.lt_irrefl _ this
      · rw [not_inside h hj' (hl ▸ nofun)] at hin
        cases hin
  next i k ch r n p hi =>     -- print
    obtain ⟨hk, l1, seg, ho, hseg, hl1⟩ := h.D i _ k (ch :: r) hi rfl
    have hLi : s.lock = some i := (h.L i _ hi).1 rfl
    -- the printed chunk extends the segment of block `k` of thread `i`, which ends the stream
    have hseg' : ∀ e ∈ seg ++ [⟨i, some k, ch⟩], tagIs i k e := fun e he =>
      (List.mem_append.1 he).elim (hseg e) fun he => List.mem_singleton.1 he ▸ ⟨rfl, rfl⟩
    have hout : s.out ++ [⟨i, some k, ch⟩] = l1 ++ (seg ++ [⟨i, some k, ch⟩]) := by
      rw [ho, List.append_assoc]
    refine ⟨forall_set h.L ⟨fun _ => hLi, fun _ => rfl⟩, ?_, ?_, ?_, no_loose_set h.N hi fun _ hit => hit⟩
    · intro e he
      rcases List.mem_append.1 he with he | he
      · exact entry_bound_set hi (Nat.le_refl n) (h.B e he)
      · cases List.mem_singleton.1 he
        refine ⟨k, rfl, fun th hth => ?_⟩
        rcases getElem?_set_cases hth with ⟨_, rfl⟩ | ⟨hne, _⟩
        · exact hk ▸ Nat.lt_succ_self k
        · exact absurd rfl hne
    · intro j th k' r' hj hin
      rcases getElem?_set_cases hj with ⟨rfl, rfl⟩ | ⟨hne, hj'⟩
      · cases hin
        exact ⟨hk, l1, _, hout, hseg', hl1⟩
      · rw [not_inside h hj' (hLi ▸ fun e => hne (Option.some.inj e).symm)] at hin
        cases hin
    · intro i' k'
      by_cases hik : i' = i ∧ k' = k
      · obtain ⟨rfl, rfl⟩ := hik
        exact ⟨l1, _, [], by rw [hout, List.append_nil], hseg', hl1, nofun⟩
      · obtain ⟨l1', seg', l2, ho', hseg'', hl1', hl2⟩ := h.C i' k'
        refine ⟨l1', seg', l2 ++ [⟨i, some k, ch⟩], by rw [ho', List.append_assoc], hseg'', hl1', fun e he => ?_⟩
        rcases List.mem_append.1 he with he | he
        · exact hl2 e he
        · cases List.mem_singleton.1 he
          exact fun ht => hik ⟨ht.1.symm, (Option.some.inj ht.2).symm⟩
  next i k n p hi =>     -- unlock
    have hLi : s.lock = some i := (h.L i _ hi).1 rfl
    refine ⟨?_, fun e he => entry_bound_set hi (Nat.le_refl n) (h.B e he), ?_, h.C, no_loose_set h.N hi fun _ hit => hit⟩
    · exact forall_set_of_ne
        (fun j th hne hj => by simp only [h.L j th hj, hLi, Option.some.injEq, hne.symm, reduceCtorEq])
        ⟨nofun, nofun⟩
    · intro j th k' r' hj hin
      rcases getElem?_set_cases hj with ⟨_, rfl⟩ | ⟨hne, hj'⟩
      · cases hin
      · rw [not_inside h hj' (hLi ▸ fun e => hne (Option.some.inj e).symm)] at hin
        cases hin
  next i n ch rest hi =>     -- loose
    obtain ⟨cs, hcs⟩ := h.N _ (List.mem_of_getElem? hi) (.loose ch) List.mem_cons_self
    cases hcs

theorem inv_reachable {progs : List (List (Item χ))} {s : St χ} (hn : NoLoose progs) (hr : Reachable progs s) : Inv s := by
  induction hr with
  | init => exact inv_init progs hn
  | step a _ hs ih => exact inv_step ih a hs

end YaraModel.CliOut
