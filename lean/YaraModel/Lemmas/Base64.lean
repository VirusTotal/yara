/- base64: the characters of an encoding that a part of the plaintext determines alone (`kept`); a permutation is `kept` of
   filler ++ string behind the leading characters, which do not depend on the filler -/
import YaraModel.Spec.Base64
namespace YaraModel.B64
open YaraModel.Text

/-- number of characters at the end of `encode s` that depend on what follows `s` (or are padding) -/
def trail0 (n : Nat) : Nat :=
  let pad := if n % 3 = 0 then 0 else 3 - n % 3
  if pad = 0 then 0 else pad + 1

def kept (A s : Bytes) : Bytes := (encode A s).take ((encode A s).length - trail0 s.length)

theorem encode_length (A s : Bytes) : (encode A s).length = 4 * ((s.length + 2) / 3) := by
  fun_induction encode A s with
  | case1 a b c t ih => simp [ih]; omega
  | case2 a b => simp
  | case3 a => simp
  | case4 => simp

theorem trail0_le (A s : Bytes) : trail0 s.length ≤ (encode A s).length := by
  rw [encode_length]; simp only [trail0]; (repeat' split) <;> omega

theorem kept_triple (A : Bytes) (a b c : UInt8) (t : Bytes) : kept A (a :: b :: c :: t) = encode A [a, b, c] ++ kept A t := by
  have ht : trail0 (t.length + 1 + 1 + 1) = trail0 t.length := by
    show trail0 (t.length + 3) = _
    simp only [trail0, Nat.add_mod_right]
  have hle := trail0_le A t
  simp only [kept, encode, List.length_cons, List.cons_append, List.nil_append, ht]
  rw [show (encode A t).length + 1 + 1 + 1 + 1 - trail0 t.length = ((encode A t).length - trail0 t.length) + 1 + 1 + 1 + 1 by omega]
  simp only [List.take_succ_cons]

theorem take_kept_append (A s post : Bytes) : (encode A (s ++ post)).take (kept A s).length = kept A s := by
  fun_induction encode A s with
  | case1 a b c t ih =>
    rw [kept_triple, List.cons_append, List.cons_append, List.cons_append]
    simp only [encode, List.length_cons, List.cons_append, List.nil_append]
    simp only [List.take_succ_cons, ih]
  | case2 a b => cases post <;> simp [kept, encode, trail0]
  | case3 a => rcases post with _ | ⟨_, _ | _⟩ <;> simp [kept, encode, trail0]
  | case4 => simp [kept, trail0, encode]

theorem encode_drop_triples (A : Bytes) (q : Nat) (x y : Bytes) (h : x.length = 3 * q) :
    (encode A (x ++ y)).drop (4 * q) = encode A y := by
  fun_induction encode A x generalizing q with
  | case1 a b c t ih =>
    obtain ⟨q, rfl⟩ : ∃ q', q = q' + 1 := ⟨q - 1, by simp at h; omega⟩
    rw [List.cons_append, List.cons_append, List.cons_append, encode, Nat.mul_succ]
    exact ih q (by simp at h; omega)
  | case2 a b => simp at h; omega
  | case3 a => simp at h; omega
  | case4 =>
    obtain rfl : q = 0 := by simp at h; omega
    rfl

/-- number of leading characters of the encoding that depend on `i` bytes in front of the string -/
def lead (i : Nat) : Nat := if i = 0 then 0 else i + 1

theorem permutation_eq_kept (A s : Bytes) (i : Nat) :
    permutation A s i = (kept A (List.replicate i 65 ++ s)).drop (lead i) := by
  simp only [permutation, kept, lead, List.length_append, List.length_replicate, trail0, List.drop_take, Nat.sub_sub]
  rw [Nat.add_comm]

/-- the (at most two) bytes in front and the first bytes of the string make a full triple, whose characters from `lead` on are
    fixed by the string -/
theorem kept_drop_lead (A r r' s : Bytes) (hl : r.length = r'.length) (h3 : r.length < 3)
    (h1 : ¬ (r.length = 1 ∧ s.length = 1)) :
    (kept A (r ++ s)).drop (lead r.length) = (kept A (r' ++ s)).drop (lead r.length) := by
  match r, r', hl, h3, s, h1 with
  | [], [], _, _, _, _ => rfl
  | [x], [x'], _, _, [], _ => simp [kept, encode, trail0, lead]
  | [x, y], [x', y'], _, _, [], _ => simp [kept, encode, trail0, lead]
  | [x], [x'], _, _, b :: c :: u, _ =>
    simp only [List.cons_append, List.nil_append, kept_triple, lead, List.length_cons, List.length_nil, encode,
      List.drop_succ_cons, List.drop_zero, Nat.zero_add, Nat.reduceAdd, Nat.reduceEqDiff, if_false]
  | [x], [x'], _, _, [b], h => exact absurd ⟨rfl, rfl⟩ h
  | [x, y], [x', y'], _, _, c :: u, _ =>
    simp only [List.cons_append, List.nil_append, kept_triple, lead, List.length_cons, List.length_nil, encode,
      List.drop_succ_cons, List.drop_zero, Nat.zero_add, Nat.reduceAdd, Nat.reduceEqDiff, if_false]

theorem alignment_rest (A r s post : Bytes) (h3 : r.length < 3) (h1 : ¬ (r.length = 1 ∧ s.length = 1)) :
    ((encode A (r ++ s ++ post)).drop (lead r.length)).take (permutation A s r.length).length = permutation A s r.length := by
  rw [permutation_eq_kept, ← kept_drop_lead A r _ s (by simp) h3 h1, List.length_drop, ← List.drop_take, take_kept_append]

end YaraModel.B64
