/-
  From expressions to code shapes: `lower r` is the shape of the code `_yr_re_emit` writes for `r` — counted repeats
  `e{n,m}` become  prolog `e` · loop `e{min',max'}` · `e?` / epilog `e`  by the emit table of re.c (every row).
  Then `emit_lower`, the decoding of the emitted bytes (`Sub`, `seg_of_emit`, `emitted_seg`), backward code (`rev`, `emit_rev`, `lowerB_sem`).
-/
import YaraModel.Lemmas.ReIr
import YaraModel.Model.ReEmit
import YaraModel.Lemmas.ReAlgebra
namespace YaraModel.ReEmit
open YaraModel.Re YaraModel.ReVm

/-- the expressions `_yr_re_emit` is given: bounds ordered and inside the 16-bit operands -/
inductive WF : Re → Prop
  | lit (b) : WF (.lit b)
  | masked (v m) : WF (.masked v m)
  | notLit (b) : WF (.notLit b)
  | maskedNot (v m) : WF (.maskedNot v m)
  | any : WF .any
  | cls (bm : Nat) (neg : Bool) : WF (.cls bm neg)
  | wordCh : WF .wordCh
  | nonWordCh : WF .nonWordCh
  | space : WF .space
  | nonSpace : WF .nonSpace
  | digit : WF .digit
  | nonDigit : WF .nonDigit
  | bol : WF .bol
  | eol : WF .eol
  | wordB : WF .wordB
  | nonWordB : WF .nonWordB
  | empty : WF .empty
  | rangeAny (lo hi : Nat) (g : Bool) : lo ≤ hi → hi < 65536 → WF (.rangeAny lo hi g)
  | range {a} (lo hi : Nat) (g : Bool) : WF a → lo ≤ hi → hi < 65536 → WF (.range a lo hi g)
  | star {a} (g : Bool) : WF a → WF (.star a g)
  | plus {a} (g : Bool) : WF a → WF (.plus a g)
  | cat {a b} : WF a → WF b → WF (.cat a b)
  | alt {a b} : WF a → WF b → WF (.alt a b)

def lower : Re → Ir
  | .cat a b => .cat (lower a) (lower b)
  | .alt a b => .alt (lower a) (lower b)
  | .star a g => .star (lower a) g
  | .plus a g => .plus (lower a) g
  | .rangeAny lo hi g => .jump lo hi g
  | .empty => .eps
  | .range a lo hi g =>
      .cat (if emitProlog lo then lower a else .eps)
        (.cat (if emitRepeat lo hi then .loop (lower a) (repMin lo hi) (repMax lo hi) g else .eps)
          (if emitSplit lo hi then .opt (lower a) g else if emitEpilog lo hi then lower a else .eps))
  | r => .leaf r

/-- contains every AST `hex_grammar.y` builds for (a piece of) a hex string: bytes, `??`, nibble masks, `~` negations, jumps
    `[n]` / `[n-m]` (lazy RE_NODE_RANGE_ANY, m below 65536 — every jump that is not split off as a chain link is at most
    YR_STRING_CHAINING_THRESHOLD = 200), concatenation, alternatives nested to any depth -/
inductive HexAst : Re → Prop
  | byte (b : UInt8) : HexAst (.lit b)
  | wild : HexAst .any
  | mask (v m : UInt8) : HexAst (.masked v m)
  | notByte (b : UInt8) : HexAst (.notLit b)
  | notMask (v m : UInt8) : HexAst (.maskedNot v m)
  | jump (lo hi : Nat) : lo ≤ hi → hi < 65536 → HexAst (.rangeAny lo hi false)
  | seq {a b} : HexAst a → HexAst b → HexAst (.cat a b)
  | alt {a b} : HexAst a → HexAst b → HexAst (.alt a b)

theorem HexAst.wf {r : Re} (h : HexAst r) : WF r := by
  induction h with
  | byte b => exact .lit b
  | wild => exact .any
  | mask v m => exact .masked v m
  | notByte b => exact .notLit b
  | notMask v m => exact .maskedNot v m
  | jump lo hi h1 h2 => exact .rangeAny lo hi false h1 h2
  | seq _ _ ih1 ih2 => exact .cat ih1 ih2
  | alt _ _ ih1 ih2 => exact .alt ih1 ih2

section
variable {fl : Flags} {buf : Bytes}

theorem star_mono {a a' : Re} (g : Bool) (h : ∀ x y, Re.Matches fl buf a x y → Re.Matches fl buf a' x y) {p q : Nat}
    (hm : Re.Matches fl buf (.star a g) p q) : Re.Matches fl buf (.star a' g) p q :=
  star_iff_iter.2 ((star_iff_iter.1 hm).imp fun _ => Iter.mono h)

theorem plus_mono {a a' : Re} (g : Bool) (h : ∀ x y, Re.Matches fl buf a x y → Re.Matches fl buf a' x y) {p q : Nat}
    (hm : Re.Matches fl buf (.plus a g) p q) : Re.Matches fl buf (.plus a' g) p q :=
  plus_iff_iter.2 ((plus_iff_iter.1 hm).imp fun _ => Iter.mono h)

theorem range_mono {a a' : Re} (lo hi : Nat) (g : Bool) (h : ∀ x y, Re.Matches fl buf a x y → Re.Matches fl buf a' x y) {p q : Nat}
    (hm : Re.Matches fl buf (.range a lo hi g) p q) : Re.Matches fl buf (.range a' lo hi g) p q :=
  range_iff_iter.2 ((range_iff_iter.1 hm).imp fun _ ⟨h1, h2, hp⟩ => ⟨h1, h2, hp.mono h⟩)

theorem cat_mono {a a' b b' : Re} (ha : ∀ x y, Re.Matches fl buf a x y → Re.Matches fl buf a' x y)
    (hb : ∀ x y, Re.Matches fl buf b x y → Re.Matches fl buf b' x y) {p q : Nat}
    (hm : Re.Matches fl buf (.cat a b) p q) : Re.Matches fl buf (.cat a' b') p q :=
  let ⟨_, h1, h2⟩ := (cat_iff _ _ _ _).1 hm; .cat (ha _ _ h1) (hb _ _ h2)

theorem alt_mono {a a' b b' : Re} (ha : ∀ x y, Re.Matches fl buf a x y → Re.Matches fl buf a' x y)
    (hb : ∀ x y, Re.Matches fl buf b x y → Re.Matches fl buf b' x y) {p q : Nat}
    (hm : Re.Matches fl buf (.alt a b) p q) : Re.Matches fl buf (.alt a' b') p q := by
  cases hm with
  | altL h => exact .altL (ha _ _ h)
  | altR h => exact .altR (hb _ _ h)

theorem ite_mono {c : Prop} [Decidable c] {a a' b b' : Re} (ha : ∀ x y, Re.Matches fl buf a x y → Re.Matches fl buf a' x y)
    (hb : ∀ x y, Re.Matches fl buf b x y → Re.Matches fl buf b' x y) (x y : Nat) :
    Re.Matches fl buf (if c then a else b) x y → Re.Matches fl buf (if c then a' else b') x y := by
  split
  · exact ha x y
  · exact hb x y

theorem shape_congr {a a' : Re} (lo hi : Nat) (g : Bool) (h : ∀ x y, Re.Matches fl buf a x y → Re.Matches fl buf a' x y) {p q : Nat}
    (hm : Re.Matches fl buf (rangeShape a lo hi g) p q) : Re.Matches fl buf (rangeShape a' lo hi g) p q :=
  have id' : ∀ x y, Re.Matches fl buf .empty x y → Re.Matches fl buf .empty x y := fun _ _ h => h
  cat_mono (ite_mono h id') (fun _ _ => cat_mono (ite_mono (fun _ _ => range_mono _ _ g h) id')
    (ite_mono (fun _ _ => range_mono _ _ g h) (ite_mono h id'))) hm

theorem lower_range_re (a : Re) (lo hi : Nat) (g : Bool) : (lower (.range a lo hi g)).re = rangeShape (lower a).re lo hi g := by
  simp only [lower, Ir.re, apply_ite Ir.re, rangeShape]

theorem lower_sem {r : Re} (hw : WF r) : ∀ p q, Re.Matches fl buf (lower r).re p q ↔ Re.Matches fl buf r p q := by
  induction hw with
  | lit _ | masked _ _ | notLit _ | maskedNot _ _ | any | cls _ _ | wordCh | nonWordCh | space | nonSpace | digit | nonDigit | bol | eol | wordB | nonWordB =>
    intro p q; exact Iff.rfl
  | empty => intro p q; exact Iff.rfl
  | rangeAny _ _ _ _ _ => intro p q; exact Iff.rfl
  | @range a lo hi g _ hlh _ ih =>
    intro p q
    rw [lower_range_re]
    exact ⟨fun hm => range_mono lo hi g (fun x y => (ih x y).1) ((rangeShape_iff _ lo hi g hlh p q).1 hm),
      fun hm => (rangeShape_iff _ lo hi g hlh p q).2 (range_mono lo hi g (fun x y => (ih x y).2) hm)⟩
  | @star a g _ ih => exact fun p q => ⟨star_mono g fun x y => (ih x y).1, star_mono g fun x y => (ih x y).2⟩
  | @plus a g _ ih => exact fun p q => ⟨plus_mono g fun x y => (ih x y).1, plus_mono g fun x y => (ih x y).2⟩
  | @cat a b _ _ ih1 ih2 =>
    exact fun p q => ⟨cat_mono (fun x y => (ih1 x y).1) fun x y => (ih2 x y).1, cat_mono (fun x y => (ih1 x y).2) fun x y => (ih2 x y).2⟩
  | @alt a b _ _ ih1 ih2 =>
    exact fun p q => ⟨alt_mono (fun x y => (ih1 x y).1) fun x y => (ih2 x y).1, alt_mono (fun x y => (ih1 x y).2) fun x y => (ih2 x y).2⟩

end

/-- `code` holds the bytes `bs` from address `a` -/
def Sub (code : Code) (a : Nat) (bs : List UInt8) : Prop := ∀ i, i < bs.length → u8 code (a + i) = (bs[i]?.getD 0).toNat

theorem sub_append {code : Code} {a : Nat} {x y : List UInt8} (h : Sub code a (x ++ y)) : Sub code a x ∧ Sub code (a + x.length) y := by
  constructor
  · intro i hi
    have := h i (by simp; omega)
    rwa [List.getElem?_append_left hi] at this
  · intro i hi
    have := h (x.length + i) (by simp; omega)
    rw [List.getElem?_append_right (by omega)] at this
    have e1 : x.length + i - x.length = i := by omega
    rw [e1, ← Nat.add_assoc] at this
    exact this

theorem sub_whole (bs : List UInt8) : Sub bs.toArray 0 bs := by
  intro i _
  simp [u8]

theorem leI16_length (i : Int) : (leI16 i).length = 2 := by simp [leI16, le16]

theorem sub_cons {code : Code} {a : Nat} {b : UInt8} {bs : List UInt8} :
    Sub code a (b :: bs) ↔ u8 code a = b.toNat ∧ Sub code (a + 1) bs := by
  constructor
  · intro h
    refine ⟨h 0 (Nat.zero_lt_succ _), fun i hi => ?_⟩
    have := h (i + 1) (Nat.succ_lt_succ hi)
    rwa [Nat.add_assoc, Nat.add_comm 1 i]
  · rintro ⟨h0, h1⟩ i hi
    cases i with
    | zero => exact h0
    | succ i =>
      have := h1 i (Nat.lt_of_succ_lt_succ hi)
      rwa [Nat.add_assoc, Nat.add_comm 1] at this

theorem bytes16 {n : Nat} (h : n < 65536) : n % 256 + 256 * (n / 256 % 256) = n := by omega

theorem bytes32 {n : Nat} (h : n < 4294967296) :
    n % 256 + 256 * (n / 256 % 256) + 65536 * (n / 65536 % 256) + 16777216 * (n / 16777216 % 256) = n := by omega

theorem wrap16 {i : Int} (h1 : -32768 ≤ i) (h2 : i < 32768) :
    (if (i % 65536).toNat ≥ 32768 then ((i % 65536).toNat : Int) - 65536 else ((i % 65536).toNat : Int)) = i := by
  split <;> omega

theorem wrap32 {i : Int} (h1 : -2147483648 ≤ i) (h2 : i < 2147483648) :
    (if (i % 4294967296).toNat ≥ 2147483648 then ((i % 4294967296).toNat : Int) - 4294967296 else ((i % 4294967296).toNat : Int)) = i := by
  split <;> omega

theorem u16_of_sub {code : Code} {a n : Nat} (hn : n < 65536) (h : Sub code a (le16 n)) : u16 code a = n := by
  simp only [le16, sub_cons, UInt8.toNat_ofNat', Nat.reducePow, Nat.mod_mod] at h
  unfold u16
  rw [h.1, h.2.1]
  exact bytes16 hn

theorem i16_of_sub {code : Code} {a : Nat} {i : Int} (h1 : -32768 ≤ i) (h2 : i < 32768) (h : Sub code a (leI16 i)) :
    i16 code a = i := by
  unfold i16
  simp only [u16_of_sub (Int.toNat_lt (Int.emod_nonneg _ (by decide)) |>.2 (Int.emod_lt_of_pos _ (by decide))) h]
  exact wrap16 h1 h2

theorem leI32_length (i : Int) : (leI32 i).length = 4 := by simp [leI32]
theorem le16_length (n : Nat) : (le16 n).length = 2 := by simp [le16]

theorem i32_of_sub {code : Code} {a : Nat} {i : Int} (h1 : -2147483648 ≤ i) (h2 : i < 2147483648) (h : Sub code a (leI32 i)) :
    i32 code a = i := by
  have hb : (i % 4294967296).toNat < 4294967296 := by omega
  simp only [leI32, sub_cons, UInt8.toNat_ofNat', Nat.reducePow, Nat.mod_mod, Nat.add_assoc, Nat.reduceAdd] at h
  unfold i32
  simp only [h.1, h.2.1, h.2.2.1, h.2.2.2.1, bytes32 hb]
  exact wrap32 h1 h2

theorem addOff_fwd {a n t : Nat} {i : Int} (hi : i = n) (ht : a + n = t) : addOff a i = t := by
  rw [hi, ← ht]; exact Int.toNat_natCast (a + n)

theorem addOff_bwd {a n m : Nat} {i : Int} (hi : i = -(n : Int)) (hm : a + n = m) : addOff m i = a := by
  rw [hi, ← hm]; unfold addOff; rw [Int.natCast_add, Int.add_neg_cancel_right]; exact Int.toNat_natCast a

/-- `.1` for a forward offset, `.2` for a backward one -/
theorem off_fits {n N : Nat} (h : n < N) : (-(N : Int) ≤ n ∧ (n : Int) < N) ∧ (-(N : Int) ≤ -(n : Int) ∧ -(n : Int) < N) := by
  omega

theorem sub_split {code : Code} {a : Nat} {op id : UInt8} {off : Int} {rest : List UInt8}
    (h : Sub code a ([op, id] ++ (leI16 off ++ rest))) (hb : -32768 ≤ off ∧ off < 32768) :
    u8 code a = op.toNat ∧ i16 code (a + 2) = off ∧ Sub code (a + 4) rest := by
  obtain ⟨hh, h⟩ := sub_append h
  obtain ⟨ho, h⟩ := sub_append h
  exact ⟨(sub_cons.1 hh).1, i16_of_sub hb.1 hb.2 ho, by rwa [leI16_length] at h⟩

theorem sub_jump {code : Code} {a : Nat} {off : Int} {rest : List UInt8}
    (h : Sub code a ([0xC2] ++ (leI16 off ++ rest))) (hb : -32768 ≤ off ∧ off < 32768) :
    u8 code a = OP_JUMP ∧ i16 code (a + 1) = off ∧ Sub code (a + 3) rest := by
  obtain ⟨hh, h⟩ := sub_append h
  obtain ⟨ho, h⟩ := sub_append h
  exact ⟨(sub_cons.1 hh).1, i16_of_sub hb.1 hb.2 ho, by rwa [leI16_length] at h⟩

/-- a REPEAT_START / REPEAT_END instruction — opcode, RE_REPEAT_ARGS { uint16 min, max; int32 offset } — followed by `rest` -/
theorem sub_repeat {code : Code} {a mn mx : Nat} {op : UInt8} {off : Int} {rest : List UInt8}
    (h : Sub code a ([op] ++ (le16 mn ++ (le16 mx ++ (leI32 off ++ rest))))) (hmn : mn < 65536) (hmx : mx < 65536)
    (hb : -2147483648 ≤ off ∧ off < 2147483648) :
    u8 code a = op.toNat ∧ u16 code (a + 1) = mn ∧ u16 code (a + 3) = mx ∧ i32 code (a + 5) = off ∧ Sub code (a + 9) rest := by
  obtain ⟨hh, h⟩ := sub_append h
  obtain ⟨hn, h⟩ := sub_append h
  obtain ⟨hx, h⟩ := sub_append h
  obtain ⟨ho, h⟩ := sub_append h
  rw [le16_length] at hx h
  rw [le16_length] at h ho
  exact ⟨(sub_cons.1 hh).1, u16_of_sub hmn hn, u16_of_sub hmx hx, i32_of_sub hb.1 hb.2 ho, by rwa [leI32_length] at h⟩

/-- the emit table of counted repeats stands twice: as the where-functions of the model's `emit`, and in Lemmas/ReAlgebra.lean, where
    `rangeShape` — and with it `lower` — is written before the emitter is in sight; the two are the same functions -/
theorem emit_table_eq (lo hi : Nat) : emit.emitProlog lo = emitProlog lo ∧ emit.emitRepeat lo hi = emitRepeat lo hi ∧ emit.emitSplit lo hi = emitSplit lo hi ∧
    emit.emitEpilog lo hi = emitEpilog lo hi ∧ emit.repMin lo hi = repMin lo hi ∧ emit.repMax lo hi = repMax lo hi := by
  refine ⟨rfl, rfl, rfl, rfl, ?_, ?_⟩
  · simp [emit.repMin, repMin, emitProlog, emitSplit]
  · simp [emit.repMax, repMax, emitProlog]

theorem rep_bounds {lo hi : Nat} (hlh : lo ≤ hi) (hr : emitRepeat lo hi = true) : repMin lo hi ≤ repMax lo hi ∧ 0 < repMax lo hi := by
  simp only [emitRepeat, Bool.or_eq_true, decide_eq_true_eq] at hr
  simp only [repMin, repMax, emitProlog, emitSplit]
  by_cases c1 : lo > 0 <;> by_cases c2 : hi > lo <;> simp only [c1, c2, decide_true, decide_false, if_true, Bool.false_eq_true, if_false] <;> omega

/-- the emitter on shapes: what `_yr_re_emit` writes once the emit table has been applied (`lower`); split ids are threaded as
    in `emit` -/
def emitIr : Ir → Nat → List UInt8 × Nat
  | .leaf r, s => ((emit false r s).1, s)
  | .jump lo hi g, s => ([if g then 0xB4 else 0xB5] ++ le16 lo ++ le16 hi, s)
  | .eps, s => ([], s)
  | .cat x y, s => ((emitIr x s).1 ++ (emitIr y (emitIr x s).2).1, (emitIr y (emitIr x s).2).2)
  | .alt x y, s =>
      ([0xC0, UInt8.ofNat s] ++ leI16 (4 + (emitIr x (s + 1)).1.length + 3) ++ (emitIr x (s + 1)).1 ++ [0xC2] ++
        leI16 (3 + (emitIr y (emitIr x (s + 1)).2).1.length) ++ (emitIr y (emitIr x (s + 1)).2).1, (emitIr y (emitIr x (s + 1)).2).2)
  | .star x g, s =>
      ([if g then 0xC0 else 0xC1, UInt8.ofNat s] ++ leI16 (4 + (emitIr x (s + 1)).1.length + 3) ++ (emitIr x (s + 1)).1 ++ [0xC2] ++
        leI16 (-((4 + (emitIr x (s + 1)).1.length : Nat) : Int)), (emitIr x (s + 1)).2)
  | .plus x g, s =>
      if (emitIr x s).1.isEmpty then emitIr x s
      else ((emitIr x s).1 ++ [if g then 0xC1 else 0xC0, UInt8.ofNat (emitIr x s).2] ++ leI16 (-((emitIr x s).1.length : Int)), (emitIr x s).2 + 1)
  | .opt x g, s =>
      ([if g then 0xC0 else 0xC1, UInt8.ofNat s] ++ leI16 (4 + (emitIr x (s + 1)).1.length) ++ (emitIr x (s + 1)).1, (emitIr x (s + 1)).2)
  | .loop x lo hi g, s =>
      ([if g then 0xC3 else 0xC5] ++ (le16 lo ++ le16 hi) ++ leI32 (9 + (emitIr x s).1.length + 9) ++ (emitIr x s).1 ++
        [if g then 0xC4 else 0xC6] ++ (le16 lo ++ le16 hi) ++ leI32 (-((emitIr x s).1.length : Int)), (emitIr x s).2)

theorem repMin_le (lo hi : Nat) : repMin lo hi ≤ lo :=
  Nat.le_trans (Nat.sub_le _ _) (by split; exact Nat.sub_le _ _; exact Nat.le_refl _)

theorem repMax_le (lo hi : Nat) : repMax lo hi ≤ hi :=
  Nat.le_trans (Nat.sub_le _ _) (by split; exact Nat.sub_le _ _; exact Nat.le_refl _)

theorem emitIr_ite (c : Prop) [Decidable c] (x y : Ir) (s : Nat) : emitIr (if c then x else y) s = if c then emitIr x s else emitIr y s :=
  apply_ite (emitIr · s) c x y

theorem emit_lower {r : Re} (hw : WF r) : ∀ s, emit false r s = emitIr (lower r) s := by
  induction hw with
  | lit _ | masked _ _ | notLit _ | maskedNot _ _ | any | cls _ _ | wordCh | nonWordCh | space | nonSpace | digit | nonDigit | bol | eol | wordB | nonWordB =>
    intro s; rfl
  | empty => intro s; rfl
  | rangeAny lo hi g hlh hhi =>
    intro s
    simp only [emit, lower, emitIr, Nat.mod_eq_of_lt hhi, Nat.mod_eq_of_lt (Nat.lt_of_le_of_lt hlh hhi)]
  | star g _ ih => intro s; simp only [emit, lower, emitIr, ih]
  | plus g _ ih => intro s; simp only [emit, lower, emitIr, ih]
  | cat _ _ ih1 ih2 => intro s; simp only [emit, lower, emitIr, ih1, ih2, Bool.false_eq_true, if_false]
  | alt _ _ ih1 ih2 => intro s; simp only [emit, lower, emitIr, ih1, ih2]
  | @range a lo hi g _ hlh hhi ih =>
    intro s
    obtain ⟨t1, t2, t3, t4, t5, t6⟩ := emit_table_eq lo hi
    have hSE : emitSplit lo hi = true → emitEpilog lo hi = true := fun hh => (congrArg (· || decide (hi > 1)) hh).trans (Bool.true_or _)
    have m1 := Nat.mod_eq_of_lt (Nat.lt_of_le_of_lt (repMin_le lo hi) (Nat.lt_of_le_of_lt hlh hhi))
    have m2 := Nat.mod_eq_of_lt (Nat.lt_of_le_of_lt (repMax_le lo hi) hhi)
    -- `emitIr` goes through the `if`s of the shape (`emitIr_ite`) as the range clause of `emit` is written; the one row of the
    -- table that is read is "split, hence epilog" (`emit` asks for the epilog inside the split, `lower` writes `.opt`)
    simp only [emit, t1, t2, t3, t4, t5, t6, lower, ih, emitIr, emitIr_ite, m1, m2]
    by_cases c3 : emitSplit lo hi = true
    · simp only [c3, hSE c3, if_true, List.append_assoc]
    · simp only [c3, Bool.false_eq_true, if_false, List.append_assoc]

/-- the shapes `lower` produces: real leaves, operands ordered and inside their 16 bits -/
inductive IrOK : Ir → Prop
  | leaf {r} : lower r = .leaf r → IrOK (.leaf r)
  | jump {lo hi g} : lo ≤ hi → hi < 65536 → IrOK (.jump lo hi g)
  | eps : IrOK .eps
  | cat {x y} : IrOK x → IrOK y → IrOK (.cat x y)
  | alt {x y} : IrOK x → IrOK y → IrOK (.alt x y)
  | star {x g} : IrOK x → IrOK (.star x g)
  | plus {x g} : IrOK x → IrOK (.plus x g)
  | opt {x g} : IrOK x → IrOK (.opt x g)
  | loop {x lo hi g} : IrOK x → lo ≤ hi → 0 < hi → hi < 65536 → IrOK (.loop x lo hi g)

theorem lower_ok {r : Re} (hw : WF r) : IrOK (lower r) := by
  induction hw with
  | lit _ | masked _ _ | notLit _ | maskedNot _ _ | any | cls _ _ | wordCh | nonWordCh | space | nonSpace | digit | nonDigit | bol | eol | wordB | nonWordB =>
    exact .leaf rfl
  | empty => exact .eps
  | rangeAny lo hi g h1 h2 => exact .jump h1 h2
  | star g _ ih => exact .star ih
  | plus g _ ih => exact .plus ih
  | cat _ _ ih1 ih2 => exact .cat ih1 ih2
  | alt _ _ ih1 ih2 => exact .alt ih1 ih2
  | @range a lo hi g _ hlh hhi ih =>
    refine .cat ?_ (.cat ?_ ?_)
    · split
      · exact ih
      · exact .eps
    · split
      · rename_i c
        obtain ⟨b1, b2⟩ := rep_bounds hlh c
        exact .loop ih b1 b2 (Nat.lt_of_le_of_lt (repMax_le lo hi) hhi)
      · exact .eps
    · split
      · exact .opt ih
      · split
        · exact ih
        · exact .eps

theorem emitIr_len {x : Ir} (hx : IrOK x) : ∀ s, (emitIr x s).1.length = clen x := by
  induction hx with
  | @leaf r h =>
    intro s
    cases r with
    | cat _ _ | alt _ _ | star _ _ | plus _ _ | range _ _ _ _ | rangeAny _ _ _ | empty => cases h
    | _ => rfl
  | jump _ _ | eps => intro s; rfl
  | cat _ _ ih1 ih2 => intro s; simp only [emitIr, clen, List.length_append, ih1, ih2]
  | alt _ _ ih1 ih2 =>
    intro s
    simp only [emitIr, clen, List.length_append, List.length_cons, List.length_nil, leI16_length, ih1, ih2]
  | @plus x g _ ih =>
    intro s
    simp only [emitIr, clen, List.isEmpty_iff, ← List.length_eq_zero_iff, ih]
    split
    · rename_i h0; rw [ih, h0]
    · simp only [List.length_append, List.length_cons, List.length_nil, leI16_length, ih]
  | star _ ih | opt _ ih => intro s; simp only [emitIr, clen, List.length_append, List.length_cons, List.length_nil, leI16_length, ih]
  | loop _ _ _ _ ih =>
    intro s
    simp only [emitIr, clen, List.length_append, List.length_cons, List.length_nil, le16_length, leI32_length, ih]

theorem emit_len {r : Re} (hw : WF r) : ∀ s, (emit false r s).1.length = clen (lower r) := by
  intro s; rw [emit_lower hw]; exact emitIr_len (lower_ok hw) s

theorem Seg.cat_len {code : Code} {x y : Ir} {a : Nat} (hx : Seg code x a (a + clen x)) (hy : Seg code y (a + clen x) (a + clen x + clen y)) :
    Seg code (.cat x y) a (a + clen (.cat x y)) := by
  rw [clen, ← Nat.add_assoc]
  exact .cat hx hy

theorem classBit_of_sub {code : Code} {a cb : Nat} {neg : UInt8} (h : Sub code a (0xA5 :: neg :: bitmapBytes cb)) (c : UInt8) :
    classBit code a c = inBitmap cb c := by
  have hi : c.toNat / 8 < 32 := by have := c.toNat_lt; omega
  have hb := (sub_cons.1 (sub_cons.1 h).2).2 (c.toNat / 8) (by simpa [bitmapBytes] using hi)
  unfold classBit inBitmap
  rw [hb, bitmapBytes, List.getElem?_map, List.getElem?_range hi, Option.map_some, Option.getD_some, UInt8.toNat_ofNat',
    Nat.mod_mod_of_dvd _ (by decide), Nat.testBit_mod_two_pow, Nat.testBit_div_two_pow]
  have e5 : c.toNat % 8 < 8 := Nat.mod_lt _ (by omega)
  have e6 : c.toNat % 8 + 8 * (c.toNat / 8) = c.toNat := by omega
  simp [e5, e6]

theorem seg_of_emitIr {x : Ir} (hx : IrOK x) : ∀ (s : Nat) (code : Code) (a : Nat), clen x < 32000 →
    Sub code a (emitIr x s).1 → Seg code x a (a + clen x) := by
  induction hx with
  | @leaf r hl =>
    intro s code a _ h
    simp only [emitIr] at h
    cases r with
    | any | wordCh | nonWordCh | space | nonSpace | digit | nonDigit | bol | eol | wordB | nonWordB =>
      exact .leaf (by constructor; exact (sub_cons.1 h).1)
    | lit b | notLit b =>
      simp only [emit, sub_cons] at h
      exact .leaf (by constructor; exact h.1; exact h.2.1)
    | masked v m | maskedNot v m =>
      simp only [emit, sub_cons] at h
      exact .leaf (by constructor; exact h.1; exact h.2.1; exact h.2.2.1)
    | cls cb neg =>
      refine .leaf (.cls (sub_cons.1 h).1 ?_ (classBit_of_sub h))
      rw [(sub_cons.1 (sub_cons.1 h).2).1]
      cases neg <;> rfl
    | _ => cases hl
  | eps => intro s code a _ h; exact .eps
  | @jump lo hi g hlh hhi =>
    intro s code a _ h
    simp only [emitIr, List.singleton_append] at h
    obtain ⟨h1, h⟩ := sub_cons.1 h
    obtain ⟨h2, h3⟩ := sub_append h
    rw [le16_length] at h3
    refine .jump ?_ (u16_of_sub (Nat.lt_of_le_of_lt hlh hhi) h2) (u16_of_sub hhi h3) hlh
    rw [h1]
    cases g <;> simp [OP_REPEAT_ANY_GREEDY, OP_REPEAT_ANY_UNGREEDY]
  | @cat x y hx hy ih1 ih2 =>
    intro s code a hsz h
    obtain ⟨h1, h2⟩ := sub_append h
    rw [emitIr_len hx] at h2
    exact Seg.cat_len (ih1 s code a (Nat.lt_of_add_right_lt hsz) h1) (ih2 _ code _ (Nat.lt_of_add_left_lt hsz) h2)
  -- below, `hw`: the code of the shape fits an int16; every offset is the length of a part of it, every address a reassociated sum
  | @star x g hx ih =>
    intro s code a hsz h
    simp only [clen] at hsz ⊢
    have hw : 4 + clen x + 3 < 32768 := Nat.lt_trans hsz (by decide)
    simp only [emitIr, List.append_assoc, emitIr_len hx] at h
    obtain ⟨hop, ho1, h⟩ := sub_split h (off_fits hw).1
    obtain ⟨hca, h⟩ := sub_append h
    rw [emitIr_len hx] at h
    obtain ⟨hj, ho2, -⟩ := sub_jump (rest := []) (by rwa [List.append_nil]) (off_fits (Nat.lt_of_add_right_lt hw)).2
    simp only [← Nat.add_assoc]
    refine .star ?_ (addOff_fwd (n := 4 + clen x + 3) ho1 (by simp only [← Nat.add_assoc]))
      (ih _ code _ (Nat.lt_of_add_left_lt (Nat.lt_of_add_right_lt hsz)) hca) hj (addOff_bwd ho2 (Nat.add_assoc a 4 _).symm)
    rw [hop]
    cases g <;> simp [OP_SPLIT_A, OP_SPLIT_B]
  | @plus x g hx ih =>
    intro s code a hsz h
    have hl := emitIr_len hx s
    simp only [clen] at hsz ⊢
    by_cases he : (emitIr x s).1.isEmpty = true
    · have h0 : clen x = 0 := by rw [← hl, List.isEmpty_iff.1 he]; rfl
      simp only [emitIr, he, if_true] at h
      rw [h0]
      have sx := ih s code a (h0 ▸ by decide) h
      rw [h0] at sx
      exact .plusNil sx
    · have hne : ¬ clen x = 0 := fun hh => he (List.isEmpty_iff.2 (List.length_eq_zero_iff.1 (hl.trans hh)))
      rw [if_neg hne] at hsz ⊢
      have hb := Nat.lt_of_add_right_lt hsz
      simp only [emitIr, he, Bool.false_eq_true, if_false, List.append_assoc, hl] at h
      obtain ⟨hca, h⟩ := sub_append h
      rw [hl] at h
      obtain ⟨hop, ho, -⟩ := sub_split (rest := []) (by rwa [List.append_nil]) (off_fits (Nat.lt_trans hb (by decide))).2
      rw [← Nat.add_assoc]
      refine .plus (ih s code a hb hca) (Nat.lt_add_of_pos_right (Nat.pos_of_ne_zero hne)) ?_ (addOff_bwd ho rfl)
      rw [hop]
      cases g <;> simp [OP_SPLIT_A, OP_SPLIT_B]
  | @alt x y hx hy ih1 ih2 =>
    intro s code a hsz h
    simp only [clen] at hsz ⊢
    have hw : 4 + clen x + 3 < 32768 := Nat.lt_trans (Nat.lt_of_add_right_lt hsz) (by decide)
    have hy3 : 3 + clen y < 32768 :=
      Nat.lt_of_le_of_lt (Nat.add_le_add_right (Nat.le_add_left 3 _) _) (Nat.lt_trans hsz (by decide))
    simp only [emitIr, List.append_assoc, emitIr_len hx, emitIr_len hy] at h
    obtain ⟨hop, ho1, h⟩ := sub_split h (off_fits hw).1
    obtain ⟨hca, h⟩ := sub_append h
    rw [emitIr_len hx] at h
    obtain ⟨hj, ho2, hcb⟩ := sub_jump h (off_fits hy3).1
    simp only [← Nat.add_assoc]
    exact .alt hop (addOff_fwd (n := 4 + clen x + 3) ho1 (by simp only [← Nat.add_assoc]))
      (ih1 _ code _ (Nat.lt_of_add_left_lt (Nat.lt_of_add_right_lt (Nat.lt_of_add_right_lt hsz))) hca) hj
      (addOff_fwd (n := 3 + clen y) ho2 (Nat.add_assoc _ 3 _).symm) (ih2 _ code _ (Nat.lt_of_add_left_lt hsz) hcb)
  | @opt x g hx ih =>
    intro s code a hsz h
    simp only [clen] at hsz ⊢
    simp only [emitIr, List.append_assoc, emitIr_len hx] at h
    obtain ⟨hop, ho, hca⟩ := sub_split h (off_fits (Nat.lt_trans hsz (by decide))).1
    rw [← Nat.add_assoc]
    refine .opt ?_ (addOff_fwd (n := 4 + clen x) ho (Nat.add_assoc a 4 _).symm) (ih _ code _ (Nat.lt_of_add_left_lt hsz) hca)
    rw [hop]; cases g <;> simp [OP_SPLIT_A, OP_SPLIT_B]
  | @loop x lo hi g hx b1 b2 b3 ih =>
    intro s code a hsz h
    simp only [clen] at hsz ⊢
    have hw : 9 + clen x + 9 < 2147483648 := Nat.lt_trans hsz (by decide)
    simp only [emitIr, List.append_assoc, emitIr_len hx] at h
    obtain ⟨o1, o2, -, o3, h⟩ := sub_repeat h (Nat.lt_of_le_of_lt b1 b3) b3 (off_fits hw).1
    obtain ⟨hbody, h⟩ := sub_append h
    rw [emitIr_len hx] at h
    obtain ⟨o4, o5, o6, o7, -⟩ := sub_repeat (rest := []) (by rwa [List.append_nil]) (Nat.lt_of_le_of_lt b1 b3) b3
      (off_fits (Nat.lt_of_add_left_lt (Nat.lt_of_add_right_lt hw))).2
    simp only [← Nat.add_assoc]
    refine .loop ?_ o2 (addOff_fwd (n := 9 + clen x + 9) o3 (by simp only [← Nat.add_assoc]))
      (ih _ code _ (Nat.lt_of_add_left_lt (Nat.lt_of_add_right_lt hsz)) hbody) ?_ o5 o6 (addOff_bwd o7 rfl) b1 b2
    · rw [o1]; cases g <;> simp [OP_REPEAT_START_GREEDY, OP_REPEAT_START_UNGREEDY]
    · rw [o4]; cases g <;> simp [OP_REPEAT_END_GREEDY, OP_REPEAT_END_UNGREEDY]

/-- the bound 32000 keeps every split / jump offset inside the int16 operand (a code length below 32768 - 7 would do) -/
theorem seg_of_emit {r : Re} (hw : WF r) : ∀ (s : Nat) (code : Code) (a : Nat), clen (lower r) < 32000 →
    Sub code a (emit false r s).1 → Seg code (lower r) a (a + clen (lower r)) :=
  fun s code a hsz h => seg_of_emitIr (lower_ok hw) s code a hsz (emit_lower hw s ▸ h)

theorem emitted_seg {code : Code} {r : Re} (hwf : WF r) (hsz : (emit false r 0).1.length < 32000)
    (hcode : code = ((emit false r 0).1 ++ [0xAD]).toArray) :
    Sub code 0 (emit false r 0).1 ∧ Seg code (lower r) 0 (clen (lower r)) ∧ u8 code (clen (lower r)) = OP_MATCH := by
  obtain ⟨h1, h2⟩ := sub_append (hcode ▸ sub_whole _ : Sub code 0 ((emit false r 0).1 ++ [0xAD]))
  rw [emit_len hwf] at hsz h2
  rw [Nat.zero_add] at h2
  exact ⟨h1, by simpa using seg_of_emit hwf 0 code 0 hsz h1, (sub_cons.1 h2).1⟩

section
variable (fl : Flags) (buf : Bytes) (s : Nat)

theorem irm_fwd {x : Ir} {q t : Nat} (hm : IrM (fun r q t => Re.Matches fl buf r (s + q) (s + t)) x q t) :
    Re.Matches fl buf x.re (s + q) (s + t) := by
  induction hm with
  | leaf h => exact h
  | @jump lo hi g j q t h1 h2 hit => exact rangeAny_iff_iter.2 ⟨j, h1, h2, Iter.fwd s hit⟩
  | eps => exact .empty
  | cat _ _ ih1 ih2 => exact .cat ih1 ih2
  | altL _ ih => exact .altL ih
  | altR _ ih => exact .altR ih
  | starNil => exact .starNil
  | starStep _ _ ih1 ih2 => exact .starStep ih1 ih2
  | plusOne _ ih => exact .plusOne ih
  | plusStep _ _ ih1 ih2 => exact .plusStep ih1 ih2
  | optSkip => exact .rangeStop
  | optTake _ ih => exact .rangeStep (by decide) ih .rangeStop
  | loopStop => exact .rangeStop
  | loopStep hpos _ _ ih1 ih2 => exact .rangeStep hpos ih1 ih2

/-- the expression a shape denotes when its code is run BACKWARDS: concatenations read right to left -/
def Ir.reB : Ir → Re
  | .leaf r => r
  | .jump lo hi g => .rangeAny lo hi g
  | .eps => .empty
  | .cat x y => .cat y.reB x.reB
  | .alt x y => .alt x.reB y.reB
  | .star x g => .star x.reB g
  | .plus x g => .plus x.reB g
  | .opt x g => .range x.reB 0 1 g
  | .loop x lo hi g => .range x.reB lo hi g

theorem irm_bwd {x : Ir} {q t : Nat} (hm : IrM (fun r q t => Re.Matches fl buf r (s - t) (s - q)) x q t) :
    Re.Matches fl buf x.reB (s - t) (s - q) := by
  induction hm with
  | leaf h => exact h
  | @jump lo hi g j q t h1 h2 hit => exact rangeAny_iff_iter.2 ⟨j, h1, h2, Iter.bwd s hit⟩
  | eps => exact .empty
  | cat _ _ ih1 ih2 => exact .cat ih2 ih1
  | altL _ ih => exact .altL ih
  | altR _ ih => exact .altR ih
  | starNil => exact .starNil
  | starStep _ _ ih1 ih2 => exact star_snoc ih2 ih1
  | plusOne _ ih => exact .plusOne ih
  | plusStep _ _ ih1 ih2 => exact plus_snoc ih2 ih1
  | optSkip => exact .rangeStop
  | optTake _ ih => exact .rangeStep (by decide) ih .rangeStop
  | loopStop => exact .rangeStop
  | loopStep hpos _ _ ih1 ih2 => exact range_snoc hpos ih2 ih1

end

def rev : Re → Re
  | .cat a b => .cat (rev b) (rev a)
  | .alt a b => .alt (rev a) (rev b)
  | .star a g => .star (rev a) g
  | .plus a g => .plus (rev a) g
  | .range a lo hi g => .range (rev a) lo hi g
  | r => r

theorem rev_rev (r : Re) : rev (rev r) = r := by
  induction r <;> simp only [rev, *]

/-- `_yr_re_emit` with EMIT_BACKWARDS writes the forward code of the mirrored expression -/
theorem emit_rev (r : Re) : ∀ s, emit true r s = emit false (rev r) s := by
  induction r with
  | cat a b iha ihb => intro s; simp only [emit, rev, if_true, Bool.false_eq_true, if_false, iha, ihb]
  | alt a b iha ihb => intro s; simp only [emit, rev, iha, ihb]
  | star a g ih => intro s; simp only [emit, rev, ih]
  | plus a g ih => intro s; simp only [emit, rev, ih]
  | range a lo hi g ih => intro s; simp only [emit, rev, ih]
  | _ => intro s; simp only [emit, rev]

theorem rev_wf {r : Re} (h : WF r) : WF (rev r) := by
  induction h with
  | range lo hi g _ h1 h2 ih => exact .range lo hi g ih h1 h2
  | star g _ ih => exact .star g ih
  | plus g _ ih => exact .plus g ih
  | cat _ _ ih1 ih2 => exact .cat ih2 ih1
  | alt _ _ ih1 ih2 => exact .alt ih1 ih2
  | rangeAny lo hi g h1 h2 => exact .rangeAny lo hi g h1 h2
  | _ => constructor

section
variable {fl : Flags} {buf : Bytes}

/-- `→` only: what soundness needs -/
theorem lowerB_sem {r : Re} (hw : WF r) : ∀ p q, Re.Matches fl buf (lower (rev r)).reB p q → Re.Matches fl buf r p q := by
  induction hw with
  | lit _ | masked _ _ | notLit _ | maskedNot _ _ | any | cls _ _ | wordCh | nonWordCh | space | nonSpace | digit | nonDigit | bol | eol | wordB | nonWordB =>
    intro p q h; exact h
  | empty => intro p q h; exact h
  | rangeAny _ _ _ _ _ => intro p q h; exact h
  | @range a lo hi g _ hlh _ ih =>
    intro p q hm
    simp only [rev, lower, Ir.reB, apply_ite Ir.reB] at hm
    exact range_mono lo hi g ih ((rangeShape_rev_iff _ lo hi g hlh _ _).1 hm)
  | @star a g _ ih => intro p q hm; exact star_mono g ih hm
  | @plus a g _ ih => intro p q hm; exact plus_mono g ih hm
  | @cat a b _ _ ih1 ih2 => intro p q hm; exact cat_mono ih1 ih2 hm
  | @alt a b _ _ ih1 ih2 => intro p q hm; exact alt_mono ih1 ih2 hm

end

end YaraModel.ReEmit
