/- What Thm/C04.lean, the value level (CondVals) and the execution layer (CondCompile) need before either: of the specification
   alone, readers, quantifier counting, integer ranges; of the VM, its word encodings (`ptrPayload_encPtr`, `decIt_encIt`, …); last, the `simp` set-up for `isU`, `toVm`. -/
import YaraModel.Model.CondCompile
namespace YaraModel.Cond
open YaraModel.C YaraModel.CondVm

theorem eval_int (env : Env) (l : LEnv) (v : Int) : eval env l (.int v) = .int v := by simp [eval]

/-- the offset the VM computes from an undefined operand: `(size_t) YR_UNDEFINED` -/
theorem undef_offset : (UNDEF % W64).toNat = 18445260673521474303 := by decide

/-- the regenerated C range test is the specification's containment test: this needs the `size >= sizeof` underflow guard of
    the macro -/
theorem readFits_iff (base size n off : Nat) (hv : base + size < 18446744073709551616) :
    Gen.ReadFn.readFits base size n off = true ↔ base ≤ off ∧ n ≤ size ∧ off + n ≤ base + size := by
  unfold Gen.ReadFn.readFits Gen.ReadFn.W
  simp only [Bool.and_eq_true, decide_eq_true_eq, Nat.mod_eq_of_lt hv]
  by_cases hn : n ≤ size
  · have h4 : (base + size + 18446744073709551616 - n) % 18446744073709551616 = base + size - n := by
      rw [show base + size + 18446744073709551616 - n = (base + size - n) + 18446744073709551616 by omega, Nat.add_mod_right]
      exact Nat.mod_eq_of_lt (by omega)
    rw [h4]
    omega
  · omega

theorem readBlocks_eq_readBytes (blocks : List (Nat × Bytes)) (off n : Nat)
    (hv : ∀ b ∈ blocks, b.1 + b.2.length < 18446744073709551616) :
    readBlocks blocks off n = readBytes blocks off n := by
  induction blocks with
  | nil => rfl
  | cons b rest ih =>
    obtain ⟨base, data⟩ := b
    simp only [readBlocks, readBytes, readFits_iff base data.length n off (hv _ (List.mem_cons_self ..)),
      ih fun b hb' => hv b (List.mem_cons_of_mem _ hb')]

/-- this covers negative offsets and the sentinel, both huge when read as `size_t` -/
theorem readBlocks_high (blocks : List (Nat × Bytes)) (off n : Nat)
    (h : ∀ b ∈ blocks, b.1 + b.2.length ≤ 9223372036854775808) (ho : 9223372036854775808 < off + n) :
    readBlocks blocks off n = none := by
  rw [readBlocks_eq_readBytes blocks off n (fun b hb => by have := h b hb; omega)]
  induction blocks with
  | nil => rfl
  | cons b rest ih =>
    have hb := h b (by simp)
    have : ¬ (b.1 ≤ off ∧ n ≤ b.2.length ∧ off + n ≤ b.1 + b.2.length) := by omega
    simp only [readBytes, this, if_false]
    exact ih (fun b hb' => h b (by simp [hb']))

theorem readBlocks_sentinel (blocks : List (Nat × Bytes)) (n : Nat)
    (h : ∀ b ∈ blocks, b.1 + b.2.length ≤ 9223372036854775808) :
    readBlocks blocks 18445260673521474303 n = none :=
  readBlocks_high blocks _ n h (by omega)

theorem prim_reader {fo : FloatOps} (blocks : List (Nat × Bytes)) (name : String) (sz : Nat) (sg be : Bool) (a : Int)
    (h : readerOf name = some (sz, sg, be)) : prim fo blocks name [a] = readPrim blocks sz sg be a := by
  simp only [prim, h]

theorem countTrue_map {α : Type} (f : α → Val) (xs : List α) :
    countTrue (xs.map f) = xs.countP (fun x => asBool (f x)) := by
  unfold countTrue
  rw [List.countP_map]
  rfl

theorem quantHolds_iff {α : Type} (p : α → Bool) (xs : List α) (vq : Val) :
    (quantHolds (quantOf .all vq) (xs.countP p) xs.length = .bool true ↔ ∀ x ∈ xs, p x = true) ∧
    (quantHolds (quantOf .any vq) (xs.countP p) xs.length = .bool true ↔ ∃ x ∈ xs, p x = true) ∧
    (quantHolds (quantOf .none vq) (xs.countP p) xs.length = .bool true ↔ ∀ x ∈ xs, p x = false) := by
  refine ⟨?_, ?_, ?_⟩ <;> simp only [quantOf, quantHolds, Val.bool.injEq, beq_iff_eq, decide_eq_true_eq]
  · exact List.countP_eq_length
  · rw [show ((1 : Int) ≤ ((xs.countP p : Nat) : Int)) ↔ 0 < xs.countP p by omega]
    exact List.countP_pos_iff
  · rw [List.countP_eq_zero]
    simp

theorem loopHolds_pos (Q : Quant) (t n : Nat) (hn : n ≠ 0) : loopHolds Q t n = quantHolds Q t n := by
  cases Q <;> simp [loopHolds, quantHolds, hn]

theorem loopHolds_zero (Q : Quant) (t : Nat) (hQ : Q ≠ .undef) : loopHolds Q t 0 = .bool false := by
  cases Q <;> first | rfl | exact absurd rfl hQ

theorem mem_intRange (a b : Int) (v : Val) :
    v ∈ intRange (.int a) (.int b) ↔ ∃ i : Int, a ≤ i ∧ i ≤ b ∧ v = .int i := by
  simp only [intRange, List.mem_map, List.mem_range]
  constructor
  · rintro ⟨k, hk, rfl⟩
    exact ⟨a + k, by omega, by omega, rfl⟩
  · rintro ⟨i, h1, h2, rfl⟩
    exact ⟨(i - a).toNat, by omega, by congr 1; omega⟩

theorem forall_intRange (a b : Int) (P : Val → Prop) :
    (∀ v ∈ intRange (.int a) (.int b), P v) ↔ ∀ i, a ≤ i → i ≤ b → P (.int i) :=
  ⟨fun h i h1 h2 => h _ ((mem_intRange a b _).mpr ⟨i, h1, h2, rfl⟩),
   fun h v hv => by obtain ⟨i, h1, h2, rfl⟩ := (mem_intRange a b v).mp hv; exact h i h1 h2⟩

theorem exists_intRange (a b : Int) (P : Val → Prop) :
    (∃ v ∈ intRange (.int a) (.int b), P v) ↔ ∃ i, a ≤ i ∧ i ≤ b ∧ P (.int i) :=
  ⟨fun ⟨v, hv, hp⟩ => by obtain ⟨i, h1, h2, rfl⟩ := (mem_intRange a b v).mp hv; exact ⟨i, h1, h2, hp⟩,
   fun ⟨i, h1, h2, hp⟩ => ⟨_, (mem_intRange a b _).mpr ⟨i, h1, h2, rfl⟩, hp⟩⟩

theorem intRange_length (a b : Int) : (intRange (.int a) (.int b)).length = (b - a + 1).toNat := by
  simp [intRange]

end YaraModel.Cond

namespace YaraModel.CondCompile
open YaraModel.C YaraModel.Cond YaraModel.CondVm

theorem natOfRev_ge_length (xs : Bytes) : xs.length + 1 ≤ natOfRev xs := by
  induction xs with
  | nil => simp [natOfRev]
  | cons x xs ih => simp only [natOfRev, List.length_cons]; omega

theorem natToRev_natOfRev (xs : Bytes) (fuel : Nat) (h : xs.length ≤ fuel) :
    natToRev fuel (natOfRev xs) = xs := by
  induction xs generalizing fuel with
  | nil => cases fuel <;> simp [natToRev, natOfRev]
  | cons x xs ih =>
    cases fuel with
    | zero => simp at h
    | succ fuel =>
      have hp := natOfRev_ge_length xs
      have hx : x.toNat < 256 := x.toNat_lt
      have h1 : ¬ (natOfRev xs * 256 + x.toNat ≤ 1) := by omega
      have h2 : (natOfRev xs * 256 + x.toNat) % 256 = x.toNat := by omega
      have h3 : (natOfRev xs * 256 + x.toNat) / 256 = natOfRev xs := by omega
      simp only [natToRev, natOfRev, h1, if_false, h2, h3]
      rw [ih fuel (by simpa using h)]
      simp

theorem ptrPayload_encPtr (tag p : Nat) (ht : tag < 8) : ptrPayload (encPtr tag p) = p := by
  unfold ptrPayload encPtr W64
  have : (18446744073709551616 * ((8 * p + tag + 8 : Nat) : Int)) / 18446744073709551616 = ((8 * p + tag + 8 : Nat) : Int) := by
    rw [Int.mul_ediv_cancel_left _ (by decide)]
  rw [this]
  simp only [Int.toNat_natCast]
  omega

theorem decSS_encSS (b : Bytes) : decSS (encSS b) = b := by
  unfold decSS encSS
  rw [ptrPayload_encPtr 1 _ (by decide)]
  unfold bytesToNat
  rw [natToRev_natOfRev b.reverse _ (by have := natOfRev_ge_length b.reverse; omega)]
  simp

theorem decStr_encStr (n : Nat) : decStr (encStr n) = n := ptrPayload_encPtr 2 n (by decide)
theorem decIt_encIt (n : Nat) : decIt (encIt n) = n := ptrPayload_encPtr 3 n (by decide)

theorem decRe_encRe (re : Bytes) (nc : Bool) : decRe (encRe re nc) = (re, nc) := by
  unfold decRe encRe
  rw [ptrPayload_encPtr 4 _ (by decide)]
  have h1 : (2 * bytesToNat re + if nc = true then 1 else 0) / 2 = bytesToNat re := by cases nc <;> simp <;> omega
  have h2 : ((2 * bytesToNat re + if nc = true then 1 else 0) % 2 == 1) = nc := by cases nc <;> simp <;> omega
  simp only [h1, h2]
  unfold bytesToNat
  rw [natToRev_natOfRev re.reverse _ (by have := natOfRev_ge_length re.reverse; omega)]
  simp

theorem encPtr_ge (tag p : Nat) : W64 ≤ encPtr tag p := by
  unfold encPtr W64
  omega

theorem isUndef_encPtr (tag p : Nat) : isUndef (encPtr tag p) = false := by
  have := encPtr_ge tag p
  unfold W64 at this
  simp only [isUndef, UNDEF, beq_eq_false_iff_ne, ne_eq]
  omega

theorem isUndef_encSS (s : Bytes) : isUndef (encSS s) = false := isUndef_encPtr _ _

-- simp turns `isU` into `isUndef`; the stack's lemmas are stated with `isU` (what `step` produces): `rw` with them before `simp`
@[simp] theorem isU_eq (v : Int) : isU v = isUndef v := rfl

attribute [simp] toVm isUndef_UNDEF

end YaraModel.CondCompile
