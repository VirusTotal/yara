/- The model's bookkeeping of never-cleared memory (`dirty`, `unspec`): a buffer becomes dirty only through a raw
   allocation, contents become unspecified only through a zeroed allocation into a dirty buffer; hence an op list
   that never sends a zeroed allocation to a buffer that earlier got a raw one keeps everything specified (the one step,
   `exec_flags`; over the list: `run_defined`, Thm/C19). -/
import YaraModel.Lemmas.ArenaSeq
namespace YaraModel.Arena

theorem bufAt_appendBuf_dirty (a : Arena) (b : Nat) (f : Bytes) (j : Nat) :
    ((appendBuf a b f).bufAt j).dirty = (a.bufAt j).dirty := by
  rw [bufAt_appendBuf]; split <;> rfl

theorem appendBuf_unspec (a : Arena) (b : Nat) (f : Bytes) : (appendBuf a b f).unspec = a.unspec := rfl

theorem growBuf_unspec (a : Arena) (b nb nc : Nat) (z : Bool) : (growBuf a b nb nc z).unspec = a.unspec := by
  rw [growBuf_eq]; simp [setMeta]

theorem growBuf_dirty (a : Arena) (b nb nc : Nat) (z : Bool) (j : Nat) :
    ((growBuf a b nb nc z).bufAt j).dirty = true → (a.bufAt j).dirty = true ∨ (j = b ∧ z = false) := by
  rw [growBuf_eq, bufAt_setMeta]
  split
  · rename_i hc
    intro h
    exact Or.inr ⟨hc.1.symm, by simpa using h⟩
  · rw [bufAt_mapSlots_dirty]; exact Or.inl

theorem allocMem_flags {cfg : Cfg} {nb : Nat} {a : Arena} {b : Nat} {zero : Bool} {fill : Bytes} {a' : Arena} {r : Ref}
    (hres : allocMem cfg nb a b zero fill = .ok (a', r)) :
    (∀ j, (a'.bufAt j).dirty = true → (a.bufAt j).dirty = true ∨ (j = b ∧ zero = false)) ∧
      (a'.unspec = true → a.unspec = true ∨ (zero = true ∧ (a.bufAt b).dirty = true)) := by
  obtain ⟨_, _, ⟨_, rfl⟩ | ⟨_, rfl⟩⟩ := allocMem_inv hres
  · refine ⟨fun j hj => ?_, fun hu => Or.inl ?_⟩
    · rw [bufAt_appendBuf_dirty] at hj
      exact growBuf_dirty a b nb _ zero j hj
    · rwa [appendBuf_unspec, growBuf_unspec] at hu
  · refine ⟨fun j hj => Or.inl ?_, fun hu => ?_⟩
    · rwa [bufAt_appendBuf_dirty] at hj
    · have hu' : (a.unspec || (zero && (a.bufAt b).dirty && decide (fill.length > 0))) = true := hu
      simp only [Bool.or_eq_true, Bool.and_eq_true] at hu'
      exact hu'.imp id (fun h => h.1)

structure FlagsStep (a a' : Arena) (op : Op) : Prop where
  dirty : ∀ j, (a'.bufAt j).dirty = true → (a.bufAt j).dirty = true ∨ opRaw op = some j
  unspec : a'.unspec = true → a.unspec = true ∨ ∃ b, opZeroed op = some b ∧ (a.bufAt b).dirty = true

theorem flags_of_alloc {cfg : Cfg} {nb : Nat} {a a1 a' : Arena} {b : Nat} {zero : Bool} {fill : Bytes} {r : Ref} {op : Op}
    (h1 : allocMem cfg nb a b zero fill = .ok (a1, r))
    (hraw : zero = false → opRaw op = some b) (hz : zero = true → opZeroed op = some b)
    (hd : ∀ j, (a'.bufAt j).dirty = (a1.bufAt j).dirty) (hu : a'.unspec = a1.unspec) :
    FlagsStep a a' op := by
  have ⟨hd1, hu1⟩ := allocMem_flags h1
  refine ⟨fun j hj => ?_, fun h => ?_⟩
  · rw [hd] at hj
    exact (hd1 j hj).imp id (fun h => by rw [h.1]; exact hraw h.2)
  · rw [hu] at h
    exact (hu1 h).imp id (fun h => ⟨b, hz h.1, h.2⟩)

theorem flags_of_same {a a' : Arena} {op : Op} (hd : ∀ j, (a'.bufAt j).dirty = (a.bufAt j).dirty) (hu : a'.unspec = a.unspec) :
    FlagsStep a a' op :=
  ⟨fun j hj => Or.inl (by rwa [hd] at hj), fun h => Or.inl (by rwa [hu] at h)⟩

theorem exec_flags {cfg : Cfg} {nb : Nat} {a : Arena} {op : Op} {a' : Arena} {o : Out} (hres : exec cfg nb a op = .ok (a', o)) :
    FlagsStep a a' op := by
  revert hres
  -- as in `exec_sim`: one goal per successful branch of `exec`, in the order of `Op` (write, zalloc, struct, reloc, setPtr, ptr, poke, ref, rt, regPtr)
  fun_cases exec cfg nb a op <;> intro hres <;> cases hres
  next h1 => exact flags_of_alloc h1 (fun _ => rfl) (fun h => nomatch h) (fun _ => rfl) rfl
  next h1 => exact flags_of_alloc h1 (fun h => nomatch h) (fun _ => rfl) (fun _ => rfl) rfl
  next h1 => exact flags_of_alloc h1 (fun h => nomatch h) (fun _ => rfl) (fun _ => rfl) rfl
  · exact flags_of_same (fun _ => rfl) rfl
  · exact flags_of_same (fun j => bufAt_setSlot_dirty ..) rfl
  next h1 => exact flags_of_alloc h1 (fun _ => rfl) (fun h => nomatch h) (fun _ => rfl) rfl
  · rw [setBuf_poke_eq]
    exact flags_of_same (fun j => by rw [bufAt_pokeA]; split <;> rfl) rfl
  · exact flags_of_same (fun _ => rfl) rfl
  · exact flags_of_same (fun _ => rfl) rfl
  · exact flags_of_same (fun j => bufAt_setSlot_dirty ..) rfl

theorem dirtyIn_create (n init : Nat) : DirtyIn (create n init) [] := by
  intro j hj
  have : (create n init).bufAt j = {} := by
    unfold create Arena.bufAt
    simp only [List.getD_eq_getElem?_getD, List.getElem?_replicate]
    split <;> rfl
  rw [this] at hj; cases hj

end YaraModel.Arena
