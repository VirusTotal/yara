/-
  Weighted sums over a list and `filterMap` under `set`, and the index arithmetic of a ring buffer: what the proofs about
  the file queue (D11) need beyond Base/List.lean.
-/
import YaraModel.Base.List
namespace YaraModel.Queue
open List (set_split)

def wsum {β : Type} (w : β → Nat) (l : List β) : Nat := (l.map w).sum

@[simp] theorem wsum_nil {β : Type} (w : β → Nat) : wsum w [] = 0 := rfl
@[simp] theorem wsum_cons {β : Type} (w : β → Nat) (x : β) (l : List β) : wsum w (x :: l) = w x + wsum w l := by
  simp [wsum]

theorem wsum_append {β : Type} (w : β → Nat) (A B : List β) : wsum w (A ++ B) = wsum w A + wsum w B := by
  simp only [wsum, List.map_append, List.sum_append_nat]

theorem wsum_set {β : Type} (w : β → Nat) {l : List β} {i : Nat} {pc : β} (h : l[i]? = some pc) (x : β) :
    wsum w (l.set i x) + w pc = wsum w l + w x := by
  obtain ⟨A, B, rfl, hs⟩ := set_split h
  rw [hs, wsum_append, wsum_append, wsum_cons, wsum_cons]
  omega

theorem wsum_ge {β : Type} (w : β → Nat) (l : List β) (i : Nat) (pc : β) (h : l[i]? = some pc) : w pc ≤ wsum w l := by
  obtain ⟨A, B, rfl, _⟩ := set_split h
  rw [wsum_append, wsum_cons]
  omega

theorem wsum_eq_zero {β : Type} (w : β → Nat) (l : List β) (h : ∀ x ∈ l, w x = 0) : wsum w l = 0 :=
  List.sum_eq_zero_iff_forall_eq_nat.2 (List.forall_mem_map.2 h)

theorem wsum_le_length {β : Type} (w : β → Nat) (l : List β) (h : ∀ x, w x ≤ 1) : wsum w l ≤ l.length := by
  induction l with
  | nil => simp
  | cons y ys ih => have := h y; simp; omega

theorem wsum_lt_length {β : Type} (w : β → Nat) (l : List β) (h : ∀ x, w x ≤ 1) (i : Nat) (pc : β)
    (hi : l[i]? = some pc) (h0 : w pc = 0) : wsum w l < l.length := by
  obtain ⟨A, B, rfl, _⟩ := set_split hi
  have := wsum_le_length w A h
  have := wsum_le_length w B h
  rw [wsum_append, wsum_cons, List.length_append, List.length_cons]
  omega

theorem wsum_eq_length {β : Type} (w : β → Nat) (l : List β) (h : ∀ x ∈ l, w x = 1) : wsum w l = l.length := by
  rw [wsum, List.eq_replicate_iff.2 ⟨List.length_map .., List.forall_mem_map.2 h⟩, List.sum_replicate_nat, Nat.mul_one]

theorem filterMap_set_same {β γ : Type} (f : β → Option γ) (l : List β) (i : Nat) (pc pc' : β)
    (h : l[i]? = some pc) (hf : f pc' = f pc) : (l.set i pc').filterMap f = l.filterMap f := by
  obtain ⟨A, B, rfl, hs⟩ := set_split h
  rw [hs, List.filterMap_append, List.filterMap_append, List.filterMap_cons, List.filterMap_cons, hf]

/-- the counterpart of `wsum_set`, as multisets (`filterMap_set_same` keeps the order) -/
theorem filterMap_set {β γ : Type} (f : β → Option γ) {l : List β} {i : Nat} {pc : β} (h : l[i]? = some pc) (x : β) :
    ((l.set i x).filterMap f ++ (f pc).toList).Perm ((f x).toList ++ l.filterMap f) := by
  obtain ⟨A, B, rfl, hs⟩ := set_split h
  rw [hs, List.filterMap_append, List.filterMap_append, List.filterMap_cons, List.filterMap_cons]
  cases f pc <;> cases f x <;>
    simp only [Option.toList_none, Option.toList_some, List.append_nil, List.nil_append, List.append_assoc,
      List.cons_append]
  · exact .refl _
  · exact List.perm_middle
  · exact (List.perm_append_singleton ..).append_left _
  · exact List.perm_middle.trans (((List.perm_append_singleton ..).append_left _).cons _)

theorem mod_add_inj {R a i j : Nat} (hi : i < R) (hj : j < R) (e : (a + i) % R = (a + j) % R) : i = j := by
  have h1 := Nat.sub_mod_eq_zero_of_mod_eq e
  have h2 := Nat.sub_mod_eq_zero_of_mod_eq e.symm
  rw [Nat.add_sub_add_left, Nat.mod_eq_of_lt (Nat.lt_of_le_of_lt (Nat.sub_le _ _) ‹_›)] at h1 h2
  exact Nat.le_antisymm (Nat.le_of_sub_eq_zero h1) (Nat.le_of_sub_eq_zero h2)

theorem mod_add_eq_self {R h k : Nat} (hh : h < R) (hk : k < R) (e : (h + k) % R = h) : k = 0 :=
  mod_add_inj hk (by omega) (e.trans (Nat.mod_eq_of_lt hh).symm)

theorem succ_mod_add {R h k : Nat} : ((h + 1) % R + k) % R = (h + (k + 1)) % R := by
  rw [Nat.mod_add_mod]; congr 1; omega

theorem mod_add_sub_self {R h k : Nat} (hh : h < R) (hk : k < R) : ((h + k) % R + R - h) % R = k := by
  apply mod_add_inj (a := h) (Nat.mod_lt _ (by omega)) hk
  rw [Nat.add_mod_mod]
  have : h + ((h + k) % R + R - h) = (h + k) % R + R := by omega
  rw [this, Nat.add_mod_right, Nat.mod_mod]

end YaraModel.Queue
