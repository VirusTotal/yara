/-
  What hex_grammar.y can build (`Gram`: an inductive description of the ASTs of its grammar symbols) lies inside the
  fragment `HexG` of the VM-completeness theorems, and so does its mirror image; the decidable predicates of
  Model/ReHexG.lean (evaluated by the driver on the AST of every generated hex string) are sound for both.
-/
import YaraModel.Model.ReHexG
import YaraModel.Lemmas.ReCompleteSF
import YaraModel.Lemmas.ReAtoms
namespace YaraModel.ReEmit
open YaraModel.Re YaraModel.ReHexG YaraModel.ReAtoms

/-- the ASTs of the grammar symbols of hex_grammar.y.  A jump (`range`) only occurs BETWEEN tokens: `tokens` begins and
    ends with a token, and so does every alternative; only the pieces of a chained string (cut at jumps of the root
    concatenation) may begin or end with a jump.  No two jumps are adjacent (consecutive jumps are merged by the grammar). -/
inductive Gram : Kind → Re → Prop
  | byte (b : UInt8) : Gram .tok (.lit b)
  | wild : Gram .tok .any
  | mask (v m : UInt8) : MaskGood m → Gram .tok (.masked v m)
  | notByte (b : UInt8) : Gram .tok (.notLit b)
  | notMask (v m : UInt8) : Gram .tok (.maskedNot v m)
  | group {r} : Gram .alts r → Gram .tok r                       -- token : '(' alternatives ')'
  | altOne {r} : Gram .toks r → Gram .alts r                     -- alternatives : tokens
  | altMore {a b} : Gram .alts a → Gram .toks b → Gram .alts (.alt a b)   -- alternatives '|' tokens
  | single {t} : Gram .tok t → Gram .toks t                      -- tokens : token
  | seq {t r} : Gram .tok t → Gram .mid r → Gram .toks (.cat t r)  -- token token | token token_sequence token
  | last {t} : Gram .tok t → Gram .mid t
  | midTok {t r} : Gram .tok t → Gram .mid r → Gram .mid (.cat t r)
  | midJump {r} (lo hi : Nat) : lo ≤ hi → hi < 65536 → noJumpHead r = true → Gram .mid r → Gram .mid (.cat (.rangeAny lo hi false) r)
  | pieceTok {t} : Gram .tok t → Gram .piece t
  | pieceJump (lo hi : Nat) : lo ≤ hi → hi < 65536 → Gram .piece (.rangeAny lo hi false)
  | pieceConsTok {t r} : Gram .tok t → Gram .piece r → Gram .piece (.cat t r)
  | pieceConsJump {r} (lo hi : Nat) : lo ≤ hi → hi < 65536 → noJumpHead r = true → Gram .piece r → Gram .piece (.cat (.rangeAny lo hi false) r)

theorem maskGood_iff (m : UInt8) : maskGood m = true ↔ MaskGood m := by
  unfold maskGood MaskGood
  simp [Bool.or_eq_true, beq_iff_eq, or_assoc]

theorem leafTok_gram {r : Re} (h : leafTok r = true) : Gram .tok r := by
  cases r <;> simp [leafTok] at h
  · exact .byte _
  · exact .mask _ _ ((maskGood_iff _).1 h)
  · exact .notByte _
  · exact .notMask _ _
  · exact .wild

theorem isJump_inv {r : Re} (h : isJump r = true) : ∃ lo hi, r = .rangeAny lo hi false ∧ lo ≤ hi ∧ hi < 65536 := by
  cases r with
  | rangeAny lo hi g =>
    cases g <;> simp [isJump] at h
    exact ⟨lo, hi, rfl, h.1, h.2⟩
  | _ => simp [isJump] at h

theorem Gram.ofTok {r : Re} (h : Gram .tok r) : ∀ k, Gram k r
  | .tok => h
  | .toks => .single h
  | .alts => .altOne (.single h)
  | .mid => .last h
  | .piece => .pieceTok h

theorem gram_sound (r : Re) (k : Kind) : gram k r = true → Gram k r := by
  -- the eight equations of `gram`: a concatenation as token (a group of one alternative), `tokens`, alternative, rest of a sequence,
  -- piece; an alternation (a group: a token) under any symbol; a jump as a piece; a byte-like token under any symbol
  fun_induction gram k r with
  | case1 a b iha ihb => exact fun h => .group (.altOne (.seq (iha (Bool.and_eq_true_iff.1 h).1) (ihb (Bool.and_eq_true_iff.1 h).2)))
  | case2 a b iha ihb => exact fun h => .seq (iha (Bool.and_eq_true_iff.1 h).1) (ihb (Bool.and_eq_true_iff.1 h).2)
  | case3 a b iha ihb => exact fun h => .altOne (.seq (iha (Bool.and_eq_true_iff.1 h).1) (ihb (Bool.and_eq_true_iff.1 h).2))
  | case4 a b iha ihb =>
    intro h
    simp only [Bool.and_eq_true, Bool.or_eq_true] at h
    rcases h.1 with hj | ht
    · obtain ⟨lo, hi, rfl, h1, h2⟩ := isJump_inv hj.1
      exact .midJump lo hi h1 h2 hj.2 (ihb h.2)
    · exact .midTok (iha ht) (ihb h.2)
  | case5 a b iha ihb =>
    intro h
    simp only [Bool.and_eq_true, Bool.or_eq_true] at h
    rcases h.1 with hj | ht
    · obtain ⟨lo, hi, rfl, h1, h2⟩ := isJump_inv hj.1
      exact .pieceConsJump lo hi h1 h2 hj.2 (ihb h.2)
    · exact .pieceConsTok (iha ht) (ihb h.2)
  | case6 k a b iha ihb =>
    exact fun h => .ofTok (.group (.altMore (iha (Bool.and_eq_true_iff.1 h).1) (ihb (Bool.and_eq_true_iff.1 h).2))) k
  | case7 r _ _ =>
    intro h
    rcases Bool.or_eq_true_iff.1 h with hj | ht
    · obtain ⟨lo, hi, rfl, h1, h2⟩ := isJump_inv hj
      exact .pieceJump lo hi h1 h2
    · exact .pieceTok (leafTok_gram ht)
  | case8 k r => exact fun h => .ofTok (leafTok_gram h) k

/-- what the induction over `Gram` carries: tokens, `tokens` and alternatives begin with a byte-like token (field `hd`), and all of
    these and the rest of a sequence END with one (field `hdrev`) -/
structure GramFacts (k : Kind) (r : Re) : Prop where
  hexG : HexG r
  hexGrev : HexG (rev r)
  mask : MaskOK r
  hd : k ≠ .mid → k ≠ .piece → Hd r
  hdrev : k ≠ .piece → Hd (rev r)

theorem gram_facts {k : Kind} {r : Re} (h : Gram k r) : GramFacts k r := by
  induction h with
  | byte b => exact ⟨.byte b, .byte b, trivial, fun _ _ => .byte b, fun _ => .byte b⟩
  | wild => exact ⟨.wild, .wild, trivial, fun _ _ => .wild, fun _ => .wild⟩
  | mask v m hm => exact ⟨.mask v m, .mask v m, hm, fun _ _ => .mask v m, fun _ => .mask v m⟩
  | notByte b => exact ⟨.notByte b, .notByte b, trivial, fun _ _ => .notByte b, fun _ => .notByte b⟩
  | notMask v m => exact ⟨.notMask v m, .notMask v m, trivial, fun _ _ => .notMask v m, fun _ => .notMask v m⟩
  | group _ ih => exact ⟨ih.hexG, ih.hexGrev, ih.mask, fun _ _ => ih.hd (by decide) (by decide), fun _ => ih.hdrev (by decide)⟩
  | altOne _ ih => exact ⟨ih.hexG, ih.hexGrev, ih.mask, fun _ _ => ih.hd (by decide) (by decide), fun _ => ih.hdrev (by decide)⟩
  | altMore _ _ ih1 ih2 =>
    have a1 := ih1.hd (by decide) (by decide)
    have a2 := ih1.hdrev (by decide)
    have b1 := ih2.hd (by decide) (by decide)
    have b2 := ih2.hdrev (by decide)
    exact ⟨.alt ih1.hexG ih2.hexG a1, .alt ih1.hexGrev ih2.hexGrev a2, ⟨ih1.mask, ih2.mask⟩, fun _ _ => .alt a1 b1, fun _ => .alt a2 b2⟩
  | single _ ih => exact ⟨ih.hexG, ih.hexGrev, ih.mask, fun _ _ => ih.hd (by decide) (by decide), fun _ => ih.hdrev (by decide)⟩
  | seq _ _ ih1 ih2 =>
    exact ⟨.seq ih1.hexG ih2.hexG, .seq ih2.hexGrev ih1.hexGrev, ⟨ih1.mask, ih2.mask⟩, fun _ _ => .seq _ (ih1.hd (by decide) (by decide)),
      fun _ => .seq _ (ih2.hdrev (by decide))⟩
  | last _ ih => exact ⟨ih.hexG, ih.hexGrev, ih.mask, fun h => absurd rfl h, fun _ => ih.hdrev (by decide)⟩
  | midTok _ _ ih1 ih2 =>
    exact ⟨.seq ih1.hexG ih2.hexG, .seq ih2.hexGrev ih1.hexGrev, ⟨ih1.mask, ih2.mask⟩, fun h => absurd rfl h, fun _ => .seq _ (ih2.hdrev (by decide))⟩
  | midJump lo hi h1 h2 _ _ ih =>
    exact ⟨.seq (.jump lo hi h1 h2) ih.hexG, .seq ih.hexGrev (.jump lo hi h1 h2), ⟨trivial, ih.mask⟩, fun h => absurd rfl h,
      fun _ => .seq _ (ih.hdrev (by decide))⟩
  | pieceTok _ ih => exact ⟨ih.hexG, ih.hexGrev, ih.mask, fun _ h => absurd rfl h, fun h => absurd rfl h⟩
  | pieceJump lo hi h1 h2 => exact ⟨.jump lo hi h1 h2, .jump lo hi h1 h2, trivial, fun _ h => absurd rfl h, fun h => absurd rfl h⟩
  | pieceConsTok _ _ ih1 ih2 =>
    exact ⟨.seq ih1.hexG ih2.hexG, .seq ih2.hexGrev ih1.hexGrev, ⟨ih1.mask, ih2.mask⟩, fun _ h => absurd rfl h, fun h => absurd rfl h⟩
  | pieceConsJump lo hi h1 h2 _ _ ih =>
    exact ⟨.seq (.jump lo hi h1 h2) ih.hexG, .seq ih.hexGrev (.jump lo hi h1 h2), ⟨trivial, ih.mask⟩, fun _ h => absurd rfl h, fun h => absurd rfl h⟩

theorem mirror_eq_rev (r : Re) : mirror r = rev r := by
  induction r <;> simp [mirror, rev, *]

theorem hd_iff {r : Re} : hd r = true ↔ Hd r := by
  constructor
  · intro h
    induction r with
    | lit b => exact .byte b
    | any => exact .wild
    | masked v m => exact .mask v m
    | notLit b => exact .notByte b
    | maskedNot v m => exact .notMask v m
    | rangeAny lo hi g => exact .jump lo hi g (of_decide_eq_true h)
    | cat a b iha _ => exact .seq b (iha h)
    | alt a b iha ihb => exact .alt (iha (Bool.and_eq_true_iff.1 h).1) (ihb (Bool.and_eq_true_iff.1 h).2)
    | _ => exact Bool.noConfusion (h : false = true)
  · intro h
    induction h with
    | jump lo hi g h1 => exact decide_eq_true h1
    | seq b _ ih => exact ih
    | alt _ _ ih1 ih2 => exact Bool.and_eq_true_iff.2 ⟨ih1, ih2⟩
    | _ => rfl

theorem hexG_iff (r : Re) : hexG r = true ↔ HexG r := by
  constructor
  · intro h
    induction r with
    | lit b => exact .byte b
    | any => exact .wild
    | masked v m => exact .mask v m
    | notLit b => exact .notByte b
    | maskedNot v m => exact .notMask v m
    | rangeAny lo hi g =>
      simp only [hexG, Bool.and_eq_true, Bool.not_eq_true', decide_eq_true_eq] at h
      obtain ⟨⟨rfl, h1⟩, h2⟩ := h
      exact .jump lo hi h1 h2
    | cat a b iha ihb =>
      simp only [hexG, Bool.and_eq_true] at h
      exact .seq (iha h.1) (ihb h.2)
    | alt a b iha ihb =>
      simp only [hexG, Bool.and_eq_true] at h
      exact .alt (iha h.1.1) (ihb h.1.2) (hd_iff.1 h.2)
    | _ => simp [hexG] at h
  · intro h
    induction h with
    | jump lo hi h1 h2 => simp [hexG, h1, h2]
    | seq _ _ ih1 ih2 => simp [hexG, ih1, ih2]
    | alt _ _ hd' ih1 ih2 => simp [hexG, ih1, ih2, hd_iff.2 hd']
    | _ => rfl

theorem maskOK_sound : ∀ {r : Re}, maskOK r = true → MaskOK r := by
  intro r
  induction r with
  | masked v m => intro h; exact (maskGood_iff m).1 (by simpa [maskOK] using h)
  | cat a b iha ihb => intro h; simp only [maskOK, Bool.and_eq_true] at h; exact ⟨iha h.1, ihb h.2⟩
  | alt a b iha ihb => intro h; simp only [maskOK, Bool.and_eq_true] at h; exact ⟨iha h.1, ihb h.2⟩
  | star a g ih => intro h; exact ih (by simpa [maskOK] using h)
  | plus a g ih => intro h; exact ih (by simpa [maskOK] using h)
  | range a lo hi g ih => intro h; exact ih (by simpa [maskOK] using h)
  | _ => intro _; trivial

end YaraModel.ReEmit
