/-
  C17 — Incomplete or damaged compiled-rule files are rejected, never half-loaded.
  Property theorems, the witness arena `exLoaded` and one step lemma of the relocation loop (helpers: Lemmas/ArenaLoad.lean,
  ArenaImage.lean, ArenaRoundTrip.lean, ArenaCorrupt.lean, ArenaLoadRules.lean, RulesFile.lean).  `save a` is the image written by
  yr_arena_save_stream for an arena `a`; `(save a).take k` is what is on disk when the writer died
  after k bytes; `load` is yr_arena_load_stream on a stream with exactly that content.
  The statements hold for every arena with at most `maxBuffers` buffers, every allocator `alloc`,
  and EVERY cut point k in the stated region.

  Single-field corruptions: `patch img off bs` overwrites a field; the new value is ANY value of the
  field's type other than the one stored.  `Hardened cfg` = the loader with every test of the current source tree
  (`hardened_loaderCfg`: that is the configuration the translator reads from arena.c).  Magic, version, num_buffers,
  every offset and every size but the last entry's are always refused (`corrupt_*`, with the error code); for the last
  entry's size `size_change_accepted_iff` says exactly when the file is accepted (known finding F51).
-/
import YaraModel.Lemmas.ArenaExample
import YaraModel.Lemmas.ArenaLoadRules
import YaraModel.Lemmas.RulesFile
import YaraModel.Gen.RulesFile
namespace YaraModel.Arena
open YaraModel.Gen.ArenaLayout

/-- **Cut inside the header**: every prefix shorter than the 6-byte header is rejected as an invalid file. -/
theorem prefix_header (cfg : LoaderCfg) (a : Arena) (alloc : Nat → Nat) (k : Nat) (hk : k < headerSize) :
    load cfg alloc ((save a).take k) = .error .invalidFile := by
  have : ((save a).take k).length < headerSize := by rw [List.length_take]; omega
  rw [load_eq, parseHeader_short this]

/-- **Cut inside the buffer table**: every prefix that ends before the table is complete is
    rejected as a corrupt file. -/
theorem prefix_table (cfg : LoaderCfg) (a : Arena) (alloc : Nat → Nat) (hn : a.bufs.length ≤ maxBuffers) (k : Nat)
    (h1 : headerSize ≤ k) (h2 : k < bodiesStart a) :
    load cfg alloc ((save a).take k) = .error .corruptFile := by
  rw [save_split, take_header_append _ _ h1]
  unfold bodiesStart at h2
  have hshort : (List.take (k - headerSize)
      (table (headerSize + tableEntrySize * a.bufs.length) ((bodies a).map (·.length)) ++
        ((bodies (toRefs a)).flatten ++ relocBytes a.relocs))).length < tableEntrySize * a.bufs.length := by
    rw [List.length_take]; omega
  rw [load_eq, parseHeader_header _ hn]
  simp only
  rw [parseTable_short hshort]

/-- **Cut inside the buffer bodies**: every prefix that ends after the table but before the last
    byte of the last buffer is rejected as a corrupt file (the buffer whose `fread` comes back
    short). Buffers are below 2 GiB so that the loader's own allocation does not fail first. -/
theorem prefix_bodies (cfg : LoaderCfg) (a : Arena) (alloc : Nat → Nat) (hn : a.bufs.length ≤ maxBuffers)
    (hs : ∀ b ∈ a.bufs, b.data.length ≤ 2 ^ 31) (k : Nat)
    (h1 : bodiesStart a ≤ k) (h2 : k < bodiesEnd a) :
    load cfg alloc ((save a).take k) = .error .corruptFile := by
  obtain ⟨m, rfl⟩ := Nat.exists_eq_add_of_le h1
  rw [bodiesEnd_eq, bodiesStart_eq] at h2
  have ⟨hn', hl⟩ := saved_loadable hn hs
  rw [save_eq_image, bodiesStart_eq, take_image, load_table cfg alloc _ (List.length_map _) hn'
      (List.forall_mem_map.2 fun d hd => (hl d hd).1),
    readBodies_short alloc 0 _ _ (List.forall_mem_map.2 (length_le_of_mem_bodies_toRefs hs))
      (Nat.lt_of_le_of_lt (List.length_take_le ..) (List.length_flatten ▸ Nat.lt_of_add_lt_add_left h2))]

/-- the hypotheses of the three prefix theorems are satisfiable by a non-trivial arena (three buffers, one
    unallocated, two registered pointers), whose image is 80 bytes with the bodies ending at byte 64 -/
example : exArena.bufs.length ≤ maxBuffers ∧ (∀ b ∈ exArena.bufs, b.data.length ≤ 2 ^ 31) ∧
    bodiesStart exArena = 42 ∧ bodiesEnd exArena = 64 ∧ (save exArena).length = 80 :=
  ⟨by decide, exArena_small, by decide, exArena_bodiesEnd, exArena_save_length⟩

/-- **A trailing partial relocation entry** is silently dropped by a loader that requests entries as one
    8-byte item (`yr_stream_read(…, 8, 1)` returns 0 for it and the loop ends as if the stream had ended at the
    previous entry boundary), and refused by a loader that notices the leftover bytes. -/
theorem applyRelocs_partial (cfg : LoaderCfg) (a : Arena) (tail : Bytes) (ht : tail.length < 8) (hne : tail ≠ []) :
    applyRelocs cfg a tail = if cfg.rejectsPartial then .error .corruptFile else .ok a := by
  fun_cases applyRelocs cfg a tail with
  | case7 => exact absurd rfl hne
  | case8 => rw [if_pos ‹_›]
  | case9 => rw [if_neg ‹_›]
  | case1 | case2 | case3 | case4 | case5 | case6 => simp only [List.length_cons] at ht; omega

/-- **Every cut at a relocation-entry boundary is accepted (known finding F9, general form).**
    For every well-formed arena, every loader configuration (with or without the hardening) and every
    k ≤ number of entries, the image cut after its k-th relocation entry loads successfully; the arena
    returned has only the first k entries registered — the slots of all later entries keep their
    on-disk (buffer, offset) references where the scanner expects pointers. -/
theorem reloc_cut_accepted (cfg : LoaderCfg) {a : Arena} (h : WF a) (hs2 : ∀ b ∈ a.bufs, b.data.length ≤ 2 ^ 31)
    (alloc : Nat → Nat) (hA : RangesOk (loadedBufs alloc 0 (bodies (toRefs a)))) (hnz : ∀ i, alloc i ≠ 0) (k : Nat) :
    ∃ a', load cfg alloc ((save a).take (bodiesEnd a + 8 * k)) = .ok a' ∧ a'.relocs = a.relocs.take k := by
  have ⟨hn, hs⟩ := saved_loadable h.count hs2
  obtain ⟨A, hl, hr, _⟩ := load_image_good cfg alloc hnz hn hs ((AGood.of_wf h).sublist (List.take_sublist k a.relocs))
  rw [save_eq_image, bodiesEnd_eq, Nat.add_assoc, take_image_tail, take_relocBytes]
  exact ⟨A, hl, hr⟩

/-- what the loader returns for the example image cut after its first relocation entry (byte 72 of 80) -/
def exLoaded : Arena :=
  { bufs := [{ data := [2, 0, 32, 0, 0, 0, 0, 0, 1, 2, 255, 255, 255, 255, 255, 255, 255, 255], cap := 10485, base := 1048576, dirty := true },
             { data := [7, 7, 7, 7], cap := 10485, base := 2097152, dirty := true }, {}],
    relocs := [⟨0, 0⟩], init := 10485 }

/-- **Negation witness for cuts inside the relocation section (known finding F9).**
    The format has no entry count and no terminator: the relocation loop reads entries until the
    stream ends.  There is a well-formed arena and a proper prefix of its image, cut after the
    buffer bodies, that the loader ACCEPTS; in the returned arena a slot the writer had registered is
    not registered and still holds the on-disk reference (here ff…ff), not a pointer.  So
    "every proper prefix is rejected" is false for cut points ≥ `bodiesEnd`; it is proved above for
    all cut points < `bodiesEnd`.  The witness is cut at an entry boundary and is evaluated with `loaderCfg`, the
    loader configuration read from the source tree; `reloc_cut_accepted` covers every configuration. -/
theorem reloc_cut_accepted_witness :
    ∃ (a : Arena) (k : Nat), WF a ∧ bodiesEnd a ≤ k ∧ k < (save a).length ∧
      ∃ a', load loaderCfg exAlloc ((save a).take k) = .ok a' ∧
        ∃ r ∈ a.relocs, r ∉ a'.relocs ∧ ¬ ValidPtr a'.bufs (getSlot a' r) :=
  ⟨exArena, 72, exArena_wf, by rw [exArena_bodiesEnd]; decide, by rw [exArena_save_length]; decide, exLoaded, by rfl, ⟨0, 10⟩,
    by decide, by decide, by decide⟩

/-- the loader of the source tree performs every validation the corruption theorems ask for (if an edit of arena.c
    drops one — the offset cross-check, the guarded bounds test, the reference-target test, its `>=`, the refusal of a
    trailing partial entry — the translator regenerates the constant and this stops being provable) -/
theorem hardened_loaderCfg : Hardened loaderCfg := ⟨rfl, rfl, rfl, rfl, rfl⟩

/-- **Magic.** Any of the four magic bytes replaced by any other byte: ERROR_INVALID_FILE. Every loader configuration. -/
theorem corrupt_magic (cfg : LoaderCfg) (alloc : Nat → Nat) (a : Arena) (i : Nat) (hi : i < 4) (v : UInt8)
    (hv : v ≠ (save a).getD i 0) : load cfg alloc (patch (save a) i [v]) = .error .invalidFile :=
  load_patch_magic cfg alloc (save a) (by rw [save_split]; rfl) i hi v hv

/-- **Version.** The version byte replaced by any other byte (older or newer): ERROR_UNSUPPORTED_FILE_VERSION. -/
theorem corrupt_version (cfg : LoaderCfg) (alloc : Nat → Nat) (a : Arena) (v : UInt8)
    (hv : v ≠ (save a).getD hdrVersionOff 0) :
    load cfg alloc (patch (save a) hdrVersionOff [v]) = .error .unsupportedFileVersion :=
  load_patch_version cfg alloc (save a) (by rw [save_split]; rfl) (Nat.le_trans (Nat.le_add_right ..) (save_length_ge a))
    (by rw [save_split]; rfl) v hv

/-- **num_buffers.** The buffer count replaced by any other byte: ERROR_INVALID_FILE above `maxBuffers`, otherwise
    ERROR_CORRUPT_FILE (a larger count: the table read comes back short or the first offset no longer equals the table's
    end; a smaller non-zero count: the first offset again; zero: the table is taken for relocation entries into an arena
    without buffers).  Needs the offset cross-check. -/
theorem corrupt_num_buffers (cfg : LoaderCfg) (hoffs : cfg.checksOffsets = true) (alloc : Nat → Nat) {a : Arena} (h : WF a) (v : UInt8)
    (hv : v ≠ (save a).getD hdrNumBuffersOff 0) :
    load cfg alloc (patch (save a) hdrNumBuffersOff [v]) = .error (if v.toNat > maxBuffers then .invalidFile else .corruptFile) := by
  rw [save_eq_image]
  refine load_patch_numbufs cfg hoffs alloc _ (by rw [length_bodies_toRefs]; exact h.count) _ (fun he => ?_) v ?_
  · rw [relocs_nil_of_no_bufs h (by rw [← length_bodies_toRefs, he]; rfl)]
    rfl
  · rw [length_bodies_toRefs, ← save_numbufs a h.count]
    exact fun e => hv (UInt8.toNat_inj.1 e)

/-- **Offset.** The 64-bit offset of any table entry replaced by any other 64-bit value: ERROR_CORRUPT_FILE. -/
theorem corrupt_offset (cfg : LoaderCfg) (hoffs : cfg.checksOffsets = true) (alloc : Nat → Nat) (a : Arena)
    (hn : a.bufs.length ≤ maxBuffers) (i : Nat) (hi : i < a.bufs.length) (v : Nat) (hv : v < 2 ^ 64)
    (hne : v ≠ rdLE tblOffsetSize (save a) (offsetFieldAt i)) :
    load cfg alloc (patch (save a) (offsetFieldAt i) (leBytes 8 v)) = .error .corruptFile := by
  obtain ⟨pre, o, u, post, rest, hs, rfl, hl, hok⟩ := save_split_entry a i hi
  rw [hs] at hne ⊢
  rw [rdLE_offset_raw] at hne
  exact load_patch_offset cfg hoffs alloc hl hn hok rest (by rwa [Nat.mod_eq_of_lt hv])

/-- **Size, not the last entry.** The 32-bit size of any table entry but the last replaced by any other 32-bit value:
    ERROR_CORRUPT_FILE (the next entry's offset is no longer the running sum). -/
theorem corrupt_size_not_last (cfg : LoaderCfg) (hoffs : cfg.checksOffsets = true) (alloc : Nat → Nat) (a : Arena)
    (hn : a.bufs.length ≤ maxBuffers) (i : Nat) (hi : i + 1 < a.bufs.length) (z : Nat) (hz : z < 2 ^ 32)
    (hne : z ≠ rdLE tblSizeSize (save a) (sizeFieldAt i)) :
    load cfg alloc (patch (save a) (sizeFieldAt i) (leBytes 4 z)) = .error .corruptFile := by
  obtain ⟨pre, o, u, post, rest, hs, rfl, hl, hok⟩ := save_split_entry a i (by omega)
  rw [hs] at hne ⊢
  rw [rdLE_size_raw] at hne
  cases post with
  | nil => simp only [List.length_append, List.length_cons, List.length_nil] at hl; omega
  | cons next post => exact load_patch_size cfg hoffs alloc hl hn hok rest (by rwa [Nat.mod_eq_of_lt hz])

/-- **Size of the last entry, raised.** With `len` the last buffer's size and `z > len` the new value: the file is
    accepted if and only if `z − len` is a multiple of 8, at most 8 × (number of relocation entries), and the loader's own
    allocation of `z` bytes succeeds (`CapOk`: z ≤ 10485·2^18); then the last buffer has swallowed the first
    `(z − len)/8` entries and only the others are applied — the slots of the swallowed entries keep their on-disk
    references (same damage as F9).  Otherwise ERROR_CORRUPT_FILE (ERROR_INSUFFICIENT_MEMORY if the allocation fails). -/
theorem corrupt_size_last_raised (cfg : LoaderCfg) (hh : Hardened cfg) (alloc : Nat → Nat) (hnz : ∀ i, alloc i ≠ 0) {a : Arena} (h : WF a)
    (hs2 : ∀ b ∈ a.bufs, b.data.length ≤ 2 ^ 31) (m : Nat) (hm : a.bufs.length = m + 1) (z : Nat) (hz : z < 2 ^ 32)
    (hgt : (a.bufAt m).data.length < z) :
    ((∃ A, load cfg alloc (patch (save a) (sizeFieldAt m) (leBytes 4 z)) = .ok A) ↔
      ((z - (a.bufAt m).data.length) % 8 = 0 ∧ z - (a.bufAt m).data.length ≤ 8 * a.relocs.length ∧ CapOk z)) ∧
    (((z - (a.bufAt m).data.length) % 8 = 0 ∧ z - (a.bufAt m).data.length ≤ 8 * a.relocs.length ∧ CapOk z) →
      ∃ A, load cfg alloc (patch (save a) (sizeFieldAt m) (leBytes 4 z)) = .ok A ∧
        A.relocs = a.relocs.drop ((z - (a.bufAt m).data.length) / 8)) ∧
    (¬ ((z - (a.bufAt m).data.length) % 8 = 0 ∧ z - (a.bufAt m).data.length ≤ 8 * a.relocs.length ∧ CapOk z) →
      load cfg alloc (patch (save a) (sizeFieldAt m) (leBytes 4 z)) =
        .error (if CapOk z then .corruptFile else .insufficientMemory)) := by
  obtain ⟨hpl, hn, hpre, _⟩ := saved_last_small h.count hs2 hm
  have g := AGood.of_wf h
  rw [split_last (bodies (toRefs a)) m (by rw [length_bodies_toRefs, hm]) []] at g
  rw [save_eq_image_last a m hm]
  rw [← length_getD_bodies_toRefs a m] at hgt ⊢
  have ⟨hok, hbad⟩ := load_patch_size_raised cfg hh alloc hnz _ _ hpl hn hpre g z hz hgt
  refine ⟨⟨fun ⟨A, hA⟩ => Classical.byContradiction fun hb => ?_, fun hc => (hok hc).imp fun A hA => hA.1⟩, hok, hbad⟩
  rw [hbad hb] at hA
  cases hA

/-- **Size of the last entry, lowered** to `z < len`: header, table and the other bodies are read as before, the last
    buffer keeps its first `z` bytes, and its remaining `len − z` bytes are fed to the relocation loop ahead of the real
    entries.  So the verdict is the loop's verdict on those bytes (it depends on the buffer's contents) … -/
theorem corrupt_size_last_lowered (cfg : LoaderCfg) (alloc : Nat → Nat) {a : Arena} (hn : a.bufs.length ≤ maxBuffers)
    (hs2 : ∀ b ∈ a.bufs, b.data.length ≤ 2 ^ 31) (m : Nat) (hm : a.bufs.length = m + 1) (z : Nat)
    (hlt : z < (a.bufAt m).data.length) :
    load cfg alloc (patch (save a) (sizeFieldAt m) (leBytes 4 z)) =
      applyRelocs cfg { bufs := loadedBufs alloc 0 ((bodies (toRefs a)).take m ++ [((bodies (toRefs a)).getD m []).take z]),
                        relocs := [], init := loadInitialSize }
        (((bodies (toRefs a)).getD m []).drop z ++ relocBytes a.relocs) := by
  obtain ⟨hpl, hn', hpre, hd⟩ := saved_last_small hn hs2 hm
  rw [save_eq_image_last a m hm]
  exact load_patch_size_lowered cfg alloc _ _ hpl hn' hpre hd _ z (by rw [length_getD_bodies_toRefs]; exact hlt)

/-- … and it is ERROR_CORRUPT_FILE unless a whole number of 8-byte entries was cut off. -/
theorem corrupt_size_last_lowered_dvd (cfg : LoaderCfg) (hh : Hardened cfg) (alloc : Nat → Nat) {a : Arena} (hn : a.bufs.length ≤ maxBuffers)
    (hs2 : ∀ b ∈ a.bufs, b.data.length ≤ 2 ^ 31) (m : Nat) (hm : a.bufs.length = m + 1) (z : Nat)
    (hlt : z < (a.bufAt m).data.length) :
    (∃ A', load cfg alloc (patch (save a) (sizeFieldAt m) (leBytes 4 z)) = .ok A' ∧ ((a.bufAt m).data.length - z) % 8 = 0) ∨
      load cfg alloc (patch (save a) (sizeFieldAt m) (leBytes 4 z)) = .error .corruptFile := by
  obtain ⟨hpl, hn', hpre, hd⟩ := saved_last_small hn hs2 hm
  rw [save_eq_image_last a m hm, ← length_getD_bodies_toRefs a m]
  exact load_patch_size_lowered_dvd cfg hh alloc _ _ hpl hn' hpre hd a.relocs z (by rw [length_getD_bodies_toRefs]; exact hlt)

/-- **Every size change, every value: exactly when the loader accepts** (the precise extent of known finding F51).
    For a well-formed arena (buffers ≤ 2 GiB), the fully checked loader, any entry `i` and any 32-bit value `z` other than
    the stored size: the corrupted file is accepted iff `i` is the LAST entry and either
    (raised) `z − len` is a positive multiple of 8 not exceeding 8 × #relocation-entries and `z` bytes can be allocated, or
    (lowered) `len − z` is a multiple of 8 and the bytes cut off the last buffer, read as relocation entries and followed
    by the real ones, all pass the loader's tests against the shortened buffer. -/
theorem size_change_accepted_iff (cfg : LoaderCfg) (hh : Hardened cfg) (alloc : Nat → Nat) (hnz : ∀ i, alloc i ≠ 0) {a : Arena} (h : WF a)
    (hs2 : ∀ b ∈ a.bufs, b.data.length ≤ 2 ^ 31) (i : Nat) (hi : i < a.bufs.length) (z : Nat) (hz : z < 2 ^ 32)
    (hne : z ≠ rdLE tblSizeSize (save a) (sizeFieldAt i)) :
    (∃ A, load cfg alloc (patch (save a) (sizeFieldAt i) (leBytes 4 z)) = .ok A) ↔
      i + 1 = a.bufs.length ∧
        (((a.bufAt i).data.length < z ∧ (z - (a.bufAt i).data.length) % 8 = 0 ∧
            z - (a.bufAt i).data.length ≤ 8 * a.relocs.length ∧ CapOk z) ∨
         (z < (a.bufAt i).data.length ∧ ((a.bufAt i).data.length - z) % 8 = 0 ∧
            ∃ A, applyRelocs cfg { bufs := loadedBufs alloc 0 ((bodies (toRefs a)).take i ++ [((bodies (toRefs a)).getD i []).take z]),
                                   relocs := [], init := loadInitialSize }
                  (((bodies (toRefs a)).getD i []).drop z ++ relocBytes a.relocs) = .ok A)) := by
  have hlen31 : (a.bufAt i).data.length ≤ 2 ^ 31 := hs2 _ (getD_mem i hi)
  have hne' := hne
  rw [save_size_field a i hi, Nat.mod_eq_of_lt (by omega)] at hne'
  -- in each of the three regions the right-hand side reduces to the one disjunct that can hold there
  by_cases hlast : i + 1 = a.bufs.length
  · have hm : a.bufs.length = i + 1 := hlast.symm
    rcases Nat.lt_or_gt_of_ne hne' with hlt | hgt
    · -- lowered: the verdict is the relocation loop's, and it is a refusal unless whole entries were cut off
      simp only [hlast, hlt, Nat.lt_asymm hlt, true_and, false_and, false_or]
      rw [← corrupt_size_last_lowered cfg alloc h.count hs2 i hm z hlt]
      refine ⟨fun ⟨A, hA⟩ => ⟨?_, A, hA⟩, And.right⟩
      rcases corrupt_size_last_lowered_dvd cfg hh alloc h.count hs2 i hm z hlt with ⟨_, _, h8⟩ | herr
      · exact h8
      · rw [hA] at herr; cases herr
    · -- raised
      simp only [hlast, hgt, Nat.lt_asymm hgt, true_and, false_and, or_false]
      exact (corrupt_size_last_raised cfg hh alloc hnz h hs2 i hm z hz hgt).1
  · simp only [hlast, false_and, iff_false]
    rw [corrupt_size_not_last cfg hh.offs alloc a h.count i (by omega) z hz hne]
    rintro ⟨A, hA⟩; cases hA

/-- **Witness, raised size (F51).** The example arena (last buffer empty, two relocation entries): the last size raised
    from 0 to 8 is accepted by the loader of the source tree; the first registered slot is no longer registered and holds
    its on-disk reference instead of a pointer. -/
theorem size_raised_accepted_witness :
    ∃ (a : Arena) (z : Nat), WF a ∧ z ≠ rdLE tblSizeSize (save a) (sizeFieldAt (a.bufs.length - 1)) ∧
      ∃ A', load loaderCfg exAlloc (patch (save a) (sizeFieldAt (a.bufs.length - 1)) (leBytes 4 z)) = .ok A' ∧
        ∃ r ∈ a.relocs, r ∉ A'.relocs ∧ ¬ ValidPtr A'.bufs (getSlot A' r) := by
  have c : (match load loaderCfg exAlloc (patch (save exArena) (sizeFieldAt 2) (leBytes 4 8)) with
      | .ok A' => decide ((⟨0, 0⟩ : Ref) ∉ A'.relocs ∧ ¬ ValidPtr A'.bufs (getSlot A' ⟨0, 0⟩))
      | .error _ => false) = true := by decide +kernel
  cases hl : load loaderCfg exAlloc (patch (save exArena) (sizeFieldAt 2) (leBytes 4 8)) with
  | error e => rw [hl] at c; cases c
  | ok A' =>
    rw [hl] at c
    simp only [decide_eq_true_eq] at c
    exact ⟨exArena, 8, exArena_wf, by decide +kernel, A', hl, ⟨0, 0⟩, by decide, c.1, c.2⟩

/-- **Witness, lowered size.** `exArena2`: the last buffer's size lowered from 12 to 4; its last 8 bytes read as the entry
    (buffer 0, offset 0), which passes; the real entry for the same slot then finds the pointer just written, takes it for
    the reference (0, 0) and passes too: accepted, with the slot registered twice and a NULL pointer turned into a
    non-NULL one. -/
theorem size_lowered_accepted_witness :
    ∃ A', load loaderCfg exAlloc (patch (save exArena2) (sizeFieldAt 1) (leBytes 4 4)) = .ok A' ∧
      WF exArena2 ∧ getSlot exArena2 ⟨0, 0⟩ = 0 ∧ getSlot A' ⟨0, 0⟩ ≠ 0 ∧ A'.relocs = [⟨0, 0⟩, ⟨0, 0⟩] := by
  have c : (match load loaderCfg exAlloc (patch (save exArena2) (sizeFieldAt 1) (leBytes 4 4)) with
      | .ok A' => decide (getSlot A' ⟨0, 0⟩ ≠ 0 ∧ A'.relocs = [⟨0, 0⟩, ⟨0, 0⟩])
      | .error _ => false) = true := by decide +kernel
  cases hl : load loaderCfg exAlloc (patch (save exArena2) (sizeFieldAt 1) (leBytes 4 4)) with
  | error e => rw [hl] at c; cases c
  | ok A' =>
    rw [hl] at c
    simp only [decide_eq_true_eq] at c
    exact ⟨A', rfl, exArena2_wf, by decide, c.1, c.2⟩

/-- … while the same size lowered from 12 to 8 (4 bytes cut) or to 0 (12 bytes cut) is refused: not a whole number of
    entries (instances of `corrupt_size_last_lowered_dvd`) -/
example : load loaderCfg exAlloc (patch (save exArena2) (sizeFieldAt 1) (leBytes 4 8)) = .error .corruptFile ∧
    load loaderCfg exAlloc (patch (save exArena2) (sizeFieldAt 1) (leBytes 4 0)) = .error .corruptFile := by
  constructor
  · rcases corrupt_size_last_lowered_dvd loaderCfg hardened_loaderCfg exAlloc (a := exArena2) (by decide) (by decide) 1 rfl 8
      (by decide) with ⟨_, _, h8⟩ | h
    · exact absurd h8 (by decide)
    · exact h
  · rcases corrupt_size_last_lowered_dvd loaderCfg hardened_loaderCfg exAlloc (a := exArena2) (by decide) (by decide) 1 rfl 0
      (by decide) with ⟨_, _, h8⟩ | h
    · exact absurd h8 (by decide)
    · exact h

/-- the hypotheses of the corruption theorems are satisfiable, and the refusals are what the theorems say, on the example
    arena: a magic byte, the version, the buffer count (to 2, to 0 and to 200), the offset of entry 1, the size of entry 0 -/
example : load loaderCfg exAlloc (patch (save exArena) 3 [0x42]) = .error .invalidFile ∧
    load loaderCfg exAlloc (patch (save exArena) hdrVersionOff [20]) = .error .unsupportedFileVersion ∧
    load loaderCfg exAlloc (patch (save exArena) hdrNumBuffersOff [2]) = .error .corruptFile ∧
    load loaderCfg exAlloc (patch (save exArena) hdrNumBuffersOff [0]) = .error .corruptFile ∧
    load loaderCfg exAlloc (patch (save exArena) hdrNumBuffersOff [200]) = .error .invalidFile ∧
    load loaderCfg exAlloc (patch (save exArena) (offsetFieldAt 1) (leBytes 8 61)) = .error .corruptFile ∧
    load loaderCfg exAlloc (patch (save exArena) (sizeFieldAt 0) (leBytes 4 26)) = .error .corruptFile :=
  ⟨corrupt_magic _ _ _ 3 (by decide) _ (by decide +kernel), corrupt_version _ _ _ _ (by decide +kernel),
   corrupt_num_buffers _ rfl _ exArena_wf 2 (by decide +kernel), corrupt_num_buffers _ rfl _ exArena_wf 0 (by decide +kernel),
   corrupt_num_buffers _ rfl _ exArena_wf 200 (by decide +kernel),
   corrupt_offset _ rfl _ _ (by decide) 1 (by decide) 61 (by decide) (by decide +kernel),
   corrupt_size_not_last _ rfl _ _ (by decide) 0 (by decide) 26 (by decide) (by decide +kernel)⟩

/-- **yr_rules_load_stream = arena load + one test.** For ANY stream: after `yr_arena_load_stream` succeeded,
    `yr_rules_from_arena` only asks for the summary buffer (section 11): `yr_arena_get_ptr` asserts 11 < num_buffers
    and a NULL result is ERROR_CORRUPT_FILE; that outcome is a function of two fields of the file alone — the buffer
    count and the size field of table entry 11 (a buffer is unallocated exactly when its size field is 0). -/
theorem rules_summary_test (cfg : LoaderCfg) (alloc : Nat → Nat) (hnz : ∀ i, alloc i ≠ 0) (s : Bytes) :
    loadRules cfg alloc s =
      match load cfg alloc s with
      | .error e => .error e
      | .ok A' =>
        if (s.getD hdrNumBuffersOff 0).toNat ≤ summarySection then .error .assertFail
        else if rdLE tblSizeSize s (sizeFieldAt summarySection) = 0 then .error .corruptFile
        else .ok A' :=
  loadRules_eq cfg alloc hnz s

/-- **Can rules.c refuse what the arena loader let through after a single-field corruption?** Header fields, the buffer
    count, offsets and inner sizes never get that far (`corrupt_*`).  For a size change that the arena loader accepted
    (so: the last entry, `size_change_accepted_iff`) on an image with a non-empty summary buffer: the summary test fires
    exactly when the overwritten field is the summary buffer's own size and the new value is 0 — which the arena loader
    accepts only if the summary's length is a multiple of 8 (`corrupt_size_last_lowered_dvd`; sizeof(YR_SUMMARY) is 12,
    so for files written by the compiler the test is never what rejects a single-field corruption).  rules.c has no
    other test: a summary cut to 4 bytes is used as is (its counters read uninitialised capacity). -/
theorem rules_after_size_corruption (cfg : LoaderCfg) (alloc : Nat → Nat) (hnz : ∀ i, alloc i ≠ 0) (a : Arena)
    (hn : a.bufs.length ≤ maxBuffers) (hsum : summarySection < a.bufs.length)
    (hsz : (a.bufAt summarySection).data.length ≠ 0) (hsz2 : (a.bufAt summarySection).data.length < 2 ^ 32)
    (i : Nat) (hi : i < a.bufs.length) (z : Nat) (hz : z < 2 ^ 32) (A' : Arena)
    (hA : load cfg alloc (patch (save a) (sizeFieldAt i) (leBytes 4 z)) = .ok A') :
    loadRules cfg alloc (patch (save a) (sizeFieldAt i) (leBytes 4 z)) =
      if i = summarySection ∧ z = 0 then .error .corruptFile else .ok A' :=
  loadRules_patch_size cfg alloc hnz (save a) (save_numbufs a hn) (save_length_ge a) hsum
    (by rw [save_size_field a _ hsum, Nat.mod_eq_of_lt hsz2]; exact hsz) i hi z hz A' hA

/-- **Cut inside a relocation entry**: every prefix that ends after the bodies but not on an entry boundary is refused
    (ERROR_CORRUPT_FILE) by the fully checked loader — the entries before the cut may each pass, the trailing partial
    entry does not. -/
theorem prefix_in_entry (cfg : LoaderCfg) (hh : Hardened cfg) (alloc : Nat → Nat) (a : Arena) (hn : a.bufs.length ≤ maxBuffers)
    (hs2 : ∀ b ∈ a.bufs, b.data.length ≤ 2 ^ 31) (m : Nat) (hm : m % 8 ≠ 0) (hlt : m < 8 * a.relocs.length) :
    load cfg alloc ((save a).take (bodiesEnd a + m)) = .error .corruptFile := by
  have ⟨hn', hl⟩ := saved_loadable hn hs2
  rw [save_eq_image, bodiesEnd_eq, Nat.add_assoc, take_image_tail, load_image cfg alloc _ hn' hl]
  rcases applyRelocs_cases cfg hh _ ((relocBytes a.relocs).take m) with ⟨A', _, h2⟩ | h1
  · rw [List.length_take, length_relocBytes, Nat.min_eq_left (by omega)] at h2
    exact absurd h2 hm
  · exact h1

/-- **The truncation quantifier, complete.** For every well-formed arena and EVERY proper prefix length k of its image:
    the fully checked loader accepts the prefix if and only if k lies at or after the end of the buffer bodies on a
    relocation-entry boundary.  (Everything else is rejected: prefix_header / prefix_table / prefix_bodies /
    prefix_in_entry; the accepted ones are exactly known finding F9: reloc_cut_accepted.) -/
theorem prefix_accepted_iff (cfg : LoaderCfg) (hh : Hardened cfg) (alloc : Nat → Nat) {a : Arena} (h : WF a)
    (hs2 : ∀ b ∈ a.bufs, b.data.length ≤ 2 ^ 31) (hA : RangesOk (loadedBufs alloc 0 (bodies (toRefs a)))) (hnz : ∀ i, alloc i ≠ 0)
    (k : Nat) (hk : k < (save a).length) :
    (∃ A, load cfg alloc ((save a).take k) = .ok A) ↔ (bodiesEnd a ≤ k ∧ (k - bodiesEnd a) % 8 = 0) := by
  have hlen : (save a).length = bodiesEnd a + 8 * a.relocs.length := by
    rw [save_eq_image, length_image, bodiesEnd_eq, length_relocBytes]
    omega
  by_cases h1 : k < bodiesEnd a
  · have herr : ∃ e, load cfg alloc ((save a).take k) = .error e := by
      by_cases h2 : k < headerSize
      · exact ⟨_, prefix_header cfg a alloc k h2⟩
      · by_cases h3 : k < bodiesStart a
        · exact ⟨_, prefix_table cfg a alloc h.count k (by omega) h3⟩
        · exact ⟨_, prefix_bodies cfg a alloc h.count hs2 k (by omega) h1⟩
    obtain ⟨e, he⟩ := herr
    simp only [Nat.not_le.mpr h1, false_and, iff_false, he]
    rintro ⟨A, hA'⟩; cases hA'
  · obtain ⟨m, rfl⟩ : ∃ m, k = bodiesEnd a + m := ⟨k - bodiesEnd a, by omega⟩
    have hm : m < 8 * a.relocs.length := by omega
    rw [Nat.add_sub_cancel_left]
    by_cases h8 : m % 8 = 0
    · obtain ⟨A, hA', _⟩ := reloc_cut_accepted cfg h hs2 alloc hA hnz (m / 8)
      have : 8 * (m / 8) = m := by omega
      rw [this] at hA'
      exact ⟨fun _ => ⟨by omega, h8⟩, fun _ => ⟨A, hA'⟩⟩
    · simp only [prefix_in_entry cfg hh alloc a h.count hs2 m h8 hm, h8, and_false, iff_false]
      rintro ⟨A, hA'⟩; cases hA'

/-- on the example arena (image of 80 bytes, bodies end at 64, two entries): accepted exactly at 64 and 72 -/
example (k : Nat) (hk : k < 80) :
    (∃ A, load loaderCfg exAlloc ((save exArena).take k) = .ok A) ↔ (k = 64 ∨ k = 72) := by
  rw [prefix_accepted_iff loaderCfg hardened_loaderCfg exAlloc exArena_wf exArena_small exArena_loaded
    (by intro i; unfold exAlloc; omega) k (by rw [exArena_save_length]; exact hk), exArena_bodiesEnd]
  omega

/-- **A rejected file is an error and nothing else — also for the FILE handle.**  `Gen.RulesFile.rulesLoad` /
    `rulesSave` are the bodies of yr_rules_load / yr_rules_save of the source tree, statement by statement (fopen,
    the NULL test, the call of the stream function, fclose, return; regenerated on every run).  Whatever fopen, the
    stream loader / saver answer (every outcome list): the function holds no FILE handle when it returns — the
    damaged file that yr_rules_load_stream refuses is closed like the intact one.  (An early return between fopen and
    fclose, e.g. FAIL_ON_ERROR around the stream call, makes `balanced` false and this theorem unprovable.) -/
theorem file_api_gives_back_handle (outcomes : List Bool) :
    RulesFile.exec Gen.RulesFile.rulesLoad false outcomes = 0 ∧ RulesFile.exec Gen.RulesFile.rulesSave false outcomes = 0 ∧
      Gen.RulesFile.unparsed = false :=
  ⟨RulesFile.balanced_sound _ _ _ (by decide), RulesFile.balanced_sound _ _ _ (by decide), rfl⟩

/-- the statement is not vacuous: the same body with FAIL_ON_ERROR around the stream call keeps the handle when the
    stream loader fails (fopen succeeds, the call fails) -/
example : RulesFile.exec [.fopen, .retIfNull, .failOnError, .fclose, .ret] false [true, false] = 1 := by decide

end YaraModel.Arena
