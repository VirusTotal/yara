/-
  C20 — External variables are typed, scoped and isolated.
  Property theorems only; helper lemmas are in Lemmas/Externals.lean.
  Every statement quantifies over EVERY operation history (no bound on length),
  every scanner id and every identifier.
-/
import YaraModel.Lemmas.Externals
import YaraModel.Spec.ExtCli
namespace YaraModel.Ext

/-- The forward run used by the driver is the history semantics. -/
theorem runSt_eq_runRev (ops : List Op) : runSt init ops = runRev ops.reverse := by
  rw [runRev_eq_foldr, List.foldr_reverse]
  rfl

/-- **Most specific value** (scanner level): after any history, the value scanner `k`
    sees for `n` is its own latest accepted definition, otherwise the rule-set value in
    force when it was created, otherwise the compile-time value (`specS` unfolds to
    `specR` at the creation point, which unfolds to `specC` at compilation). -/
theorem scanner_sees_most_specific (past : List Op) (k : Nat) (n : String) :
    (((runRev past).scanners k).bind (lookup · n)).map tv = specS past k n :=
  (refines_all past).scanners k n

/-- Rules-level scans (which create their scanner at scan time) see the rule-set value. -/
theorem rules_scan_sees_rules_value (past : List Op) (n : String) :
    ((runRev past).rules.bind (lookup · n)).map tv = specR past n :=
  (refines_all past).rules n

/-- What a scan observes is exactly the scanner's table. -/
theorem scan_observes (s : St) (k : Nat) (vs : List Var) :
    (step s (.scan k)).2 = .obs vs ↔ s.scanners k = some vs := by
  simp only [step]; split <;> simp_all

/-- **Rejected definitions change nothing**: any operation answered with an error code
    (duplicate, unknown identifier, incompatible type) leaves the whole state untouched. -/
theorem reject_changes_nothing (s : St) (op : Op) (e : Err) (h : (step s op).2 = .err e) :
    (step s op).1 = s :=
  (step_unchanged_or_ok s op).resolve_right (by simp [h])

/-- **Scanner isolation**: a definition on scanner `k` changes neither the compiler table,
    nor the shared rule set, nor any other scanner. -/
theorem scanner_isolated (s : St) (k : Nat) (ty : Ty) (n : String) (v : Val) :
    let s' := (step s (.sdef k ty n v)).1
    s'.comp = s.comp ∧ s'.rules = s.rules ∧ ∀ j, j ≠ k → s'.scanners j = s.scanners j := by
  simp only [step_fst, true_and]
  exact fun j hj => if_neg hj

/-- **Snapshot at creation**: a rule-set-level definition never changes an existing scanner. -/
theorem snapshot_at_creation (s : St) (ty : Ty) (n : String) (v : Val) :
    (step s (.rdef ty n v)).1.scanners = s.scanners := by
  rw [step_fst]

/-- Scans do not change anything (so a scan can be repeated / interleaved freely). -/
theorem scan_pure (s : St) (k : Nat) : (step s (.scan k)).1 = s ∧ (step s .rscan).1 = s := by
  simp only [step_fst, and_self]

/-- Result code of a scanner-level definition, in terms of the specification. -/
theorem sdef_result (past : List Op) (k : Nat) (ty : Ty) (n : String) (v : Val)
    (hk : ((runRev past).scanners k).isSome) :
    (step (runRev past) (.sdef k ty n v)).2 =
      match specS past k n with
      | none => .err .invalidArgument
      | some (t, _) => if objTy t = objTy ty then .ok else .err .invalidType := by
  cases hs : (runRev past).scanners k with
  | none => simp [hs] at hk
  | some vs =>
    rw [← scanner_sees_most_specific, hs]
    exact step_sdef_snd hs ty n v

/-- Result code of a rule-set-level definition, in terms of the specification. -/
theorem rdef_result (past : List Op) (ty : Ty) (n : String) (v : Val) (hc : compiled past = true) :
    (step (runRev past) (.rdef ty n v)).2 =
      match specR past n with
      | none => .err .invalidArgument
      | some (t, _) => if t = ty then .ok else .err .invalidType := by
  cases hr : (runRev past).rules with
  | none => simp [← (refines_all past).rulesSome, hr] at hc
  | some rs =>
    rw [← rules_scan_sees_rules_value, hr]
    exact step_rdef_snd hr ty n v

/-! Non-vacuity: a concrete history exercising all three levels. -/
example :
    let past : List Op := [.sdef 0 .int "x" (.int 7), .rdef .int "x" (.int 2), .screate 1, .screate 0,
                           .rdef .int "x" (.int 5), .compile, .cdef .int "x" (.int 4)]
    specS past 0 "x" = some (.int, .int 7) ∧ specS past 1 "x" = some (.int, .int 5) ∧
    specR past "x" = some (.int, .int 2) ∧ specC past "x" = some (.int, .int 4) := ⟨rfl, rfl, rfl, rfl⟩

end YaraModel.Ext

/-! ### command-line typing of `-d name=value` (cli/common.c), specification `Spec/ExtCli.lean` -/
namespace YaraModel.ExtCli

/-- a run of digits is an integer with its decimal value (any length: no 32-bit truncation) -/
theorem classify_digits (ds : List Char) (hne : ds ≠ []) (hd : ds.all isDigit = true) (h0 : ds.head? ≠ some '-') :
    classify ds = .int (digitsVal ds) := by
  have hsm : stripMinus ds = (false, ds) := by
    unfold stripMinus
    split
    · simp at h0
    · rfl
  have hdot : ds.filter (· == '.') = [] :=
    List.filter_eq_nil_iff.2 fun c hc h => by
      have := List.all_eq_true.1 hd c hc
      rw [eq_of_beq h] at this
      exact absurd this (by decide)
  have hnf : isFloat ds = false := by simp [isFloat, hsm, hdot]
  have hi : isInteger ds = true := by simp [isInteger, hsm, hne, hd]
  simp [classify, hnf, hi, hsm]

/-- a value with two or more dots is never a float -/
theorem two_dots_not_float (v : List Char) (h : ((stripMinus v).2.filter (· == '.')).length ≥ 2) : isFloat v = false := by
  simp only [isFloat]
  have : ((stripMinus v).2.filter (· == '.')).length ≠ 1 := by omega
  simp [this]

/-- a value containing a character other than digits, '.', and a leading '-' is a string unless it is `true`/`false` -/
theorem classify_other (v : List Char) (c : Char) (hc : c ∈ (stripMinus v).2) (hnd : isDigit c = false) (hdot : c ≠ '.')
    (ht : v ≠ "true".toList) (hf : v ≠ "false".toList) : classify v = .str v := by
  have hall (p : Char → Bool) (hp : p c = false) : (stripMinus v).2.all p = false :=
    List.all_eq_false.2 ⟨c, hc, by simp [hp]⟩
  have h1 : isFloat v = false := by simp [isFloat, hall (fun c => isDigit c || c == '.') (by simp [hnd, hdot])]
  have h2 : isInteger v = false := by simp [isInteger, hall isDigit hnd]
  have ht' : ¬ v = ['t', 'r', 'u', 'e'] := ht
  have hf' : ¬ v = ['f', 'a', 'l', 's', 'e'] := hf
  simp [classify, h1, h2, ht', hf']

example : classify "5000000000".toList = .int 5000000000 ∧ classify "1.2.3".toList = .str "1.2.3".toList ∧
    classify "-2.5".toList = .flt true 25 1 ∧ classify "true".toList = .bool true := by decide +kernel

end YaraModel.ExtCli
