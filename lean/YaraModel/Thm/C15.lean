/-
  C15 — Exceeding engine limits yields the documented error, not a crash or hang.

  Every statement holds for EVERY value of the limit (`MAX`, `cap`, `M`, `N` are universally
  quantified), for every input sequence (all candidate/event sequences, all push/pop programs,
  all loop structures, all include chains, all create/release schedules, all instruction counts)
  and for every guard implementation `G` that is `Sound`. `gen_guards_sound` shows that the guards
  regenerated from the C source (`Gen/Limits.lean`: comparison operators and constants) are sound,
  `spec_guards_sound` the same for the specification guards the driver uses as oracle;
  `gen_consistent` states the relations between the constants that the C code relies on.
-/
import YaraModel.Lemmas.Limits
namespace YaraModel.Limits
open YaraModel.Gen.Limits

/-- Relations between the constants of limits.h & co. that the code relies on; also: the
    translator found every construct it looks for, and the lexer's identifier bound is the
    documented one. -/
theorem gen_consistent :
    unparsedItems = [] ∧ negotiationParsed = true ∧ disabledTestParsed = true ∧
    reMaxSplitId ≤ reSplitIdTypeMax ∧ maxAtomLength ≤ 255 ∧ 1 ≤ maxAtomLength ∧
    vmMemSize = maxLoopNesting * (maxLoopVars + internalLoopVars) ∧
    1 ≤ maxLoopNesting ∧ 1 ≤ maxIncludeDepth ∧ 1 ≤ maxStringMatches ∧ 1 ≤ reMaxSplitId ∧ 1 ≤ reMaxFibers ∧
    1 ≤ vmTimeoutCycle ∧ 1 ≤ blockTimeoutStride ∧ reMaxRange ≤ 32767 ∧
    identLimit = docIdentMax ∧ docIdentMax = specIdentMax ∧ kbDiv = kbMul ∧ mbDiv = mbMul := by decide

/-- **The guards regenerated from the C source mean what the limits require** (on the reachable
    range): `count == MAX`, `sp < capacity`, `loop_index + 1 == MAX`, `ptr == MAX`, `n > max`,
    `strlen > 128` (the documented identifier length), the KB/MB overflow tests, `next_split_id == MAX`,
    `fiber_count == MAX`, `++cycle == N`, `elapsed > timeout`. This is the only theorem that looks at
    the generated operators; it is the one that breaks when a guard is weakened in the source. -/
theorem gen_guards_sound : Guards.gen.Sound where
  cap _ _ h := Cmp.eval_atLimit (op := matchCapCmp) (by decide) h
  push _ _ h := Cmp.eval_below (op := pushCmp) (by decide) h
  loop _ _ h := Cmp.eval_atLimit (op := loopNestCmp) (by decide) h
  incl _ _ h := Cmp.eval_atLimit (op := includeDepthCmp) (by decide) h
  strings _ _ := Cmp.eval_over (op := stringsPerRuleCmp) (by decide)
  ident _ := Cmp.eval_over (op := identCmp) (M := identLimit) (by decide)
  kb _ := (Cmp.eval_over (op := kbCmp) (by decide)).trans (Nat.div_lt_iff_lt_mul (k := kbDiv) (by decide))
  mb _ := (Cmp.eval_over (op := mbCmp) (by decide)).trans (Nat.div_lt_iff_lt_mul (k := mbDiv) (by decide))
  kbMulEq := by decide
  mbMulEq := by decide
  split _ _ h := Cmp.eval_atLimit (op := splitIdCmp) (by decide) h
  fiber _ _ h := Cmp.eval_atLimit (op := fiberCmp) (by decide) h
  cycle _ _ h := Cmp.eval_atLimit (op := vmCycleCmp) (by decide) (Nat.succ_le_of_lt h)
  vmExp _ _ := Cmp.eval_over (op := vmTimeoutCmp) (by decide)
  blockExp _ _ := Cmp.eval_over (op := blockTimeoutCmp) (by decide)
  size i d hi := by
    have table : ∀ i, (h : i < 6) → reSizeGuards[i].cmp = .gt ∧ reSizeGuards[i].bound = sizeBound i := by decide
    show (match reSizeGuards[i]? with | some g => g.cmp.eval d g.bound | none => true) = true ↔ _
    rw [List.getElem?_eq_getElem (show i < reSizeGuards.length from hi), ← (table i hi).2]
    exact Cmp.eval_over (table i hi).1

/-- The specification guards (used by the driver as the oracle of the correspondence run) are sound. -/
theorem spec_guards_sound : Guards.spec.Sound where
  cap _ _ h := Cmp.eval_atLimit (op := .ge) (.inr rfl) h
  push _ _ h := Cmp.eval_below (op := .lt) (.inl rfl) h
  loop _ _ h := Cmp.eval_atLimit (op := .ge) (.inr rfl) h
  incl _ _ h := Cmp.eval_atLimit (op := .ge) (.inr rfl) h
  strings _ _ := decide_eq_true_iff
  ident _ := decide_eq_true_iff
  kb _ := decide_eq_true_iff
  mb _ := decide_eq_true_iff
  kbMulEq := rfl
  mbMulEq := rfl
  split _ _ h := Cmp.eval_atLimit (op := .ge) (.inr rfl) h
  fiber _ _ h := Cmp.eval_atLimit (op := .ge) (.inr rfl) h
  cycle _ _ h := Cmp.eval_atLimit (op := .ge) (.inr rfl) (Nat.succ_le_of_lt h)
  vmExp _ _ := decide_eq_true_iff
  blockExp _ _ := decide_eq_true_iff
  size _ _ _ := decide_eq_true_iff

/-- **Seconds → nanoseconds is exact**: for every `int` number of seconds `0 ≤ t ≤ INT_MAX` the value that
    `yr_scanner_set_timeout` (as translated from scanner.c, with C's integer conversions and wrap-around) stores in
    the 64-bit `timeout` field is `t * 10^9` — no intermediate 32-bit product, no sign extension, no wrap. -/
theorem timeout_conversion_exact (t : Int) (h0 : 0 ≤ t) (h1 : t ≤ 2147483647) :
    timeoutField timeoutExpr t = some (specTimeoutNs t) := by
  -- `int * uint64_t` is computed in `uint64_t`: the argument, the literal and the product are all in its range
  have hvar : CTy.wrap .i32 t = t := by
    simp only [CTy.wrap, CTy.bits, CTy.signed, Bool.true_and, decide_eq_true_eq,
      Int.emod_eq_of_lt h0 (show t < 2 ^ 32 by omega)]
    exact if_neg (by omega)
  have hu {x : Int} (hx0 : 0 ≤ x) (hx : x < 2 ^ 64) : CTy.wrap .u64 x = x := Int.emod_eq_of_lt hx0 hx
  show some (CTy.wrap .u64 (CTy.wrap .u64 (CTy.wrap .u64 (CTy.wrap .i32 t) * CTy.wrap .u64 (CTy.wrap .u64 1000000000)))) = _
  simp only [hvar, hu (x := 1000000000) (by decide) (by decide), hu h0 (show t < 2 ^ 64 by omega),
    hu (x := t * 1000000000) (by omega) (by omega)]
  rfl

example : timeoutField timeoutExpr 3 = some 3000000000 ∧ timeoutField timeoutExpr 2147483647 = some 2147483647000000000 := by decide

/-- what the 32-bit variant (`(uint64_t)(t > 0 ? t * 1000000000 : 0)`) would store for 3 s: the model exhibits the wrap -/
example : timeoutField (.cast .u64 (.cond (.gt .var (.lit 0 .i32)) (.mul .var (.lit 1000000000 .i32)) (.lit 0 .i32))) 3
    = some 18446744072414584320 := by decide

/-- **One guard, several writes**: an iterator `next` function whose guard asks for `guardK + 1 ≥ maxPushes` free slots
    writes only inside the stack whenever it proceeds — for every stack pointer and capacity. -/
theorem iter_push_in_bounds (e : IterFn) (hc : e.guardCmp = .ge) (hk : e.maxPushes ≤ e.guardK + 1) (sp cap : Nat)
    (hp : e.proceeds sp cap = true) : e.inBounds sp cap := by
  simp [IterFn.proceeds, hc, Cmp.eval] at hp
  simp [IterFn.inBounds]; omega

/-- … and the guard is not stricter than needed: with `maxPushes = guardK + 1` it refuses exactly when the slots do
    not fit (so ERROR_EXEC_STACK_OVERFLOW is raised exactly when the capacity would be exceeded). -/
theorem iter_guard_exact (e : IterFn) (hc : e.guardCmp = .ge) (hk : e.maxPushes = e.guardK + 1) (sp cap : Nat) :
    e.proceeds sp cap = true ↔ e.inBounds sp cap := by
  simp [IterFn.proceeds, IterFn.inBounds, hc, Cmp.eval]; omega

/-- **Every iterator of exec.c satisfies the hypotheses** (table regenerated from the source: guard constant, operator
    and the maximum number of `stack->items[stack->sp++]` writes on any path of each `iter_*_next`). -/
theorem gen_iter_table_sound : iterTable ≠ [] ∧ ∀ e ∈ iterTable, e.guardCmp = .ge ∧ e.maxPushes = e.guardK + 1 := by decide

example : (⟨"iter_dict_next", 1, .ge, 3⟩ : IterFn).proceeds 1 3 = true ∧ ¬ (⟨"iter_dict_next", 1, .ge, 3⟩ : IterFn).inBounds 1 3 := by decide

/-- **Accepted ⇒ the stored offset is the real distance**: whenever the size guard of a site of `_yr_re_emit` lets the
    emission proceed, the 16-bit offset written into the split/jump instruction (`(int16_t) distance`, negative for the
    backward jumps of `e+`/`e*`) equals the real distance — for every site and every distance. With `gen_guards_sound`
    this holds for the guards as they are written in re.c (comparison and bound regenerated from the source). -/
theorem jump_offset_representable {G : Guards} (hG : G.Sound) (i d : Nat) (hi : i < 6) (hacc : G.sizeErr i d = false) :
    storedOffset i d = if sizeBackward i then -(d : Int) else (d : Int) := by
  refine (storedOffset_eq_iff i d).2 (Nat.le_of_not_gt fun h => ?_)
  rw [(hG.size i d hi).2 h] at hacc
  cases hacc

/-- … and the guards reject nothing that fits: TOO_LARGE exactly when the distance is not representable. -/
theorem size_guard_exact {G : Guards} (hG : G.Sound) (i d : Nat) (hi : i < 6) :
    G.sizeErr i d = true ↔ storedOffset i d ≠ (if sizeBackward i then -(d : Int) else (d : Int)) ∨ d > 65535 := by
  rw [hG.size i d hi, Ne, storedOffset_eq_iff]
  unfold sizeBound
  split <;> omega

/-- what the forward guard of the ALT split would let through if it compared with `-(INT16_MIN)`: distance 32768 is
    stored as -32768 -/
example : storedOffset 3 32768 = -32768 ∧ storedOffset 3 32767 = 32767 ∧ storedOffset 0 32768 = -32768 := by decide

/-- **A new scan starts with every string un-muted**: clearing `YR_BITMASK_SIZE(num_strings)` words covers every
    string index, so a TOO_MANY_MATCHES/CONTINUE of an earlier scan never carries over (whatever the index). -/
theorem clean_disabled_covers_strings (numStrings : Nat) (d : Nat → Bool) (i : Nat) (hi : i < numStrings) :
    cleanDisabled numStrings d i = false := by
  unfold cleanDisabled bitmaskWords
  have : i < 64 * (numStrings / 64 + 1) := by omega
  simp [this]

/-- sizing the memset by a smaller count (e.g. the number of rules) leaves strings muted. Witness: 1 rule, string 64. -/
example : cleanDisabled 1 (fun _ => true) 64 = true ∧ cleanDisabled 1 (fun _ => true) 63 = false := by decide

/-- the source sizes that memset by the number of strings -/
theorem gen_clean_sized_by_strings : cleanDisabledSizedBy = "num_strings" := by decide

/-- **Configuration values survive the set/get round trip**: for a key whose setter and getter use the union member and
    pointer type of the key's own width (32 or 64 bits), every value of that type is read back unchanged, whatever the slot
    held before. -/
theorem cfg_round_trip (k : CfgKey) (w : Nat) (hw : w = 32 ∨ w = 64)
    (hs : k.setMember = w ∧ k.setCast = w ∧ k.getMember = w ∧ k.getCast = w) (old v : Nat) (hv : v < 2 ^ w) :
    cfgRoundTrip k old v = v := by
  obtain ⟨h1, h2, h3, h4⟩ := hs
  unfold cfgRoundTrip cfgRead cfgWrite
  rw [h1, h2, h3, h4]
  -- every `% 2^w` acts on a value below `2^w`; a 32-bit write puts `v` under a multiple of `2^32`
  rcases hw with rfl | rfl
  · rw [if_neg (by decide), if_neg (by decide)]
    simp only [Nat.mod_eq_of_lt hv, Nat.mul_add_mod_self_right]
  · rw [if_pos (by decide), if_pos (by decide)]
    simp only [Nat.mod_eq_of_lt hv]

/-- **Every configuration key of libyara.c is accessed with its own width** (switches of yr_set_configuration /
    yr_get_configuration and the typed wrappers, regenerated from the source): with `cfg_round_trip`,
    `get (set k v) = v` for every key and every value of the key's type. -/
theorem gen_cfg_keys_sound : cfgKeys ≠ [] ∧ ∀ k ∈ cfgKeys, (cfgWidth k = 32 ∨ cfgWidth k = 64) ∧ k.typedGet = cfgWidth k ∧
    k.setMember = cfgWidth k ∧ k.setCast = cfgWidth k ∧ k.getMember = cfgWidth k ∧ k.getCast = cfgWidth k := by decide

/-- reading a 64-bit key through the 32-bit member returns the value modulo 2^32 (4 GiB + 4 KiB becomes 4 KiB, 4 GiB becomes 0) -/
example : cfgRoundTrip ⟨"k", 3, 64, 64, 32, 64, 64, 64⟩ 0 (4294967296 + 4096) = 4096 ∧
          cfgRoundTrip ⟨"k", 3, 64, 64, 32, 64, 64, 64⟩ 0 4294967296 = 0 ∧
          cfgRoundTrip ⟨"k", 3, 64, 64, 64, 64, 64, 64⟩ 7 (4294967296 + 4096) = 4294967296 + 4096 := by decide

/-- every integer-literal rule of lexer.l (decimal, hex, octal) clears `errno` before the `strtoll` it tests -/
theorem gen_literal_rules_reset_errno :
    litRules.length = 3 ∧ (∀ x ∈ [8, 10, 16], (x, true) ∈ litRules) ∧ ∀ r ∈ litRules, r.2 = true := by decide

/-- **Literal acceptance is history-free**: with the reset in place, whatever `errno` earlier code left behind (a rejected
    literal of an earlier compilation on this thread, an underflowing float literal earlier in the same source), a literal
    is rejected iff its value exceeds INT64_MAX — in particular INT64_MAX itself is accepted in every base. -/
theorem literal_history_free (e : Bool) (n : Nat) :
    (lexInt true e n).1 = (if n > int64Max then .error .intOverflow else .ok n) := by
  unfold lexInt strtollC
  by_cases h : n > int64Max <;> simp [h]

/-- … and so for a whole sequence of literals in the three bases of lexer.l: each is judged by its own value, whatever `errno`
    its predecessors left. -/
theorem literal_seq_history_free (e : Bool) (ls : List (Nat × Nat)) (hr : ∀ l ∈ ls, l.1 = 8 ∨ l.1 = 10 ∨ l.1 = 16) :
    lexIntSeq litRules e ls = ls.map fun l => if l.2 > int64Max then .error .intOverflow else .ok l.2 := by
  induction ls generalizing e with
  | nil => rfl
  | cons l rest ih =>
    have hres : resetsOf litRules l.1 = true := by
      rcases hr l (by simp) with h | h | h <;> rw [h] <;> decide
    show (lexInt (resetsOf litRules l.1) e l.2).1 :: lexIntSeq litRules (lexInt (resetsOf litRules l.1) e l.2).2 rest = _
    rw [hres, literal_history_free, ih _ (fun x hx => hr x (by simp [hx]))]
    rfl

/-- what the reset prevents: after an overflow, INT64_MAX in a rule without the reset is rejected -/
example : (lexIntSeq [(10, true), (16, true), (8, false)] false [(10, int64Max + 1), (8, int64Max)]) =
    [.error .intOverflow, .error .intOverflow] := by decide

/-- the source pops the file name it pushed (flag regenerated from compiler.c): what the two theorems below rest on -/
theorem gen_add_file_pops_own_name : addFilePopsOwnName = true := by decide

/-- `yr_compiler_add_file` leaves the include stack as it found it … -/
theorem add_file_restores_stack (G : Guards) (MAX : Nat) (stack : List String) (name : String) (chain st : List String)
    (h : addFile G MAX addFilePopsOwnName stack name chain = .ok st) : st = stack := by
  rw [gen_add_file_pops_own_name] at h
  revert h
  -- one goal per outcome of `addFile`; only the last returns `.ok`, and it returns the stack it was given
  fun_cases addFile G MAX true stack name chain <;> intro h <;> cases h
  rfl

/-- … so **every file of a sequence meets the include-depth limit exactly as if it were the compiler's first file**:
    the outcomes of a sequence are those of the single files on an empty stack, up to the first error. -/
theorem file_seq_independent (G : Guards) (MAX : Nat) (fs : List (String × List String)) :
    addFileSeq G MAX addFilePopsOwnName [] fs =
      addFileSeq G MAX addFilePopsOwnName [] (fs.take 1) ++
        (match fs with
         | [] => []
         | f :: rest => if (addFile G MAX addFilePopsOwnName [] f.1 f.2).isOk then addFileSeq G MAX addFilePopsOwnName [] rest else []) := by
  cases fs with
  | nil => rfl
  | cons f rest =>
    obtain ⟨name, chain⟩ := f
    cases hf : addFile G MAX addFilePopsOwnName [] name chain with
    | error e => simp [addFileSeq, hf, Except.isOk, Except.toBool]
    | ok st =>
      have := add_file_restores_stack G MAX [] name chain st hf
      subst this
      simp [addFileSeq, hf, Except.isOk, Except.toBool]

/-- what the matching pop prevents: with the name left on the stack the third plain file of a compiler with `MAX = 2` is rejected -/
example : addFileSeq Guards.spec 2 false [] [("a", []), ("b", []), ("c", [])] = [none, none, some .includeDepth] ∧
    addFileSeq Guards.spec 2 true [] [("a", []), ("b", []), ("c", [])] = [none, none, none] := by decide

/-- the strings-per-rule count of `countStrings` is over ALL strings of the rule — referenced, anonymous and unreferenced `$_…`
    alike: the translated loop body has no way round `strings_in_rule++` -/
theorem gen_spr_counts_every_string : sprCountsEveryString = true := by decide

/-- **One scan, one deadline**: the stopwatch is not restarted when a suspended scan is resumed, so the time compared with
    the timeout is the time since the scan's first call — a scan whose single waits are all shorter than the timeout still
    times out once their sum exceeds it. -/
theorem resume_deadline_from_first_call (ws : List Nat) (timeout : Nat) :
    seenElapsed stopwatchRestartsOnResume ws = ws.sum ∧
    (Guards.spec.blockExpired (seenElapsed stopwatchRestartsOnResume ws) timeout = true ↔ ws.sum > timeout) := by
  have e : stopwatchRestartsOnResume = false := by decide
  simp [seenElapsed, e, Guards.spec]

example : seenElapsed true [300, 300, 300, 300, 300] = 300 ∧ seenElapsed false [300, 300, 300, 300, 300] = 1500 := by decide

variable {G : Guards} (hG : G.Sound)
include hG
set_option linter.unusedSectionVars false

/-- **Cap on one list**: the count never exceeds `MAX`; at `MAX` the list is returned unchanged
    with TOO_MANY_MATCHES (even for an offset already present); below `MAX` the call succeeds. -/
theorem insertMatch_cap (MAX : Nat) (m : Match) (rep : Bool) (l : MList) (h : l.count ≤ MAX) :
    (addMatch G MAX m rep l).1.count ≤ MAX ∧
    (l.count = MAX → addMatch G MAX m rep l = (l, some .tooManyMatches)) ∧
    (l.count < MAX → (addMatch G MAX m rep l).2 = none) := by
  refine ⟨addMatch_count_le hG MAX m rep l h, ?_, ?_⟩
  · intro he
    unfold addMatch
    rw [if_pos ((hG.cap _ _ h).2 he)]
  · intro hlt
    unfold addMatch
    have : ¬ G.capReached l.count MAX = true := fun hp => by have := (hG.cap _ _ h).1 hp; omega
    rw [if_neg this]

/-- A successful insertion keeps the list strictly ordered, keeps `count` equal to the number of
    nodes, and the stored offsets are exactly the old ones plus the new one. -/
theorem insertMatch_list (MAX : Nat) (m : Match) (rep : Bool) (l : MList)
    (hd : Desc l.items) (hc : l.count = l.items.length) (hok : (addMatch G MAX m rep l).2 = none) :
    Desc (addMatch G MAX m rep l).1.items ∧
    (addMatch G MAX m rep l).1.count = (addMatch G MAX m rep l).1.items.length ∧
    ∀ o, o ∈ (addMatch G MAX m rep l).1.items.map (·.off) ↔ o = m.off ∨ o ∈ l.items.map (·.off) := by
  unfold addMatch at hok ⊢
  split
  · rename_i hcap; simp [hcap] at hok
  · refine ⟨insertDesc_desc m rep l.items hd, ?_, insertDesc_offsets m rep l.items⟩
    simp only [insertDesc_length]
    split <;> omega

example : (addMatch Guards.spec 2 ⟨5, 1⟩ false ⟨2, [⟨9, 1⟩, ⟨3, 1⟩]⟩) = (⟨2, [⟨9, 1⟩, ⟨3, 1⟩]⟩, some .tooManyMatches) ∧
          (addMatch Guards.spec 3 ⟨5, 1⟩ false ⟨2, [⟨9, 1⟩, ⟨3, 1⟩]⟩) = (⟨3, [⟨9, 1⟩, ⟨5, 1⟩, ⟨3, 1⟩]⟩, none) := by decide

/-- **Counts stay bounded over a whole scan**, for every candidate sequence, every callback
    behaviour, also in a scan that is aborted. -/
theorem scan_counts_bounded (MAX : Nat) (cont : Nat → Bool) (evs : List Ev) (j : Nat) :
    ((scanEvents G MAX cont SState.init evs).1.lists j).count ≤ MAX :=
  (scanEvents_weak hG MAX cont evs SState.init (SInv_init MAX)).1 j

/-- **The warning callback is issued at most once per string and scan** (documented in capi.rst). -/
theorem too_many_called_once (MAX : Nat) (cont : Nat → Bool) (evs : List Ev) :
    (scanEvents G MAX cont SState.init evs).1.warned.Nodup :=
  (scanEvents_weak hG MAX cont evs SState.init (SInv_init MAX)).2

/-- After CALLBACK_CONTINUE the string is muted: a muted string's list never changes again. -/
theorem muted_string_unchanged (MAX : Nat) (cont : Nat → Bool) (evs : List Ev) (s : SState) (j : Nat)
    (hm : s.disabled j = true) :
    (scanEvents G MAX cont s evs).1.lists j = s.lists j ∧ (scanEvents G MAX cont s evs).1.disabled j = true := by
  refine (scanEvents_ind (P := fun t => t.lists j = s.lists j ∧ t.disabled j = true) MAX cont (fun _ h => h)
    (fun t e ht => ?_) evs s ⟨rfl, hm⟩).2
  suffices h : SameOn j (verifyStep G MAX cont t e).1 t from
    ⟨fun _ => ⟨h.1.trans ht.1, h.2.trans ht.2⟩, h.1.trans ht.1, h.2.trans ht.2⟩
  by_cases hj : e.sid = j
  · subst hj
    unfold verifyStep
    rw [if_pos ht.2]
    exact ⟨rfl, rfl⟩
  · exact verifyStep_other MAX cont t e j hj

/-- **Frame property**: in a scan that completes, the matches (and mute bit) of string `j` are
    exactly those of a scan that sees only `j`'s candidates — a limit hit by another string never
    changes `j`'s results. Holds for arbitrary start states agreeing on `j`. -/
theorem scan_frame (MAX : Nat) (cont : Nat → Bool) (evs : List Ev) (j : Nat) (s t : SState)
    (hl : s.lists j = t.lists j) (hd : s.disabled j = t.disabled j)
    (hok : (scanEvents G MAX cont s evs).2 = none) :
    (scanEvents G MAX cont s evs).1.lists j = (scanEvents G MAX cont t (evs.filter (·.sid = j))).1.lists j ∧
    (scanEvents G MAX cont t (evs.filter (·.sid = j))).2 = none :=
  have ⟨h1, h3⟩ := scanEvents_frame MAX cont evs j s t ⟨hl, hd⟩ hok
  ⟨h1.1, h3⟩

/-- Non-vacuity: string 0 hits a cap of 2 and is muted, string 1's list equals its solo scan. -/
example :
    let evs : List Ev := [⟨0, ⟨0, 1⟩⟩, ⟨1, ⟨1, 1⟩⟩, ⟨0, ⟨2, 1⟩⟩, ⟨0, ⟨4, 1⟩⟩, ⟨1, ⟨5, 1⟩⟩, ⟨0, ⟨6, 1⟩⟩]
    let r := scanEvents Guards.spec 2 (fun _ => true) SState.init evs
    r.2 = none ∧ r.1.warned = [0] ∧ (r.1.lists 0).count = 2 ∧ r.1.lists 1 = ⟨2, [⟨5, 1⟩, ⟨1, 1⟩]⟩ ∧
    (scanEvents Guards.spec 2 (fun _ => true) SState.init (evs.filter (·.sid = 1))).1.lists 1 = r.1.lists 1 := by decide

/-- **VM stack**: for every capacity and every push/pop program started with `sp ≤ cap`,
    ERROR_EXEC_STACK_OVERFLOW is raised exactly when the program would need more than `cap`
    slots, and otherwise the stack pointer never leaves `[0, cap]`. -/
theorem vm_stack_bound (cap : Nat) (ops : List StkOp) (sp : Nat) (h : sp ≤ cap) :
    (vmRun G cap sp ops = none ↔ peak sp ops > cap) ∧
    (∀ sp', vmRun G cap sp ops = some sp' → sp' ≤ cap ∧ peak sp ops ≤ cap) := by
  obtain ⟨hnone, hsome⟩ := vmRun_spec hG cap ops sp h
  refine ⟨hnone, fun sp' hr => ⟨hsome sp' hr, Nat.le_of_not_gt fun hp => ?_⟩⟩
  rw [hnone.2 hp] at hr
  cases hr

example : vmRun Guards.spec 2 0 [.push, .push, .pop, .push] = some 2 ∧ vmRun Guards.spec 2 0 [.push, .push, .push] = none ∧
          peak 0 [.push, .push, .push] = 3 := by decide

/-- **Loop nesting**: for every `for`-structure (sequence of loop entries/exits), the compiler
    reports LOOP_NESTING_LIMIT_EXCEEDED exactly when some point is nested deeper than `MAX`. -/
theorem loop_nesting_limit (MAX : Nat) (evs : List LoopEv) :
    loopRun G MAX 0 evs = none ↔ loopPeak 0 evs > MAX :=
  loopRun_none_iff hG MAX evs 0 (Nat.zero_le _)

/-- `n` loops nested inside each other are accepted iff `n ≤ MAX`. -/
theorem nested_loops_accepted_iff (MAX n : Nat) :
    (loopRun G MAX 0 (List.replicate n .enter ++ List.replicate n .exit)).isSome ↔ n ≤ MAX := by
  rw [Option.isSome_iff_ne_none, Ne, loop_nesting_limit hG, loopPeak_enters_exits n n 0]
  omega

example : (loopRun Guards.spec 4 0 (List.replicate 4 .enter ++ List.replicate 4 .exit)).isSome ∧
          loopRun Guards.spec 4 0 (List.replicate 5 .enter ++ List.replicate 5 .exit) = none := by decide

/-- **Include depth**: a chain of distinct file names on top of a stack of `k ≤ MAX` names is
    accepted iff `k + length ≤ MAX`; otherwise the error is "depth exceeded"; the stack never
    grows beyond `MAX` entries (the size of `file_name_stack`). -/
theorem include_depth_limit (MAX : Nat) (names stack : List String) (hlen : stack.length ≤ MAX)
    (hnd : names.Nodup) (hdisj : ∀ n ∈ names, ¬ n ∈ stack) :
    ((∃ st, pushChain G MAX stack names = .ok st ∧ st.length = stack.length + names.length) ↔
        stack.length + names.length ≤ MAX) ∧
    (stack.length + names.length > MAX → pushChain G MAX stack names = .error .includeDepth) ∧
    (∀ st, pushChain G MAX stack names = .ok st → st.length ≤ MAX) := by
  have e := pushChain_fresh hG MAX names stack hlen hnd hdisj
  refine ⟨?_, fun h => e.trans (if_neg (Nat.not_le_of_gt h)), fun st h => pushChain_len_le hG MAX names stack st hlen h⟩
  rw [e]
  split
  · exact ⟨fun _ => ‹_›, fun _ => ⟨_, rfl, by rw [List.length_append, List.length_reverse, Nat.add_comm]⟩⟩
  · exact ⟨fun ⟨_, h, _⟩ => (nomatch h), fun h => absurd h ‹_›⟩

/-- A name already on the stack is reported as circular reference, whatever the depth. -/
theorem include_circular_first (MAX : Nat) (stack : List String) (n : String) (h : n ∈ stack) :
    pushFile G MAX stack n = .error .includeCircular := by
  unfold pushFile
  have : stack.contains n = true := by simpa using h
  rw [if_pos this]

example : pushChain Guards.spec 2 [] ["a", "b"] = .ok ["b", "a"] ∧ pushChain Guards.spec 2 [] ["a", "b", "c"] = .error .includeDepth ∧
          pushChain Guards.spec 2 [] ["a", "a"] = .error .includeCircular := by decide

/-- **Strings per rule**: a rule whose strings amount to `n` `YR_STRING`s is rejected iff `n > M`. -/
theorem strings_per_rule_limit (M n : Nat) : countStrings G M 0 n = none ↔ n > M := by
  have := countStrings_none_iff hG M n 0 (Nat.zero_le _)
  simpa using this

example : countStrings Guards.spec 3 0 3 = some 3 ∧ countStrings Guards.spec 3 0 4 = none ∧ countStrings Guards.spec 0 0 1 = none := by decide

/-- **Identifier length**: "identifier too long" exactly above the documented maximum (128). -/
theorem identifier_length_limit (n : Nat) : G.identTooLong n = true ↔ n > specIdentMax :=
  hG.ident n

/-- **Integer literals**: a literal is accepted iff its mathematical value fits `int64`, and then
    the value is exact (no silent wrap-around in the KB/MB multiplication). -/
theorem int_literal_range (n : Nat) (suf : Suffix) (v : Nat) :
    intLiteral G n suf = .ok v ↔
      (n * (match suf with | .none => 1 | .kb => 1024 | .mb => 1048576) ≤ int64Max ∧
       v = n * (match suf with | .none => 1 | .kb => 1024 | .mb => 1048576)) := by
  unfold intLiteral
  cases suf with
  | none =>
    rw [Nat.mul_one]
    split
    · exact ⟨nofun, fun h => absurd h.1 (Nat.not_le_of_gt ‹_›)⟩
    · exact ⟨fun h => ⟨Nat.le_of_not_gt ‹_›, (Except.ok.inj h).symm⟩, fun h => h.2 ▸ rfl⟩
  | kb => rw [hG.kbMulEq]; exact scaledLiteral_ok_iff (by decide) (hG.kb n)
  | mb => rw [hG.mbMulEq]; exact scaledLiteral_ok_iff (by decide) (hG.mb n)

example : intLiteral Guards.spec 9007199254740991 .kb = .ok 9223372036854774784 ∧
          intLiteral Guards.spec 9007199254740992 .kb = .error .intOverflow ∧
          intLiteral Guards.spec 9223372036854775808 .none = .error .intOverflow := by decide

/-- **Split ids**: for every expression of the modelled fragment and every limit, the emitter
    assigns ids `0 … splits r − 1`; it fails with TOO_COMPLEX only if `splits r > MAX`, always fails
    if `splits r > MAX`, and a successful emission used at most `MAX` ids (so every id is `< MAX`,
    the size of `splits_executed[]` in the executor). -/
theorem emit_split_limit (MAX : Nat) (r : Re) :
    (emitCode G MAX r = .error .reTooComplex → splits r > MAX) ∧
    (splits r > MAX → ∃ e, emitCode G MAX r = .error e) ∧
    (∀ c, emitCode G MAX r = .ok c → c.split = splits r ∧ splits r ≤ MAX) := by
  have h := emit_spec hG MAX r ⟨0, 0⟩ (Nat.zero_le _)
  unfold emitCode
  generalize emit G MAX r ⟨0, 0⟩ = res at h ⊢
  cases res with
  | ok c =>
    obtain ⟨hs, hle⟩ : c.split = 0 + splits r ∧ c.split ≤ MAX := h
    rw [Nat.zero_add] at hs
    exact ⟨nofun, fun hb => absurd (hs ▸ hle) (Nat.not_le_of_gt hb), fun c' hc' => Except.ok.inj hc' ▸ ⟨hs, hs ▸ hle⟩⟩
  | error e =>
    refine ⟨fun he => ?_, fun _ => ⟨e, rfl⟩, nofun⟩
    cases he
    exact Nat.zero_add (splits r) ▸ (h.resolve_left nofun).2

/-- `abcd` followed by `n` optional atoms (`x?` = `{0,1}`): accepted iff `n ≤ MAX` (sizes stay small). -/
example : (emitCode Guards.spec 3 (.cat .lit (.cat (.range 0 1 .lit) (.cat (.range 0 1 .lit) (.range 0 1 .lit))))) = .ok ⟨3, 21⟩ ∧
          (emitCode Guards.spec 2 (.cat .lit (.cat (.range 0 1 .lit) (.cat (.range 0 1 .lit) (.range 0 1 .lit))))) = .error .reTooComplex ∧
          splits (.range 2 4 (.alt .lit .lit)) = 4 := by decide

/-- **Fibers**: for every create/release schedule the pool never allocates more than `MAX`
    fibers, allocated = free + live, and a creation fails (TOO_MANY_RE_FIBERS) exactly when the
    free list is empty and `MAX` fibers are live. -/
theorem fiber_limit (MAX : Nat) (ops : List FibOp) :
    PoolInv MAX (fibRun G MAX ⟨0, 0, 0⟩ ops).1 ∧
    ∀ p, PoolInv MAX p → ((fibStep G MAX p .create).2 = some .tooManyFibers ↔ (p.free = 0 ∧ p.live = MAX)) := by
  refine ⟨fibRun_inv hG MAX ops ⟨0, 0, 0⟩ ⟨Nat.zero_le _, rfl⟩, fun p hp => ?_⟩
  have hb := hp.bound; have hc := hp.conserve
  by_cases hl : p.live < MAX
  · obtain ⟨_, hv, _⟩ := fibStep_create_ok hG MAX p hp hl
    rw [hv]
    exact ⟨nofun, fun h => by omega⟩
  · rw [fibStep_create_full hG MAX p hp (by omega)]
    exact ⟨fun _ => by omega, fun _ => rfl⟩

/-- **A scan that hits the fiber limit leaves the scanner usable**: every `yr_re_exec` (whatever it needs, whether it
    fails or not) returns with no fiber live and the pool invariant intact; it fails exactly when it needs more
    than `MAX` fibers at once. Hence, for every sequence of scans with one scanner, each scan's outcome depends only
    on its own need — a hostile scan never changes the result of the scans that follow. -/
theorem fiber_limit_scanner_reusable (MAX need : Nat) (p : Pool) (hp : PoolInv MAX p) (h0 : p.live = 0) :
    PoolInv MAX (reExec G MAX need p).1 ∧ (reExec G MAX need p).1.live = 0 ∧
    ((reExec G MAX need p).2 = some .tooManyFibers ↔ need > MAX) ∧ ((reExec G MAX need p).2 = none ↔ need ≤ MAX) := by
  obtain ⟨hinv, hlive, hres⟩ := reExec_spec hG MAX need p hp
  rw [h0, Nat.zero_add] at hres
  refine ⟨hinv, hlive, ?_⟩
  rw [hres]
  split
  · exact ⟨⟨nofun, fun h => absurd ‹_› (Nat.not_le_of_gt h)⟩, fun _ => ‹_›, fun _ => rfl⟩
  · exact ⟨⟨fun _ => Nat.lt_of_not_le ‹_›, fun _ => rfl⟩, nofun, fun h => absurd h ‹_›⟩

example : reExecSeq Guards.spec 4 ⟨0, 0, 0⟩ [2, 9, 2, 4, 5] = [none, some .tooManyFibers, none, none, some .tooManyFibers] := by decide

example : (fibRun Guards.spec 2 ⟨0, 0, 0⟩ [.create, .create, .create, .release, .create]).2 =
          [none, none, some .tooManyFibers, none, none] := by decide

/-- **Timeout cadence of the VM**: with a timeout set, after `k` instructions the clock has been
    read exactly `⌊(cycle + k) / N⌋` times — so between two consecutive clock reads the VM executes
    exactly `N` instructions, and any `N` consecutive instructions contain a read. -/
theorem timeout_cadence (N : Nat) (hN : N ≥ 1) (cycle k : Nat) (h : cycle < N) :
    vmReads G N cycle k = (cycle + k) / N ∧ vmReads G N cycle N ≥ 1 := by
  refine ⟨vmReads_eq hG N hN k cycle h, ?_⟩
  rw [vmReads_eq hG N hN N cycle h]
  exact (Nat.le_div_iff_mul_le (by omega)).2 (by omega)

/-- With no opcode writing the counter the opcodes do not matter: only their number does. -/
theorem vmReadsProg_nil_writers (N : Nat) (prog : List String) (cycle : Nat) :
    vmReadsProg G N [] cycle prog = vmReads G N cycle prog.length := by
  induction prog generalizing cycle with
  | nil => rfl
  | cons op rest ih => simp [vmReadsProg, vmReads, ih]

/-- **Timeout cadence across rule boundaries**: no opcode of the translated interpreter writes the counter
    (`vmCycleWriters = []`), so for ANY executed instruction sequence — however it is cut into rules
    (`OP_INIT_RULE … OP_MATCH_RULE`) — the clock is read exactly `⌊(cycle + length) / N⌋` times: at most `N`
    instructions run between two deadline checks, also when every single rule is shorter than `N`. -/
theorem timeout_cadence_across_rules (N : Nat) (hN : N ≥ 1) (cycle : Nat) (h : cycle < N) (prog : List String) :
    vmReadsProg G N vmCycleWriters cycle prog = (cycle + prog.length) / N ∧
    (prog.length ≥ N → vmReadsProg G N vmCycleWriters cycle prog ≥ 1) := by
  have e : vmCycleWriters = [] := by decide
  rw [e, vmReadsProg_nil_writers hG]
  refine ⟨vmReads_eq hG N hN prog.length cycle h, fun hl => ?_⟩
  rw [vmReads_eq hG N hN prog.length cycle h]
  exact (Nat.le_div_iff_mul_le (by omega)).2 (by omega)

/-- **Timeout cadence of the block scanner**: any window of `k` consecutive bytes contains at
    least `⌊k / S⌋` clock reads (one per `S` bytes), wherever the window starts. -/
theorem block_timeout_cadence (S : Nat) (hS : S ≥ 1) (a k : Nat) : blockReads S a k ≥ k / S := by
  induction k using Nat.strongRecOn generalizing a with
  | _ k ih =>
    rw [Nat.div_eq]
    split
    · -- the first `S` positions hold the multiple `S * ⌈a / S⌉`; the rest is a shorter window
      have hadd := blockReads_add S a S (k - S)
      rw [show S + (k - S) = k by omega] at hadd
      have hdm := Nat.div_add_mod (a + S - 1) S
      have hlt := Nat.mod_lt (a + S - 1) hS
      have hfirst := blockReads_pos S a S (S * ((a + S - 1) / S)) (by omega) (by omega) (Nat.mul_mod_right ..)
      have := ih (k - S) (by omega) (a + S)
      omega
    · exact Nat.zero_le _

/-- what `timeout_cadence_across_rules` excludes: with a counter restarted by `OP_INIT_RULE`, rules shorter than `N` never read the clock -/
example : vmReadsProg Guards.spec 10 ["OP_INIT_RULE"] 0
    ((List.replicate 6 ("OP_INIT_RULE" :: List.replicate 4 "OP_PUSH")).flatten) = 0 ∧
    vmReadsProg Guards.spec 10 [] 0 ((List.replicate 6 ("OP_INIT_RULE" :: List.replicate 4 "OP_PUSH")).flatten) = 3 := by decide

/-- Once the clock has passed the deadline, the next clock read reports the timeout
    (the comparisons are strict `>`: a scan is never cut short before the deadline). -/
theorem timeout_detected (elapsed timeout : Nat) :
    (G.vmExpired elapsed timeout = true ↔ elapsed > timeout) ∧ (G.blockExpired elapsed timeout = true ↔ elapsed > timeout) :=
  ⟨hG.vmExp elapsed timeout, hG.blockExp elapsed timeout⟩

example : vmReads Guards.spec 10 0 25 = 2 ∧ vmReads Guards.spec 10 9 1 = 1 ∧ blockReads 8 1 8 = 1 ∧ blockReads 8 0 17 = 3 := by decide


end YaraModel.Limits
