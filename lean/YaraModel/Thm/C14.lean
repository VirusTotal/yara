/-
  C14 — hash, math and string module functions compute their definitions.
  The model (Model/HashMath.lean) mirrors hash.c / math.c / string.c; the definitions the property
  speaks about are in Spec/HashMath.lean, the lemmas in Lemmas/HashMath*.lean.
  The code modelled is /repo with 3e6ded9 (unsigned bytes), 5e43bd9 (statistics carried across blocks),
  d04bbf9 (walker break test) and 3070536 (abs); the behaviour without them is the frozen `…V0` /
  `signedConv` definitions, with kernel-checked witnesses of the difference.
  All statements quantify over EVERY block list / byte string / offset / length / call sequence.
  Digest primitives are a parameter `H` (trusted; compared with hashlib by the check).
  Property theorems, and the walker lemma `chunksWalk_head_empty` for `serial_correlation_data`.
-/
import YaraModel.Lemmas.HashMathMem
import YaraModel.Lemmas.HashMathHash
import YaraModel.Lemmas.HashMathMath
namespace YaraModel.HM
open Spec

/-- The memory-map specification used for several blocks coincides with the buffer
    specification on one block. -/
theorem addressedMem_single (base : Nat) (data : Bytes) (off len : Int) :
    Spec.addressedMem [(base, data)] off len = Spec.addressed base data off len := by
  rw [addressed_eq]
  unfold addressedMem
  split
  · rfl
  · by_cases hin : base ≤ off.toNat ∧ off.toNat < base + data.length
    · obtain ⟨i, hi⟩ := Nat.exists_eq_add_of_le hin.1
      have hlt : i < data.length := Nat.lt_of_add_lt_add_left (hi ▸ hin.2)
      rw [if_pos hin, hi, memAt_in base data [] i hlt, Nat.add_sub_cancel_left]
      show readFrom _ _ (min (base + i + len.toNat) (max (base + data.length) 0) - (base + i)) = _
      rw [Nat.max_zero, ← Nat.sub_min_sub_right, Nat.add_sub_cancel_left, Nat.add_sub_add_left,
        readFrom_head base data [] i _ (by omega), slice, ← List.length_drop, ← List.take_eq_take_min]
      rfl
    · rw [if_neg hin, memAt_out base data [] _ hin]
      rfl

/-- **Adjacent blocks behave like their concatenation**: behind any prefix of blocks that end
    at or before `b1`, two adjacent non-empty blocks can be replaced by one block holding the
    concatenated bytes — for every offset and length (zero-length ranges at the inner boundary
    included). -/
theorem rangeWalk_contig (pre rest : List Block) (b1 b2 : Block) (hc : b2.base = b1.base + b1.size)
    (hs1 : 0 < b1.size) (hs2 : 0 < b2.size) (hpre : ∀ p ∈ pre, p.base + p.size ≤ b1.base)
    (off len : Int) :
    rangeWalk (pre ++ b1 :: b2 :: rest) off len =
      rangeWalk (pre ++ ⟨b1.base, b1.data ++ b2.data⟩ :: rest) off len := by
  unfold rangeWalk chunksWalk
  have hargs : argsOk (pre ++ b1 :: b2 :: rest) off len =
      argsOk (pre ++ ⟨b1.base, b1.data ++ b2.data⟩ :: rest) off len := by
    cases pre <;> rfl
  rw [hargs]
  split
  · exact walk_contig_prefix pre b1 b2 rest hc hs1 hs2 hpre off.toNat len.toNat false (by simp)
  · rfl

example : rangeWalk [⟨0, [1, 2]⟩, ⟨2, [3]⟩, ⟨3, [4, 5]⟩] 1 3 = rangeWalk [⟨0, [1, 2]⟩, ⟨2, [3, 4, 5]⟩] 1 3 ∧
    rangeWalk [⟨0, [1, 2]⟩, ⟨2, [3]⟩, ⟨3, [4, 5]⟩] 1 3 = some [2, 3, 4] := by decide

/-- **A gap makes the range undefined**: a range that starts in `b1` and needs bytes beyond its
    end is undefined when the next block does not start exactly there. -/
theorem rangeWalk_gap (b1 b2 : Block) (rest : List Block) (off len : Int)
    (hoff : (b1.base : Int) ≤ off ∧ off < b1.base + b1.size) (hlen : (b1.base + b1.size : Int) < off + len)
    (hgap : b1.base + b1.size < b2.base) :
    rangeWalk (b1 :: b2 :: rest) off len = none := by
  rw [rangeWalk_cons, if_pos (by omega), walk_in_abs b1 _ _ _ false (by omega), if_neg (by omega),
    walk_out b2 rest _ _ true (by omega)]
  rfl

example : rangeWalk [⟨0, [1, 2, 3]⟩, ⟨4, [5, 6]⟩] 1 4 = none ∧ rangeWalk [⟨0, [1, 2, 3]⟩, ⟨4, [5, 6]⟩] 1 2 = some [2, 3] := by
  decide

/-- Blocks that end before the offset are skipped: the range may start in any block. -/
theorem rangeWalk_skip (b b' : Block) (rest : List Block) (off len : Int)
    (hoff : (b.base + b.size : Int) ≤ off) (hoff' : (b'.base : Int) ≤ off) :
    rangeWalk (b :: b' :: rest) off len = rangeWalk (b' :: rest) off len := by
  have h0 : 0 ≤ off := by omega
  have hb : (b.base : Int) ≤ off := by omega
  rw [rangeWalk_cons, rangeWalk_cons, walk_out b _ _ _ false (by omega)]
  simp only [h0, hb, hoff', true_and, and_true]
  rfl

example : rangeWalk [⟨0, [1, 2]⟩, ⟨4, [5, 6, 7]⟩] 5 1 = some [6] := by decide

/-- **Every block layout**: on every ascending list of non-empty, non-overlapping blocks (any
    number of blocks, any gaps) the walker returns exactly the memory-map specification
    (`Spec.addressedMem`: the bytes at addresses off … min(off+len, end of memory)−1, undefined when
    the range starts at an unmapped address or crosses an unmapped one) — for EVERY offset and
    length, zero-length ranges at inner block boundaries included. -/
theorem rangeWalk_eq_addressedMem (blocks : List Block) (hl : Layout blocks) (off len : Int) :
    rangeWalk blocks off len = Spec.addressedMem (toMem blocks) off len := by
  unfold Spec.addressedMem
  cases blocks with
  | nil => split <;> rfl
  | cons b rest =>
    rw [rangeWalk_cons]
    by_cases hneg : off < 0 ∨ len < 0
    · rw [if_pos hneg, if_neg (by omega)]
    · rw [if_neg hneg]
      by_cases hlow : (b.base : Int) ≤ off
      · rw [if_pos (by omega), walk_eq_readFrom _ _ hl.above _ _ false Bool.false_ne_true.elim]
        cases memAt (toMem (b :: rest)) off.toNat <;> rfl
      · rw [if_neg (by omega), memAt_below _ _ hl.above off.toNat (by omega)]
        rfl

example : Layout [⟨0, [1, 2]⟩, ⟨2, [3]⟩, ⟨5, [6, 7]⟩] ∧
    Spec.addressedMem (toMem [⟨0, [1, 2]⟩, ⟨2, [3]⟩, ⟨5, [6, 7]⟩]) 1 2 = some [2, 3] ∧
    Spec.addressedMem (toMem [⟨0, [1, 2]⟩, ⟨2, [3]⟩, ⟨5, [6, 7]⟩]) 1 3 = none ∧
    Spec.addressedMem (toMem [⟨0, [1, 2]⟩, ⟨2, [3]⟩, ⟨5, [6, 7]⟩]) 6 9 = some [7] := by
  refine ⟨?_, by decide, by decide, by decide⟩
  simp [Layout, Block.size]

/-- **One block** (a buffer `data` at address `base`): the walker returns exactly
    `data[off-base, min(off-base+len, size))` when `0 ≤ len` and `base ≤ off < base+size`,
    and is undefined for a negative offset or length and for `off ≥ base+size` — in particular
    for `off = size` even with `len = 0`, while `len = 0` inside the buffer gives the empty string. -/
theorem rangeWalk_single (base : Nat) (data : Bytes) (off len : Int) :
    rangeWalk [⟨base, data⟩] off len = Spec.addressed base data off len := by
  cases data with
  | nil =>
    -- an empty block is never entered
    have h : ¬ (0 ≤ len ∧ (base : Int) ≤ off ∧ off < (base : Int) + ([] : Bytes).length) := by
      simp only [List.length_nil]; omega
    rw [rangeWalk_cons, addressed, if_neg h]
    split
    · exact walk_out ⟨base, []⟩ [] _ _ false (by simp [Block.size])
    · rfl
  | cons x t =>
    -- a non-empty block is a layout: the every-layout theorem, on the one-region memory map
    exact (rangeWalk_eq_addressedMem [⟨base, x :: t⟩] (Nat.succ_pos _) off len).trans (addressedMem_single base (x :: t) off len)

example : rangeWalk [⟨0, [1, 2, 3, 4, 5]⟩] 3 10 = some [4, 5] ∧ rangeWalk [⟨0, [1, 2, 3, 4, 5]⟩] 5 0 = none ∧
    rangeWalk [⟨0, [1, 2, 3, 4, 5]⟩] 4 0 = some [] ∧ rangeWalk [⟨0, [1, 2, 3, 4, 5]⟩] (-1) 2 = none := by decide

/-- A zero-length range that starts exactly where a block ends and the next one begins is the
    empty string (as on the concatenated buffer). -/
theorem rangeWalk_boundary_zero_length (b1 b2 : Block) (rest : List Block)
    (hc : b2.base = b1.base + b1.size) (hs2 : 0 < b2.size) :
    rangeWalk (b1 :: b2 :: rest) (b2.base : Int) 0 = some [] := by
  rw [rangeWalk_cons, if_pos (by omega)]
  show walk (b1 :: b2 :: rest) b2.base 0 false = some []
  rw [walk_out b1 _ _ _ false (by omega)]
  exact (walk_in b2 rest 0 0 false hs2).trans (if_pos (Nat.zero_le _))

/-- Witness (kernel-checked): the frozen `walkLoopV0`, which evaluates the break test also before a
    block has been entered, is undefined for that range; the walker gives the empty string. -/
theorem walker_v0_boundary_witness :
    walkLoopV0 [⟨0, [1, 2]⟩, ⟨2, [3]⟩] 2 0 false = none ∧
    walkLoop [⟨0, [1, 2]⟩, ⟨2, [3]⟩] 2 0 false = some [[]] ∧
    rangeWalk [⟨0, [1, 2, 3]⟩] 2 0 = some [] := by decide

/-- **No wrap in the break test** `base + size >= (uint64_t) offset + (uint64_t) length`: for all
    non-negative int64 `offset`, `length` (as 64-bit words: below 2^63) and every block that ends
    below 2^63, both 64-bit sums are the mathematical sums and the unsigned comparison is the
    comparison of natural numbers — the walker model may therefore compute in `Nat`. -/
theorem breakTest_no_wrap (base size off len : BitVec 64)
    (hoff : off.toNat < 2 ^ 63) (hlen : len.toNat < 2 ^ 63) (hend : base.toNat + size.toNat < 2 ^ 63) :
    (off + len).toNat = off.toNat + len.toNat ∧ (base + size).toNat = base.toNat + size.toNat ∧
    breakTestU64 base size off len = decide (base.toNat + size.toNat ≥ off.toNat + len.toNat) := by
  have h1 : (off + len).toNat = off.toNat + len.toNat := by
    rw [BitVec.toNat_add]; exact Nat.mod_eq_of_lt (by omega)
  have h2 : (base + size).toNat = base.toNat + size.toNat := by
    rw [BitVec.toNat_add]; exact Nat.mod_eq_of_lt (by omega)
  refine ⟨h1, h2, ?_⟩
  unfold breakTestU64 BitVec.ule
  rw [h1, h2]

/-- int64 view of the hypotheses: a non-negative int64 reinterpreted as uint64 is below 2^63. -/
theorem int64_nonneg_lt (x : BitVec 64) (h : 0 ≤ x.toInt) : x.toNat < 2 ^ 63 := by
  rw [BitVec.toInt_eq_toNat_cond] at h
  split at h <;> omega

example : breakTestU64 5 5 1 (BitVec.ofNat 64 (2 ^ 63 - 1)) = false ∧ breakTestU64 5 5 3 7 = true := by decide

/-- **T6 tie**: every entry of the table regenerated from hash.c equals the bitwise reflected
    CRC-32 (polynomial 0xEDB88320) of its index.  The quantifier is the finite table; the proof is
    kernel evaluation over all 256 entries. -/
theorem crc32_table (i : Nat) (h : i < 256) : Gen.crc32Tab[i]! = crcBit i := tab_entry i h

theorem crc32_table_size : Gen.crc32Tab.size = 256 := by
  rw [← Array.length_toList, tab_list, List.length_map, List.length_range]

/-- The table-driven loop (string_crc32) is the bitwise CRC-32 of the string, for all strings. -/
theorem crc32_fold (bs : Bytes) : tableCrc bs = bitwiseCrc bs := by
  unfold tableCrc bitwiseCrc
  rw [show crcTabStep = fun c b => crcBit8 (c ^^^ b.toUInt32) from funext fun c => funext (crcTabStep_eq c)]

/-- data_crc32: carrying the checksum across blocks gives the CRC-32 of the addressed bytes. -/
theorem crc32_data (blocks : List Block) (off len : Int) :
    dataCrc32 blocks off len = (rangeWalk blocks off len).map bitwiseCrc := by
  rw [show bitwiseCrc = tableCrc from (funext crc32_fold).symm]
  exact chunksWalk_fold crcTabStep _ (· ^^^ 0xFFFFFFFF) blocks off len

example : bitwiseCrc [0x31, 0x32, 0x33, 0x34, 0x35, 0x36, 0x37, 0x38, 0x39] = 0xCBF43926 := by decide +kernel

/-- checksum32 is the sum of the bytes modulo 2^32, for all strings. -/
theorem checksum32_sum (bs : Bytes) : (HM.checksum32 bs).toNat = sumBytes bs % 4294967296 := by
  unfold HM.checksum32
  rw [foldl_ckStep]; simp

theorem checksum32_data (blocks : List Block) (off len : Int) :
    (dataChecksum32 blocks off len).map (·.toNat) = (rangeWalk blocks off len).map Spec.checksum32 := by
  rw [show Spec.checksum32 = fun bs => (HM.checksum32 bs).toNat from (funext checksum32_sum).symm]
  exact (Option.map_map ..).trans (chunksWalk_fold ckStep 0 UInt32.toNat blocks off len)

theorem cache_lookup_after_add {D : Type} (c : Cache D) (ns : String) (off len : Int) (d : D) :
    (c.add ns off len d).lookup ns off len = some d := by
  rw [lookup_add, if_pos ⟨rfl, rfl, rfl⟩]

theorem cache_lookup_other_key {D : Type} (c : Cache D) (ns ns' : String) (off len off' len' : Int) (d : D)
    (h : ¬ (ns = ns' ∧ off = off' ∧ len = len')) :
    (c.add ns off len d).lookup ns' off' len' = c.lookup ns' off' len' := by
  rw [lookup_add, if_neg h]

/-- **The cache is transparent**: any sequence of md5/sha1/sha256 range calls made in one scan
    (repeated ranges, the same range through several algorithms, overlapping ranges, undefined
    calls in between) returns, call by call, what a fresh computation returns. -/
theorem cache_transparent {D : Type} (H : Alg → Bytes → D) (blocks : List Block)
    (calls : List (Alg × Int × Int)) :
    runDigests H blocks [] calls = calls.map fun x => (rangeWalk blocks x.2.1 x.2.2).map (H x.1) :=
  runDigests_sound H blocks [] (fun _ _ _ _ h => nomatch h) calls

example : runDigests (fun a bs => (a, bs)) [⟨0, [1, 2, 3]⟩] [] [(.md5, 0, 2), (.sha1, 0, 2), (.md5, 0, 2), (.md5, 2, 0), (.md5, 3, 0)] =
    [some (.md5, [1, 2]), some (.sha1, [1, 2]), some (.md5, [1, 2]), some (.md5, []), none] := by decide

/-- get_distribution counts every byte value of the addressed bytes. -/
theorem hist_correct (blocks : List Block) (off len : Int) :
    getDistribution blocks off len = (rangeWalk blocks off len).map count :=
  getDistribution_eq blocks off len

/-- math.mean(offset, length) = (Σ bytes) / n of the addressed bytes (undefined for n = 0). -/
theorem mean_hist (blocks : List Block) (off len : Int) :
    dataMean blocks off len = (rangeWalk blocks off len).bind Spec.mean :=
  getDistribution_bind meanHist Spec.mean meanHist_count blocks off len

example : dataMean [⟨0, [1, 2, 255]⟩] 0 3 = some 86 := by rw [mean_hist]; decide +kernel

/-- math.deviation(offset, length, m) = Σ |b − m| / n. -/
theorem deviation_hist (blocks : List Block) (off len : Int) (m : Rat) :
    dataDeviation blocks off len m = (rangeWalk blocks off len).bind (Spec.deviation · m) :=
  getDistribution_bind (deviationHist · m) (Spec.deviation · m) (deviationHist_count · m) blocks off len

/-- math.count(byte, offset, length) = number of occurrences; undefined for byte ∉ 0..255. -/
theorem count_hist (blocks : List Block) (byte off len : Int) :
    dataCount blocks byte off len =
      if byte < 0 ∨ byte > 255 then none else (rangeWalk blocks off len).map fun bs => (count bs byte.toNat : Int) := by
  unfold dataCount
  split
  · rfl
  · next h =>
    exact (getDistribution_bind (countHist · byte) _ (countHist_count · byte h) blocks off len).trans
      Option.map_eq_bind.symm

/-- math.percentage(byte, offset, length) = occurrences / n. -/
theorem percentage_hist (blocks : List Block) (byte off len : Int) :
    dataPercentage blocks byte off len =
      if byte < 0 ∨ byte > 255 then none else (rangeWalk blocks off len).bind fun bs => Spec.percentage bs byte.toNat := by
  unfold dataPercentage
  split
  · rfl
  · next h =>
    exact getDistribution_bind (percentageHist · byte) (Spec.percentage · byte.toNat) (percentageHist_count · byte h)
      blocks off len

/-- math.mode(offset, length), where it is defined, is the smallest most frequent byte value of the addressed bytes.  (It is defined
    whenever the range is: `dataMode` is `modeHist` mapped over `getDistribution`, which `hist_correct` describes.) -/
theorem mode_hist (blocks : List Block) (off len : Int) (m : Nat) (h : dataMode blocks off len = some m) :
    ∃ bs, rangeWalk blocks off len = some bs ∧ IsMode bs m := by
  rw [dataMode, hist_correct] at h
  cases hr : rangeWalk blocks off len with
  | none => rw [hr] at h; cases h
  | some bs => exact ⟨bs, rfl, Option.some.inj (hr ▸ h) ▸ modeHist_isMode bs⟩

example : dataMode [⟨0, [7, 3, 3, 7, 9]⟩] 0 5 = some 3 := by decide +kernel

theorem chunksWalk_head_empty (blocks : List Block) (off len : Int) (cs : List Bytes)
    (h : chunksWalk blocks off len = some ([] :: cs)) : cs = [] := by
  unfold chunksWalk at h
  exact walkLoop_head_empty blocks _ _ false cs (Option.ite_none_right_eq_some.mp h).2

/-- math.serial_correlation(offset, length) equals its definition on the addressed bytes for
    EVERY block list. -/
theorem serial_correlation_data (blocks : List Block) (off len : Int) :
    dataSerialCorrelation blocks off len = (rangeWalk blocks off len).map Spec.serialCorrelation :=
  chunksWalk_map _ _ blocks off len fun cs h =>
    sccChunks_eq cs fun cs' hcs => chunksWalk_head_empty blocks off len cs' (hcs ▸ h)

/-- math.monte_carlo_pi(offset, length) equals its definition on the addressed bytes for EVERY
    block list. -/
theorem monte_carlo_data (blocks : List Block) (off len : Int) :
    dataMonteCarloPi blocks off len = (rangeWalk blocks off len).bind Spec.monteCarloPi :=
  chunksWalk_bind _ _ blocks off len fun cs _ => mcChunks_eq cs

/-- Regression witnesses (kernel-checked) for the frozen pre-fix definitions: restarting per block
    differs from the definition on the concatenation. -/
theorem stats_v0_witness :
    sccChunksV0 [[97, 98, 99], [100, 101, 102]] ≠ Spec.serialCorrelation [97, 98, 99, 100, 101, 102] ∧
    sccChunks [[97, 98, 99], [100, 101, 102]] = Spec.serialCorrelation [97, 98, 99, 100, 101, 102] ∧
    mcChunksV0 [[1, 2, 3], [4, 5, 6]] = none ∧ (mcChunks [[1, 2, 3], [4, 5, 6]]).isSome = true := by
  decide +kernel

/-- With bytes read as unsigned the string forms are the definitions… -/
theorem string_stats_unsigned (bs : Bytes) (m : Rat) :
    meanStr unsignedConv bs = Spec.mean bs ∧ deviationStr unsignedConv bs m = Spec.deviation bs m ∧
    sccStr unsignedConv bs = Spec.serialCorrelation bs ∧ mcStr unsignedConv bs = Spec.monteCarloPi bs :=
  have h : ∀ b ∈ bs, unsignedConv b = b.toNat := fun _ _ => rfl
  ⟨meanStr_eq _ bs h, deviationStr_eq _ bs m h, sccStr_eq _ bs h, mcStr_eq _ bs h⟩

/-- Regression characterisation of the former signed `char` reading (fixed by 3e6ded9; frozen
    `signedConv`/`sextConv`): it agrees with the definition on strings of 7-bit bytes only. -/
theorem string_stats_signed_7bit (bs : Bytes) (m : Rat) (h : ∀ b ∈ bs, b.toNat < 128) :
    meanStr signedConv bs = Spec.mean bs ∧ deviationStr signedConv bs m = Spec.deviation bs m ∧
    sccStr signedConv bs = Spec.serialCorrelation bs ∧ mcStr sextConv bs = Spec.monteCarloPi bs :=
  have h1 : ∀ b ∈ bs, signedConv b = b.toNat := fun b hb => (conv_agree b (h b hb)).1
  have h2 : ∀ b ∈ bs, sextConv b = b.toNat := fun b hb => (conv_agree b (h b hb)).2
  ⟨meanStr_eq _ bs h1, deviationStr_eq _ bs m h1, sccStr_eq _ bs h1, mcStr_eq _ bs h2⟩

example : meanStr signedConv [0xff, 0xff] = some (-1) ∧ Spec.mean [0xff, 0xff] = some 255 := by decide +kernel

/-- to_int never returns a value outside int64 (overflow is undefined, as `errno` in the code). -/
theorem to_int_in_range (s : Bytes) (base : Int) (r : Int) (h : stringToIntBase s base = some r) :
    -two63 ≤ r ∧ r ≤ two63 - 1 := by
  unfold stringToIntBase at h
  exact strToInt_range s _ r (Option.ite_none_right_eq_some.mp h).2

theorem to_int_bad_base (s : Bytes) (base : Int) (h : ¬ (base = 0 ∨ (2 ≤ base ∧ base ≤ 36))) :
    stringToIntBase s base = none := if_neg h

example : stringToInt [0x20, 0x2d, 0x30, 0x78, 0x31, 0x46] = some (-31) ∧ stringToInt [0x31, 0x32, 0x00, 0x33] = some 12 ∧
    stringToIntBase [0x7a] 36 = some 35 ∧ stringToInt [0x30, 0x38] = none := by decide +kernel

/-- math.min / math.max compare as unsigned 64-bit: on non-negative arguments they are min / max. -/
theorem min_max_nonneg (i j : Int) (hi : 0 ≤ i ∧ i < two63) (hj : 0 ≤ j ∧ j < two63) :
    mathMin i j = min i j ∧ mathMax i j = max i j := by
  unfold mathMin mathMax toU64 ofU64 two64 two63 at *
  rw [Int.emod_eq_of_lt hi.1 (by omega), Int.emod_eq_of_lt hj.1 (by omega)]
  constructor <;> omega

/-- math.abs is the absolute value; undefined exactly for INT64_MIN (not representable). -/
theorem abs_spec (i : Int) : mathAbs i = if i = -two63 then none else some (i.natAbs : Int) := by
  unfold mathAbs; split
  · rfl
  · congr 1; split <;> omega

end YaraModel.HM
