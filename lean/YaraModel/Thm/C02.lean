/-
  C02 — hex-string matches are exactly the documented occurrences.  Property theorems only.
-/
import YaraModel.Lemmas.ReAlgebra
import YaraModel.Lemmas.ReChain
import YaraModel.Lemmas.ReEmit
import YaraModel.Lemmas.ReAtomPos
import YaraModel.Lemmas.ReAtomEntry
import YaraModel.Lemmas.ReScan
import YaraModel.Lemmas.ReSplit
import YaraModel.Lemmas.ReCompleteSF
import YaraModel.Lemmas.ReCompleteAtom
import YaraModel.Lemmas.ReScanComplete
import YaraModel.Lemmas.ReHexGram
namespace YaraModel.C02
open YaraModel.Re

/-- The specification is self-consistent: the set-of-end-positions semantics (what the compiled driver evaluates in
    the correspondence runs) coincides with the independent relational semantics, for every node kind. -/
theorem ends_iff_Matches (fl : Flags) (buf : Bytes) (r : Re) (p q : Nat) :
    q ∈ r.ends fl buf p ↔ Re.Matches fl buf r p q :=
  Re.ends_iff_Matches fl buf r p q

/-- The driver's fast set evaluator answers exactly the specification at every offset inside the buffer. -/
theorem driver_evaluates_spec (fl : Flags) (buf : Bytes) (r : Re) (o : Nat) (ho : o ≤ buf.size) (q : Nat) :
    q ∈ r.endsSet fl buf [o] ↔ Re.Matches fl buf r o q :=
  endsSet_iff_Matches fl buf r o ho q

/-- `split_sem`: a pattern `pre [n-m] post` (hex strings: byte mode, dot-all) matches `[p,q)` exactly when `pre` matches
    some `[p,e)`, `post` matches some `[s,q)` and the gap `s - e` lies in `[n,m]` (inside the data).  This is the
    re-joining rule of chained strings: `ending_offset + chain_gap_min ≤ match_offset ≤ ending_offset + chain_gap_max`
    (scan.c `_yr_scan_verify_chained_string_match`), for ALL patterns, bounds and buffers. -/
theorem split_sem (fl : Flags) (hd : fl.dotall = true) (hw : fl.wide = false) (buf : Bytes) (pre post : Re)
    (n m : Nat) (g : Bool) (p q : Nat) :
    Re.Matches fl buf (.cat pre (.cat (.rangeAny n m g) post)) p q ↔
      ∃ e s, Re.Matches fl buf pre p e ∧ Re.Matches fl buf post s q ∧ e + n ≤ s ∧ s ≤ e + m ∧ (s = e ∨ s ≤ buf.size) := by
  rw [cat_iff]
  simp only [jump_cat_iff hd hw]
  exact ⟨fun ⟨e, h1, s, a1, a2, a3, h3⟩ => ⟨e, s, h1, h3, a1, a2, a3⟩, fun ⟨e, s, h1, h3, a1, a2, a3⟩ => ⟨e, h1, s, a1, a2, a3, h3⟩⟩

/-- instance: `01 [1-2] 03` on `01 AA 03 03` from offset 0 ends at 3 (gap 1) and at 4 (gap 2) -/
example : (Re.cat (.lit 1) (.cat (.rangeAny 1 2 false) (.lit 3))).ends { dotall := true } #[1, 0xAA, 3, 3] 0 = [3, 4] := by decide +kernel

/-- `decompose` (soundness): whatever is verified around an atom — the part before it, read backwards, the atom and the
    part after it, read forwards — is a match of the whole pattern; the atom may sit at any depth (one-hole context
    through concatenations, alternation branches and `+` bodies). -/
theorem decompose_sound (fl : Flags) (buf : Bytes) (c : Ctx) (atom : Re) (p q : Nat)
    (h : c.Through fl buf atom p q) : Re.Matches fl buf (c.fill atom) p q :=
  through_sound c atom p q h

/-- `decompose` (completeness): if one atom is chosen on every way through the pattern (the AND/OR atom tree: both
    branches of an alternation contribute, one side of a concatenation suffices), every match of the whole pattern is
    found from one of the atoms: forward from the atom + exhaustive backward from the atom = whole-pattern match. -/
theorem decompose (fl : Flags) (buf : Bytes) (r : Re) (atoms : List (Ctx × Re)) (hc : Cover r atoms) (p q : Nat) :
    Re.Matches fl buf r p q ↔ ∃ c a, (c, a) ∈ atoms ∧ c.Through fl buf a p q :=
  decompose_iff fl buf r atoms hc p q

/-- instance: in `41 ( 42 43 | 44 ) 45` the atoms `42 43` and `44` (one per branch) cover the pattern -/
example : Cover (.cat (.lit 0x41) (.cat (.alt (.cat (.lit 0x42) (.lit 0x43)) (.lit 0x44)) (.lit 0x45)))
    [(.catR (.lit 0x41) (.catL (.altL .hole (.lit 0x44)) (.lit 0x45)), .cat (.lit 0x42) (.lit 0x43)),
     (.catR (.lit 0x41) (.catL (.altR (.cat (.lit 0x42) (.lit 0x43)) .hole) (.lit 0x45)), .lit 0x44)] :=
  .catR (.catL (.alt (.leaf _) (.leaf _)))


open YaraModel.ReChain in
/-- `chain_sound`: whatever the chain bookkeeping of scan.c confirms for a two-piece chain `head <- tail` is a real pair:
    a verified head match and a verified tail match at a distance inside `[chain_gap_min, chain_gap_max]`, and the reported
    length spans both — for EVERY arrival order of the candidates (no hypothesis). -/
theorem chain_sound (g : Gap) (evs : List Ev) (hp : ∀ e, e ∈ evs → e.piece ≤ 1) (c : Nat × Nat)
    (hc : c ∈ (run [g] evs).confirmed) :
    ∃ h t, h ∈ evs ∧ t ∈ evs ∧ h.piece = 0 ∧ t.piece = 1 ∧ h.off = c.1 ∧ gapOk g (um h) t.off = true ∧
      c.2 = t.off - h.off + t.len :=
  chain2_sound g evs hp c hc

open YaraModel.ReChain in
/-- `chain_exact_partial` (two pieces; the general statement is for k pieces with `updLen` propagating through the middle
    pieces): every head match that has a tail match at a legal distance IS confirmed, provided
      H1  a tail match starts at most `window` = YR_RE_SCAN_LIMIT + YR_MAX_ATOM_LENGTH = 1028 bytes before the tail
          matches that arrived earlier,
      H2  a head offset is verified with one length only,
      H3  a head arrives before the tails it connects to.
    H1 and H3 hold for the real candidate stream: candidates arrive in the order of their atoms' END, an atom is at
    most YR_MAX_ATOM_LENGTH long and the backward matcher runs over at most YR_RE_SCAN_LIMIT bytes, so a later
    candidate starts at most 1028 bytes before an earlier one.  (Before fix 81c4ffe the pruning had no window and H1
    had to be "tails arrive in start order", which alternatives / variable prefixes break: finding F13.)  H2 is what
    finding C02-chain-single-length violates (forward verification keeps one length per offset). -/
theorem chain_exact_partial (g : Gap) (evs : List Ev) (hp : ∀ e, e ∈ evs → e.piece ≤ 1)
    (hH2 : ∀ a b, a ∈ evs → b ∈ evs → a.piece = 0 → b.piece = 0 → a.off = b.off → a.len = b.len)
    (hH1 : evs.Pairwise (fun a b => a.piece = 1 → b.piece = 1 → a.off ≤ b.off + window))
    (hH3 : evs.Pairwise (fun a b => a.piece = 1 → b.piece = 0 → gapOk g (um b) a.off = false))
    (h t : Ev) (hh : h ∈ evs) (ht : t ∈ evs) (hh0 : h.piece = 0) (ht1 : t.piece = 1) (hg : gapOk g (um h) t.off = true) :
    ∃ l, (h.off, l) ∈ (run [g] evs).confirmed :=
  chain2_complete g evs hp hH2 hH1 hH3 h t hh ht hh0 ht1 hg

open YaraModel.ReChain in
/-- the hypotheses are satisfiable and the conclusion non-trivial: `01 02 03 04 [0-300] TAIL`, head at 0, tail at 304 -/
example : (run [{ gmin := 0, gmax := 300 }] [⟨0, 0, 4⟩, ⟨1, 304, 9⟩]).confirmed = [(0, 313)] := by decide +kernel

open YaraModel.ReChain in
/-- the former F13 in the model: the same head and tail, but another alternative of the tail piece (atom `AA BB CC DD` at
    305) is verified first — out of start order, inside the window: the head survives the pruning and is confirmed by the
    second candidate.  This is the behaviour of the fixed scanner on
    `{ 01 02 03 04 [0-300] ( AA BB CC DD | 11 ?? ?? ?? ?? 66 77 88 99 ) }`. -/
example : (run [{ gmin := 0, gmax := 300 }] [⟨0, 0, 4⟩, ⟨1, 305, 4⟩, ⟨1, 304, 9⟩]).confirmed = [(0, 313)] := by decide +kernel

open YaraModel.ReChain in
/-- H1 is needed: a tail candidate more than `window` bytes out of order (impossible in the real stream) loses the head -/
example : (run [{ gmin := 0, gmax := 300 }] [⟨0, 0, 4⟩, ⟨1, 1400, 4⟩, ⟨1, 304, 9⟩]).confirmed = [] := by decide +kernel

open YaraModel.ReChain in
/-- C02-chain-single-length in the model: the head `01 [0-1] 02` matches at 0 with lengths 2 and 3 (H2 fails), only the
    first one is kept, the tail at 3+201 finds no partner -/
example : (run [{ gmin := 201, gmax := 201 }] [⟨0, 0, 2⟩, ⟨0, 0, 3⟩, ⟨1, 204, 1⟩]).confirmed = [] := by decide +kernel

open YaraModel.ReChain in
/-- `chain_matches_spec_partial`: chaining end to end.  If the verified head matches are exactly the matches of `pre`, the
    verified tail matches exactly the matches of `post` (inside the data), and H1–H3 hold, then an offset is confirmed
    for the chained string exactly when the UNSPLIT pattern `pre [n-m] post` matches there (split_sem ∘ chain bookkeeping). -/
theorem chain_matches_spec_partial (fl : Flags) (hd : fl.dotall = true) (hw : fl.wide = false) (buf : Bytes) (pre post : Re)
    (n m : Nat) (gr : Bool) (evs : List Ev) (hp : ∀ e, e ∈ evs → e.piece ≤ 1)
    (hheads : ∀ o L, (∃ h, h ∈ evs ∧ h.piece = 0 ∧ h.off = o ∧ h.len = L) ↔ Re.Matches fl buf pre o (o + L))
    (htails : ∀ o L, (∃ t, t ∈ evs ∧ t.piece = 1 ∧ t.off = o ∧ t.len = L) ↔ (Re.Matches fl buf post o (o + L) ∧ o ≤ buf.size))
    (hH2 : ∀ a b, a ∈ evs → b ∈ evs → a.piece = 0 → b.piece = 0 → a.off = b.off → a.len = b.len)
    (hH1 : evs.Pairwise (fun a b => a.piece = 1 → b.piece = 1 → a.off ≤ b.off + window))
    (hH3 : evs.Pairwise (fun a b => a.piece = 1 → b.piece = 0 → gapOk { gmin := n, gmax := m } (um b) a.off = false))
    (o : Nat) :
    (∃ l, (o, l) ∈ (run [{ gmin := n, gmax := m }] evs).confirmed) ↔
      ∃ q, Re.Matches fl buf (.cat pre (.cat (.rangeAny n m gr) post)) o q ∧ (∃ s, s ≤ buf.size ∧ Re.Matches fl buf post s q) := by
  constructor
  · rintro ⟨l, hl⟩
    obtain ⟨h, t, hh, ht, hh0, ht1, hoff, hg, _⟩ := chain2_sound _ evs hp (o, l) hl
    simp only at hoff
    have hm1 := (hheads h.off h.len).1 ⟨h, hh, hh0, rfl, rfl⟩
    have hm2 := (htails t.off t.len).1 ⟨t, ht, ht1, rfl, rfl⟩
    rw [gapOk_iff] at hg
    simp only [um] at hg
    refine ⟨t.off + t.len, ?_, t.off, hm2.2, hm2.1⟩
    rw [split_sem fl hd hw]
    rw [← hoff]
    exact ⟨h.off + h.len, t.off, hm1, hm2.1, by omega, by omega, .inr hm2.2⟩
  · rintro ⟨q, hm, s, hs, hpost⟩
    rw [split_sem fl hd hw] at hm
    obtain ⟨e, s', h1, h2, a1, a2, hcase⟩ := hm
    -- the tail match used by the concatenation may differ from (s, q); use the one of the concatenation when inside the data
    have hbe := Matches.bounds h1
    have hbq := Matches.bounds h2
    by_cases hs' : s' ≤ buf.size
    · obtain ⟨h, hh, hh0, hho, hhl⟩ := (hheads o (e - o)).2 (by rwa [Nat.add_sub_of_le hbe.1])
      obtain ⟨t, ht, ht1, hto, htl⟩ := (htails s' (q - s')).2 ⟨by rwa [Nat.add_sub_of_le hbq.1], hs'⟩
      have hg : gapOk { gmin := n, gmax := m } (um h) t.off = true := by
        rw [gapOk_iff]
        simp only [um]
        omega
      obtain ⟨l, hl⟩ := chain2_complete _ evs hp hH2 hH1 hH3 h t hh ht hh0 ht1 hg
      exact ⟨l, by rw [← hho]; exact hl⟩
    · -- s' beyond the data forces an empty gap and s' = e ≤ max o |buf|; then e > |buf| means pre matched past the data: o > |buf|
      exfalso
      rcases hcase with rfl | hle
      · have hq2 : q ≤ max s buf.size := (Matches.bounds hpost).2
        omega
      · exact hs' hle


open YaraModel.ReVm YaraModel.ReEmit in
/-- `vm_sound`: soundness of the bytecode VM on the emitted code of hex strings — with NO fragment restriction: `HexAst r`
    is the set of ASTs hex_grammar.y builds (bytes, `??` and nibble masks, `~` negations, jumps `[n]` `[n-m]`,
    concatenation, alternatives nested to any depth; a jump above 200 is split off as a chain link, the rest are REPEAT_ANY
    instructions with 16-bit operands).  For ALL hex patterns whose code stays below the emitter's int16 jump range, ALL
    buffers and start positions, any nocase / dot-all flags, exhaustive or first-match mode: every length the Lean model of
    `yr_re_exec` (validated against the C function on the real bytecode by the correspondence run) reports on the code
    produced by the Lean model of `_yr_re_emit` (validated byte-for-byte against `yr_re_ast_emit_code`) is a length the
    specification admits at that position.  The proof goes through an abstract machine with the three states of a
    REPEAT_ANY fiber (arriving / waiting for a character / just consumed) and a continuation language per machine state; it
    is the instance for hex ASTs of the theorem for ALL well-formed expressions (Thm/C03 `vm_sound`).
    Backward code: `vm_sound_backward` below.  Separate statements: runs entering the code at an atom's instruction
    (`verify_from_atom_sound`), the converse inclusion (`vm_complete_hex`: every admissible length is reported in
    exhaustive mode); not proved: the fast matcher `yr_re_fast_exec`. -/
theorem vm_sound (r : Re) (hx : HexAst r) (hsz : (emit false r 0).1.length < 32000) (buf : Bytes) (start : Nat) (hst : start ≤ buf.size)
    (fl : VmFlags) (hw : fl.wide = false) (hb : fl.backwards = false) (hsc : fl.scan = false) (fuel : Nat) (m : Int) (c : List Nat)
    (h : exec { code := (emitCode false r).toArray, entry := 0, buf := buf, start := start, fl := fl, syncFuel := fuel } = .done m c) :
    (∀ L, L ∈ c → Re.Matches (specFlags fl) buf r start (start + L)) ∧
    (0 ≤ m → Re.Matches (specFlags fl) buf r start (start + m.toNat)) :=
  vm_sound_wf r hx.wf hsz buf start hst fl hw hb hsc fuel m c h

open YaraModel.ReVm YaraModel.ReEmit in
/-- `vm_sound_backward`: the same for the BACKWARD code of a hex pattern (the bytes before the atom): run with
    RE_FLAGS_BACKWARDS from `start`, every reported length L satisfies L ≤ start and the pattern matches buf[start - L, start).
    For ALL hex ASTs, buffers and start positions (instance of Thm/C03 `vm_sound_backward`). -/
theorem vm_sound_backward (r : Re) (hx : HexAst r) (hsz : (emit true r 0).1.length < 32000) (buf : Bytes) (start : Nat) (hst : start ≤ buf.size)
    (fl : VmFlags) (hb : fl.backwards = true) (hsc : fl.scan = false) (fuel : Nat) (m : Int) (c : List Nat)
    (h : exec { code := (emitCode true r).toArray, entry := 0, buf := buf, start := start, fl := fl, syncFuel := fuel } = .done m c) :
    (∀ L, L ∈ c → L ≤ start ∧ Re.Matches (specFlagsG fl) buf r (start - L) start) ∧
    (0 ≤ m → m.toNat ≤ start ∧ Re.Matches (specFlagsG fl) buf r (start - m.toNat) start) :=
  vm_sound_bwd r hx.wf hsz buf start hst fl hb hsc fuel m c h

open YaraModel.ReEmit in
/-- instance: `41 ( 42 | ?3 44 ) [1-2] ~45` is a hex AST -/
example : HexAst (.cat (.lit 0x41) (.cat (.alt (.lit 0x42) (.cat (.masked 0x03 0x0F) (.lit 0x44))) (.cat (.rangeAny 1 2 false) (.notLit 0x45)))) :=
  .seq (.byte _) (.seq (.alt (.byte _) (.seq (.mask _ _) (.byte _))) (.seq (.jump 1 2 (by decide) (by decide)) (.notByte _)))

open YaraModel.ReVm YaraModel.ReEmit in
/-- instance: `41 ( 42 | ?3 44 ) [1-2] ~45` on `41 13 44 00 00 46`: the VM run on the emitted code reports lengths 6 and 5 -/
example : exec { code := (emitCode false (.cat (.lit 0x41) (.cat (.alt (.lit 0x42) (.cat (.masked 0x03 0x0F) (.lit 0x44))) (.cat (.rangeAny 1 2 false) (.notLit 0x45))))).toArray, entry := 0, buf := #[0x41, 0x13, 0x44, 0x00, 0x00, 0x46], start := 0, fl := { exhaustive := true, dotall := true } } = .done 6 [5, 6] := by decide +kernel

open YaraModel.ReVm YaraModel.ReEmit in
/-- `vm_complete_hex`: VM COMPLETENESS for hex patterns, forward code — the converse of `vm_sound`.  `HexG r`: the
    hex ASTs in which the FIRST branch of every alternative begins with a byte-like token (byte, `??`, nibble mask, `~`) or
    a jump that may skip a byte, recursively through nested alternatives — every AST the hex grammar produces
    (`tokens : token | token token | token token_sequence token`: a branch begins and ends with a byte or a nested alternative;
    proved over an inductive description of the grammar: `hexGrammar_builds_HexG`, and CHECKED on the AST of every generated
    string: `hexG_tie_sound`).
    For ALL such patterns, buffers, start positions o = `start` and every match [o, o + L) of the pattern
    (`Re.Matches .. r start (start + L)`) with L within the scan window (RE_SCAN_LIMIT: L ≤ 1024): the exhaustive forward run of
    the executable model of `yr_re_exec` (Model/ReVm.lean `exec`: the fiber list with its de-duplication, `_yr_re_fiber_sync`
    with its executed-split set, the per-position pass) on `emitCode false r` reports the length L.
    How errors are excluded: the hypothesis `exec .. = .done m c` — the run returned a result, i.e. NO error path was taken:
    the fiber list never exceeded the limit (the model's `outOfFuel` outcome = ERROR_TOO_MANY_RE_FIBERS and the fuel bounds
    of sync / pass / loop); no stack-depth error exists for hex code (no REPEAT_START).  Further hypotheses: code below 32000
    bytes (int16 offsets), at most 256 alternatives (`(emit false r 0).2` = number of split ids; yara refuses more than
    RE_MAX_SPLIT_ID = 128), byte mode, not scan mode, RE_FLAGS_EXHAUSTIVE.
    Invariant of the proof (Lemmas/ReComplete.lean, ReCompleteSF.lean): `AccN` — from a stopped fiber there is a path of
    consuming steps to MATCH through fibers that every later top-level sync call is bound to produce; the pass keeps the
    successors of every accepted fiber (de-duplication only drops EQUAL fibers), so the path survives every position.  The
    executed-split set never kills a fiber of the path: split ids are numbered in emission order, hex code only branches
    forwards, and the first branch of an alternative stops inside its own code (`sync_fresh`).
    Scope: `HexG`, not every `HexAst` (the coarser predicate of the soundness theorems).  NOT covered are alternatives whose
    first branch begins with a degenerate jump `[0-0]` (then the second branch may be killed at a split that the first one
    already executed — the fibers are duplicates, but the proof of that is the general visited-set argument); the grammar
    cannot build them (`hexGrammar_builds_HexG`) and the check verifies that on every generated string (`hexG_tie_sound`).
    Also not covered: matches longer than the 1024-byte window (not reported by design), wide mode (hex strings are never
    wide), non-exhaustive mode and runs entering at an atom's instruction (`verify_from_atom_complete`). -/
theorem vm_complete_hex (r : Re) (hg : HexG r) (hsz : (emit false r 0).1.length < 32000) (hid : (emit false r 0).2 ≤ 256)
    (buf : Bytes) (start : Nat) (hst : start ≤ buf.size)
    (fl : VmFlags) (hw : fl.wide = false) (hb : fl.backwards = false) (hsc : fl.scan = false) (hx : fl.exhaustive = true)
    (fuel : Nat) (m : Int) (c : List Nat)
    (h : exec { code := (emitCode false r).toArray, entry := 0, buf := buf, start := start, fl := fl, syncFuel := fuel } = .done m c)
    (L : Nat) (hL : L ≤ 1024) (hm : Re.Matches (specFlags fl) buf r start (start + L)) : L ∈ c :=
  vm_complete_sf r hg.sf hsz hid buf start hst fl hw hb hsc hx fuel m c h L hL hm

open YaraModel.ReVm YaraModel.ReEmit in
/-- `vm_complete_hex_backward`: the mirrored statement for the BACKWARD code (the bytes before the atom): run with
    RE_FLAGS_BACKWARDS from `start`, every match [start - L, start) of the pattern with L ≤ 1024 has its length reported by the
    exhaustive run on `emitCode true r` that returns without error.  `HexG (rev r)`: the mirrored pattern has the grammar's
    shape (the first branch of every alternative of `r` ENDS with a byte-like token).  Same proof through the
    direction-generic path lemma `acc_sf` (the backward code of `r` is the forward code of `rev r`). -/
theorem vm_complete_hex_backward (r : Re) (hg : HexG (rev r)) (hsz : (emit true r 0).1.length < 32000)
    (hid : (emit true r 0).2 ≤ 256) (buf : Bytes) (start : Nat) (hst : start ≤ buf.size)
    (fl : VmFlags) (hw : fl.wide = false) (hb : fl.backwards = true) (hsc : fl.scan = false) (hx : fl.exhaustive = true)
    (fuel : Nat) (m : Int) (c : List Nat)
    (h : exec { code := (emitCode true r).toArray, entry := 0, buf := buf, start := start, fl := fl, syncFuel := fuel } = .done m c)
    (L : Nat) (hL : L ≤ 1024) (hLs : L ≤ start) (hm : Re.Matches (specFlags fl) buf r (start - L) start) : L ∈ c :=
  vm_complete_sf_bwd r hg.sf hsz hid buf start fl hw hb hsc hx fuel m c h L hL hLs hm

open YaraModel.ReEmit in
/-- instance: `41 ( 42 | ?3 44 ) [1-2] ~45` has the grammar's shape, and so has its mirror image -/
example : HexG (.cat (.lit 0x41) (.cat (.alt (.lit 0x42) (.cat (.masked 0x03 0x0F) (.lit 0x44))) (.cat (.rangeAny 1 2 false) (.notLit 0x45)))) ∧
    HexG (rev (.cat (.lit 0x41) (.cat (.alt (.lit 0x42) (.cat (.masked 0x03 0x0F) (.lit 0x44))) (.cat (.rangeAny 1 2 false) (.notLit 0x45))))) :=
  ⟨.seq (.byte _) (.seq (.alt (.byte _) (.seq (.mask _ _) (.byte _)) (.byte _)) (.seq (.jump 1 2 (by decide) (by decide)) (.notByte _))),
   .seq (.seq (.seq (.notByte _) (.jump 1 2 (by decide) (by decide))) (.alt (.byte _) (.seq (.byte _) (.mask _ _)) (.byte _))) (.byte _)⟩

open YaraModel.ReVm YaraModel.ReEmit in
/-- the hypotheses of `vm_complete_hex` are satisfiable together, non-trivially: `41 ( 42 | ?3 44 ) [1-2] ~45` on
    `41 13 44 00 00 46` — the run returns `.done 6 [5, 6]` (no error), the pattern matches [0, 5) through the second branch
    of the alternative and a one-byte jump, and the theorem yields 5 ∈ [5, 6] -/
example : 5 ∈ [5, 6] :=
  vm_complete_hex (.cat (.lit 0x41) (.cat (.alt (.lit 0x42) (.cat (.masked 0x03 0x0F) (.lit 0x44))) (.cat (.rangeAny 1 2 false) (.notLit 0x45))))
    (.seq (.byte _) (.seq (.alt (.byte _) (.seq (.mask _ _) (.byte _)) (.byte _)) (.seq (.jump 1 2 (by decide +kernel) (by decide +kernel)) (.notByte _))))
    (by decide +kernel) (by decide +kernel) #[0x41, 0x13, 0x44, 0x00, 0x00, 0x46] 0 (by decide +kernel) { exhaustive := true, dotall := true } rfl rfl rfl rfl
    100000 6 [5, 6] (by decide +kernel) 5 (by decide +kernel) ((Re.ends_iff_Matches _ _ _ _ _).1 (by decide +kernel))

open YaraModel.ReAtoms YaraModel.ReEmit in
/-- `reAtoms_cover`: the atoms extracted for a hex string cover its matches, at the positions verification starts from.
    `atomsOf q m r` is the model of what `yr_ac_add_string` receives for the string (walk with the sliding window, trim,
    OR / AND tree, choice, wildcard expansion, wide / nocase variants, or the zero-length atom) for an ARBITRARY quality
    function `q`, i.e. every choice the heuristic could make.  For ALL hex ASTs (nibble / byte / `??` masks), buffers and
    matches [p, q') of the pattern: one of these byte sequences occurs LITERALLY in the buffer at a position `s` inside the
    match such that — for the node `y` the atom begins at, with `c.fill y = r` —
      * the forward code position the model records for the atom (`fwdRef`, compared with the real automaton entries) is the
        entry point `holePos c 0` of `verify_from_atom_sound`, and the backward one (`bwdRef`) is `bwdPos y c 0` behind the
        forward code and its MATCH;
      * the part of the pattern before `y` matches buf[p, s), `y` matches at s, and the rest matches up to q'
    (or the string has the zero-length atom).  With VM completeness from the atom (`verify_from_atom_complete`) this
    yields: every match is verified from its atom (`hex_scan_complete_partial`). -/
theorem reAtoms_cover (q : Atom → Int) (m : Mods) (fl : Flags) (buf : Bytes) (hw1 : fl.wide = true → m.wide = true)
    (hw0 : fl.wide = false → (m.wide = false ∨ m.ascii = true)) (hn : m.nocase = fl.nocase) (r : Re) (hh : HexAst r) (hmk : MaskOK r)
    (p q' : Nat) (hm : Re.Matches fl buf r p q') :
    ∃ x ∈ atomsOf q m r, ∃ s, p ≤ s ∧ s + x.1.length ≤ q' ∧ BytesAt buf x.1 s ∧
      (x.1 = [] ∨ ∃ c y, AtomLeaf y ∧ c.fill y = r ∧ fwdRef r x.2 = some (holePos c 0) ∧
        bwdRef r x.2 = some (bwdPos y c 0 + ReAtoms.clen false r + 1) ∧
        c.Before fl buf y p s ∧ ∃ e, Re.Matches fl buf y s e ∧ c.After fl buf y e q') := by
  obtain ⟨x, hx, s, h1, h2, h3, h4⟩ := flat_cover q m fl buf hw1 hw0 hn r (HexAst.flat hh) hmk hm
  refine ⟨x, hx, s, h1, h2, h3, h4.imp_right ?_⟩
  rintro ⟨c, y, hc, hy, hfill, hrest⟩
  exact ⟨c, y, hy, hfill, (hexAst_refs hh hc hy).1, (hexAst_refs hh hc hy).2, hrest⟩

open YaraModel.ReAtoms in
/-- instance: `10 ?? 41 42 43 ?? 20 30` — the heuristic of atoms.c picks the interior window `41 42 43` (leaf 2) -/
example : (chosen quality (.cat (.lit 0x10) (.cat .any (.cat (.lit 0x41) (.cat (.lit 0x42) (.cat (.lit 0x43) (.cat .any (.cat (.lit 0x20) (.lit 0x30))))))))).map (fun a => a.map (·.byte)) = [[0x41, 0x42, 0x43]] := by decide +kernel

open YaraModel.ReVm YaraModel.ReEmit in
/-- `verify_from_atom_sound`: the verification step of the scanner (`_yr_scan_verify_re_match`) is sound for hex strings, for
    EVERY candidate offset — however the automaton found it (soundness of the chain atoms → automaton → scan → verification
    therefore needs nothing about atoms or the automaton).  Let `x` be a byte / masked byte / `??` node of a hex pattern
    (`HexAst (c.fill x)`: the node lies under concatenations and alternatives — every atom position of a hex string); the
    FORWARD code is entered at the node's instruction (`holePos c 0`, the atom's forward_code_ref) and the BACKWARD code
    just behind the node's backward instruction (`bwdPos x c 0`, its backward_code_ref — both positions are compared with
    the real automaton entries on every generated string).  If the forward run from offset `o` reports `lf` and the
    backward run from `o` reports `lb`, then lb ≤ o and the WHOLE pattern matches buf[o - lb, o + lf).  For ALL hex
    ASTs, nodes, buffers, offsets, byte or wide flags.
    Converse: `verify_from_atom_complete`; callback and match list: `hex_scan_sound`. -/
theorem verify_from_atom_sound (c : Ctx) (x : Re) (hx : AtomLeaf x) (hh : HexAst (c.fill x))
    (hszf : (emit false (c.fill x) 0).1.length < 32000) (hszb : (emit true (c.fill x) 0).1.length < 32000)
    (buf : Bytes) (o : Nat) (ho : o ≤ buf.size) (flf flb : VmFlags) (hf1 : flf.backwards = false) (hf2 : flf.scan = false)
    (hb1 : flb.backwards = true) (hb2 : flb.scan = false) (hsame : specFlagsG flf = specFlagsG flb)
    (fuel1 fuel2 : Nat) (m1 m2 : Int) (c1 c2 : List Nat)
    (hfw : exec { code := (emitCode false (c.fill x)).toArray, entry := holePos c 0, buf := buf, start := o, fl := flf, syncFuel := fuel1 } = .done m1 c1)
    (hbw : exec { code := (emitCode true (c.fill x)).toArray, entry := bwdPos x c 0, buf := buf, start := o, fl := flb, syncFuel := fuel2 } = .done m2 c2)
    (lf lb : Nat) (hlf : lf ∈ c1) (hlb : lb ∈ c2) :
    lb ≤ o ∧ Re.Matches (specFlagsG flf) buf (c.fill x) (o - lb) (o + lf) :=
  YaraModel.ReEmit.verify_from_atom_sound c (hexAst_ctx hh) x hx hszf hszb buf o ho flf flb hf1 hf2 hb1 hb2 hsame fuel1 fuel2 m1 m2 c1 c2 hfw hbw lf lb hlf hlb

open YaraModel.ReEmit in
/-- instance: in `10 ?? 41 42 43 ?? 20 30` the atom `41 42 43` begins at the third node: forward code position 3, backward
    code position 11 (+ 15 bytes of forward code = the 26 the real automaton entry shows) -/
example : holePos (.catR (.lit 0x10) (.catR .any (.catL .hole (.cat (.lit 0x42) (.cat (.lit 0x43) (.cat .any (.cat (.lit 0x20) (.lit 0x30)))))))) 0 = 3 ∧
    bwdPos (.lit 0x41) (.catR (.lit 0x10) (.catR .any (.catL .hole (.cat (.lit 0x42) (.cat (.lit 0x43) (.cat .any (.cat (.lit 0x20) (.lit 0x30)))))))) 0 = 11 := by decide +kernel

open YaraModel.ReVm YaraModel.ReEmit YaraModel.ReScan in
/-- `hex_scan_sound`: the scan of one hex string in one block is sound, end of the chain candidates → verification → match
    callback → match list (Model/ReScan.lean: `_yr_scan_verify_re_match` with the forward run from the entry's forward code and
    the exhaustive backward run from its backward code, `_yr_scan_match_callback`, `_yr_scan_add_match_to_list`).  For ALL hex
    ASTs, buffers, flags and ANY list of candidates whose automaton entries point to the code positions of atom nodes of
    the pattern (`CandOK`: what `reAtoms_cover` shows the atoms model records, compared with the real entries by the checks)
    or are the zero-length atom — no hypothesis on HOW the automaton found them: every (offset, length) in the resulting
    match list is a match of the pattern, buf[offset, offset+length).
    The converse (every match has its offset in the list, given the automaton contract) is `hex_scan_complete_partial`.
    The automaton contract is discharged in Thm/C02EndToEnd; not proved: the fast matcher `yr_re_fast_exec`, chains of more than
    two pieces. -/
theorem hex_scan_sound (r : Re) (hh : HexAst r) (hszf : (emit false r 0).1.length < 32000) (hszb : (emit true r 0).1.length < 32000)
    (buf : Bytes) (fl : VmFlags) (fuel : Nat) (cands : List Cand) (hc : ∀ c ∈ cands, CandOK r c ∧ c.off ≤ buf.size) :
    ∀ x ∈ scanHex r buf fl fuel cands, Re.Matches (specFlagsG fl) buf r x.1 (x.1 + x.2) :=
  scanHex_sound r hh.wf hszf hszb buf fl fuel cands hc

open YaraModel.ReScan in
/-- instance: `41 ?? 43` over `x A b C A - C`; the atom `41` (leaf 0: forward entry 0, backward entry 5 = behind the node in the
    backward code `43 ?? 41`) is reported at offsets 1 and 4: the match list is [(1,3), (4,3)] -/
example : scanHex (.cat (.lit 0x41) (.cat .any (.lit 0x43))) #[0x78, 0x41, 0x62, 0x43, 0x41, 0x2d, 0x43] {} 100000
    [⟨0, some 5, 1⟩, ⟨0, some 5, 4⟩] = [(1, 3), (4, 3)] := by decide +kernel

open YaraModel.ReEmit YaraModel.ReHexG YaraModel.ReAtoms in
/-- `hexGrammar_builds_HexG`: the hypotheses `HexG r`, `HexG (rev r)`, `MaskOK r` of the completeness theorems hold for
    everything hex_grammar.y can build.  `Gram k r` (Lemmas/ReHexGram.lean) is an inductive description of the ASTs of the
    grammar symbols k = token / `tokens` / rest of a token sequence / `alternatives` / piece of a chained string:
      token        : byte | ~byte | nibble-masked byte | ~masked | ?? | '(' alternatives ')'
      tokens       : token | token (token | jump)* token          — a jump ONLY occurs between tokens, never first or last
      alternatives : tokens | alternatives '|' tokens              — so every alternative begins and ends with a token
      piece        : tokens and jumps, no two jumps adjacent        — the root concatenation cut at its chaining points
    with jumps non-greedy, ordered bounds, upper bound below 65536 (inside parentheses the grammar enforces ≤ 200; every
    larger top-level jump between two siblings is a chaining point and is cut out; consecutive jumps are merged into one by
    the grammar, so no jump directly follows a chaining point).
    For ALL ASTs of every symbol: the AST and its mirror image lie in `HexG`, and its masks are nibble masks.
    (`[0-0]` jumps are legal but only between tokens, so no alternative begins or ends with one.) -/
theorem hexGrammar_builds_HexG (k : Kind) (r : Re) (h : Gram k r) : HexG r ∧ HexG (rev r) ∧ MaskOK r :=
  have f := gram_facts h
  ⟨f.hexG, f.hexGrev, f.mask⟩

open YaraModel.ReEmit YaraModel.ReHexG YaraModel.ReAtoms in
/-- `hexG_tie_sound`: what the C02 run evaluates on the AST the REAL hex parser built for every generated and corpus
    string (driver `rehexg` on every piece of `chainSplit`, vf/checks/re_common.py `check_hexg`; evidence `hexg_checked` /
    `hexg_false`; a string whose piece fails is reported as a violation with the string): the decision procedure
    `gram .piece` is sound for the description `Gram`, hence for the hypotheses of `vm_complete_hex` /
    `hex_scan_complete_partial`; and the decidable `hexG` IS `HexG` (so `hexg_false = 0` means: no generated string left
    the fragment).  Before the fix F73 of /repo one family of legal hex strings lay outside the description
    (a jump with an upper bound ≥ 65536 directly after a chaining point, truncated to 16 bits by the emitter — found by this
    tie, notes/C02-jump-after-chaining-point-truncated.diff); hex_grammar.y now merges consecutive jumps, the description
    forbids adjacent jumps, and the generator of the check produces consecutive jumps. -/
theorem hexG_tie_sound (r : Re) : (gram .piece r = true → HexG r ∧ HexG (rev r) ∧ MaskOK r) ∧ (hexG r = true ↔ HexG r) ∧
    (hexG (mirror r) = true ↔ HexG (rev r)) ∧ (maskOK r = true → MaskOK r) :=
  ⟨fun h => hexGrammar_builds_HexG .piece r (gram_sound r .piece h), hexG_iff r, by rw [mirror_eq_rev]; exact hexG_iff _, maskOK_sound⟩

open YaraModel.ReHexG in
/-- instances: `41 ( 42 [0-0] 43 | ?3 44 ) [1-2] ~45` is a `tokens`; a piece may begin with a jump; an alternative may not -/
example : gram .toks (.cat (.lit 0x41) (.cat (.alt (.cat (.lit 0x42) (.cat (.rangeAny 0 0 false) (.lit 0x43))) (.cat (.masked 0x03 0x0F) (.lit 0x44))) (.cat (.rangeAny 1 2 false) (.notLit 0x45)))) = true ∧
    gram .piece (.cat (.rangeAny 0 0 false) (.lit 0x42)) = true ∧
    gram .piece (.cat (.rangeAny 1 2 false) (.cat (.rangeAny 3 4 false) (.lit 0x42))) = false ∧
    gram .toks (.alt (.cat (.rangeAny 0 0 false) (.lit 0x41)) (.lit 0x42)) = false ∧
    hexG (.alt (.cat (.rangeAny 0 0 false) (.lit 0x41)) (.lit 0x42)) = false := by decide +kernel

open YaraModel.ReVm YaraModel.ReEmit in
/-- `verify_from_atom_complete`: the converse of `verify_from_atom_sound` — the verification step finds every match
    that runs through the atom.  Let `x` be a byte / masked byte / `??` node of a grammar-shaped hex pattern `c.fill x`
    (`HexG` of the pattern and of its mirror image), `o` any offset; if the part before `x` matches buf[o - lb, o), `x` matches
    at `o` and the rest matches up to o + lf (lb, lf ≤ 1024: the scan window), then
      * the FORWARD run entered at the node's instruction (`holePos c 0`) that ends without error has a result ≥ 0 —
        in ANY mode (the scanner runs it non-exhaustively) — and reports lf when it is exhaustive;
      * the exhaustive BACKWARD run entered behind the node's backward instruction (`bwdPos x c 0`) reports lb.
    Scope: `HexG` (everything the grammar builds, see `vm_complete_hex`), byte mode. -/
theorem verify_from_atom_complete (c : Ctx) (x : Re) (hx : AtomLeaf x) (hg : HexG (c.fill x)) (hgr : HexG (rev (c.fill x)))
    (hszf : (emit false (c.fill x) 0).1.length < 32000) (hidf : (emit false (c.fill x) 0).2 ≤ 256)
    (hszb : (emit true (c.fill x) 0).1.length < 32000) (hidb : (emit true (c.fill x) 0).2 ≤ 256)
    (buf : Bytes) (o : Nat) (ho : o ≤ buf.size) (flf flb : VmFlags)
    (hf0 : flf.wide = false) (hf1 : flf.backwards = false) (hf2 : flf.scan = false)
    (hb0 : flb.wide = false) (hb1 : flb.backwards = true) (hb2 : flb.scan = false) (hb3 : flb.exhaustive = true)
    (hsame : specFlags flf = specFlags flb) (fuel1 fuel2 : Nat) (m1 m2 : Int) (c1 c2 : List Nat)
    (hfw : exec { code := (emitCode false (c.fill x)).toArray, entry := holePos c 0, buf := buf, start := o, fl := flf, syncFuel := fuel1 } = .done m1 c1)
    (hbw : exec { code := (emitCode true (c.fill x)).toArray, entry := bwdPos x c 0, buf := buf, start := o, fl := flb, syncFuel := fuel2 } = .done m2 c2)
    (lb e1 lf : Nat) (hlb : lb ≤ 1024) (hlo : lb ≤ o) (hlf : lf ≤ 1024)
    (hbef : c.Before (specFlags flf) buf x (o - lb) o) (hm : Re.Matches (specFlags flf) buf x o (o + e1))
    (haf : c.After (specFlags flf) buf x (o + e1) (o + lf)) :
    0 ≤ m1 ∧ (flf.exhaustive = true → lf ∈ c1) ∧ lb ∈ c2 := by
  obtain ⟨k1, k2⟩ := vm_complete_from_atom_fwd c x hg.sf hszf hidf buf o ho flf hf0 hf1 hf2 fuel1 m1 c1 hfw e1 lf hlf hm haf
  rw [hsame] at hbef
  exact ⟨k1, k2, (vm_complete_from_atom_bwd c x (atomLeaf_consLeaf hx) hgr.sf hszb hidb buf o flb hb0 hb1 hb2 fuel2 m2 c2 hbw lb hlb hlo hbef).2 hb3⟩

open YaraModel.ReVm YaraModel.ReEmit in
/-- the hypotheses of `verify_from_atom_complete` are satisfiable together: `10 41 ?? 43` over `x 10 A b C`, the atom
    node `41` (forward entry 2, backward entry 5) at offset 2 — the non-exhaustive forward run returns `.done 3 []`, the
    exhaustive backward run `.done 1 [1]`; the match [1, 5) runs through the node, and the theorem yields 0 ≤ 3 and 1 ∈ [1] -/
example : (0 : Int) ≤ 3 ∧ (({} : VmFlags).exhaustive = true → 3 ∈ ([] : List Nat)) ∧ 1 ∈ [1] :=
  verify_from_atom_complete (.catR (.lit 0x10) (.catL .hole (.cat .any (.lit 0x43)))) (.lit 0x41) (.inl ⟨_, rfl⟩)
    (.seq (.byte _) (.seq (.byte _) (.seq .wild (.byte _)))) (.seq (.seq (.seq (.byte _) .wild) (.byte _)) (.byte _))
    (by decide +kernel) (by decide +kernel) (by decide +kernel) (by decide +kernel) #[0x78, 0x10, 0x41, 0x62, 0x43] 2 (by decide +kernel) {} { backwards := true, exhaustive := true }
    rfl rfl rfl rfl rfl rfl rfl rfl 1000 1000 3 1 [] [1] (by decide +kernel) (by decide +kernel) 1 1 3 (by decide +kernel) (by decide +kernel) (by decide +kernel)
    ⟨2, (Re.ends_iff_Matches _ _ _ _ _).1 (by decide +kernel), rfl⟩ ((Re.ends_iff_Matches _ _ _ _ _).1 (by decide +kernel))
    ⟨3, rfl, (Re.ends_iff_Matches _ _ _ _ _).1 (by decide +kernel)⟩

open YaraModel.ReVm YaraModel.ReEmit YaraModel.ReScan YaraModel.ReAtoms in
/-- `hex_scan_complete_partial`: COMPLETENESS of the scan of one hex string in one block, the converse of `hex_scan_sound`,
    over the model chain atoms → candidates → verification (non-exhaustive forward run from the atom node's instruction,
    exhaustive backward run from behind it) → match callback → match list (Model/ReAtoms.lean, Model/ReScan.lean).
    For ALL grammar-shaped hex patterns (`HexG r` and `HexG (rev r)`: the first branch of every alternative begins AND ends
    with a byte-like token — what the hex grammar produces), every quality function of the atom heuristic, all buffers
    and every match [p, q') of the pattern at most 1024 bytes long: the match list of the string contains an entry at
    offset p.  (Which length is recorded for the offset is the one the non-exhaustive forward run prefers; it is a match
    length by `hex_scan_sound`.)
    Hypotheses, precisely:
      * `hcands` — the AUTOMATON CONTRACT, not proved here: wherever the bytes of an atom handed to `yr_ac_add_string` occur
        literally in the buffer, the candidate list holds the entry with the atom's code positions at that offset
        (`fwdRef` / `bwdRef` of the atoms model, compared with the real automaton entries by the checks); for a string
        without atoms (zero-length atom) a candidate at every offset;
      * `hrun` — no verification run ends in an error (fiber limit / fuel: the model's `outOfFuel`);
      * at most 256 alternatives, code below 32000 bytes, byte mode, modifiers consistent with the flags.
    Proof chain (Lemmas/ReScanComplete.lean `scan_complete_ctx`): `flat_cover` (an atom occurs literally inside the match, at
    the node where the pattern splits into before / node / after; `reAtoms_cover` adds the code positions) → `verifyOne_complete` (`vm_complete_from_atom_fwd`: the forward run from the node's instruction
    ends with a result ≥ 0 — KILL_TAIL only drops fibers after a result is set; `vm_complete_from_atom_bwd`: the exhaustive
    backward run reports the length of the part before the node) → `scanHex_has` (the match list only grows and holds every
    offset handed to the callback).
    `_partial`: the automaton (hcands) is a hypothesis; masked atoms rely on it as well; matches longer than 1024 bytes on
    either side of the atom, the fast matcher `yr_re_fast_exec`, chained strings (pieces re-joined by `chain_sound`) and
    wide / nocase-wide variants are not covered; alternatives with a branch beginning or ending with `[0-0]` neither. -/
theorem hex_scan_complete_partial (q : Atom → Int) (m : Mods) (r : Re) (hg : HexG r) (hgr : HexG (rev r)) (hmk : MaskOK r)
    (hszf : (emit false r 0).1.length < 32000) (hidf : (emit false r 0).2 ≤ 256)
    (hszb : (emit true r 0).1.length < 32000) (hidb : (emit true r 0).2 ≤ 256)
    (buf : Bytes) (fl : VmFlags) (hw : fl.wide = false) (hw0 : m.wide = false ∨ m.ascii = true) (hn : m.nocase = fl.nocase)
    (fuel : Nat) (cands : List Cand)
    (hcands : ∀ x ∈ atomsOf q m r, ∀ s, s ≤ buf.size → BytesAt buf x.1 s →
      (x.1 = [] → (⟨0, none, s⟩ : Cand) ∈ cands) ∧
      (∀ f b, fwdRef r x.2 = some f → bwdRef r x.2 = some (b + ReAtoms.clen false r + 1) → (⟨f, some b, s⟩ : Cand) ∈ cands))
    (hrun : ∀ c ∈ cands,
      (∃ m1 c1, exec { code := (emitCode false r).toArray, entry := c.fwd, buf := buf, start := c.off, fl := fwdFlags fl, syncFuel := fuel } = .done m1 c1) ∧
      (∀ b, c.bwd = some b → ∃ m2 c2, exec { code := (emitCode true r).toArray, entry := b, buf := buf, start := c.off, fl := bwdFlags fl, syncFuel := fuel } = .done m2 c2))
    (p q' : Nat) (hp : p ≤ buf.size) (hm : Re.Matches (specFlags fl) buf r p q') (hwin : q' - p ≤ 1024) :
    ∃ len, (p, len) ∈ scanHex r buf fl fuel cands :=
  scan_complete_ctx q m r hg hgr hmk hszf hidf hszb hidb buf fl hw hw0 hn fuel cands
    (fun x hx s hs hb => ⟨(hcands x hx s hs hb).1, fun _ _ _ hc hy =>
      (hcands x hx s hs hb).2 _ _ (hexAst_refs hg.hexAst hc hy).1 (hexAst_refs hg.hexAst hc hy).2⟩)
    hrun p q' hp hm hwin

open YaraModel.ReScan in
/-- instance (the example of `hex_scan_sound`): `41 ?? 43` over `x A b C A - C` with the candidates of the atom `41` at offsets
    1 and 4 — both matches [1,4) and [4,7) have their offsets in the match list -/
example : (1, 3) ∈ scanHex (.cat (.lit 0x41) (.cat .any (.lit 0x43))) #[0x78, 0x41, 0x62, 0x43, 0x41, 0x2d, 0x43] {} 100000
    [⟨0, some 5, 1⟩, ⟨0, some 5, 4⟩] ∧
    (4, 3) ∈ scanHex (.cat (.lit 0x41) (.cat .any (.lit 0x43))) #[0x78, 0x41, 0x62, 0x43, 0x41, 0x2d, 0x43] {} 100000
    [⟨0, some 5, 1⟩, ⟨0, some 5, 4⟩] := by decide +kernel

open YaraModel.ReSplit in
/-- `chain_split_sem`: splitting a string at its chaining points preserves its language.  `chainSplit r` is the model of
    `yr_re_ast_split_at_chaining_point` applied until no chaining point is left: a chaining point is a top-level child of the
    root concatenation that is a non-greedy jump `[n-m]` with n > 200 or m > 200 (YR_STRING_CHAINING_THRESHOLD) — whatever its
    WIDTH m - n, fixed jumps `[n]` included — and that has a previous and a next sibling in the remaining concatenation.
    For ALL patterns, buffers and positions (byte mode, jumps match any byte): `r` matches [p, q) iff the head piece and the
    further pieces match one after the other with every gap s - e inside [gap_min, gap_max] of its jump — the re-joining
    rule `ending_offset + chain_gap_min ≤ match_offset ≤ ending_offset + chain_gap_max` of scan.c (`split_sem` for every
    chaining point of the decision function).  The pieces and gaps of the model are compared with the chain the real
    compiler builds (one YR_STRING per piece, chained_to, chain_gap_min / max) for every generated string. -/
theorem chain_split_sem (fl : Flags) (hd : fl.dotall = true) (hw : fl.wide = false) (buf : Bytes) (r : Re) (p q : Nat) :
    Re.Matches fl buf r p q ↔ ChainM fl buf (chainSplit r).1 (chainSplit r).2 p q :=
  chainSplit_sem hd hw r p q

open YaraModel.ReSplit in
/-- instances: `01 02 [1017] 03 04` and `01 02 [2000-2199] 03` are chains of two pieces (fixed and narrow large jumps),
    `01 02 [200] 03 04` is one piece -/
example : (chainSplit (.cat (.lit 1) (.cat (.lit 2) (.cat (.rangeAny 1017 1017 false) (.cat (.lit 3) (.lit 4)))))).2.map (fun gp => (gp.1.gmin, gp.1.gmax)) = [(1017, 1017)] ∧
    (chainSplit (.cat (.lit 1) (.cat (.lit 2) (.cat (.rangeAny 2000 2199 false) (.lit 3))))).2.map (fun gp => (gp.1.gmin, gp.1.gmax)) = [(2000, 2199)] ∧
    (chainSplit (.cat (.lit 1) (.cat (.lit 2) (.cat (.rangeAny 200 200 false) (.cat (.lit 3) (.lit 4)))))).2 = [] := by decide +kernel

end YaraModel.C02
