/-
  Aho-Corasick certificate (used by C01, C05 and, through the shared automaton, C02/C03):
  `certOK` is a decidable check over the REAL transition/match tables of a compiled rule set and the atoms
  the compiler reported; these theorems say that when it holds the automaton stage meets its contract on
  EVERY buffer. Table packing, failure-link shortening and match-list order are irrelevant: the certificate
  is stated on the results of the lookup loop.
-/
import YaraModel.Lemmas.AcCertLemmas
import YaraModel.Lemmas.AcBuildCands
namespace YaraModel.AC
open YaraModel.Text

/-- **Certificate soundness**: for EVERY buffer the candidates the table-driven scan produces are exactly the
    occurrences of the indexed atoms (every end position, every atom that ends there and fits). -/
theorem cert_sound (T : Tables) (atoms : List (Nat × Atom)) (paths : List (Nat × Bytes))
    (hc : certOK T atoms paths = true) (buf : Bytes) (x : Nat × Nat × Nat) :
    x ∈ scan T buf ↔ ∃ k, k ≤ buf.length ∧ x ∈ expectedAt atoms (buf.take k) :=
  (cert_of_certOK T atoms paths hc).scan_mem buf x

/-- **The automaton contract for one string** (`CandsOK` of C01/C05): if the certificate holds and the atoms
    logged for string `sidx` are (as a set) `atomsOf w m s`, then on EVERY buffer the candidates of that
    string are exactly the occurrences of its atoms. -/
theorem candsOK_of_cert (T : Tables) (atoms : List (Nat × Atom)) (paths : List (Nat × Bytes))
    (hc : certOK T atoms paths = true) (sidx w : Nat) (m : Mods) (s : Bytes)
    (hat : ∀ a, (sidx, a) ∈ atoms ↔ a ∈ atomsOf w m s) (buf : Bytes) :
    CandsOK w m s buf ((scan T buf).filterMap fun x => if x.1 = sidx then some (x.2.1, x.2.2) else none) :=
  Build.candsOK_of_exact T atoms buf (cert_sound T atoms paths hc buf) sidx w m s hat

/-- a tiny hand-made table: root, plus one state (slot 257) reached on byte 0x61 -/
def tinyTables : Tables :=
  { t := ((Array.replicate 600 (0 : UInt32)).set! 98 (((257 : UInt32) <<< 9) ||| 98)).set! 257 0,
    m := (Array.replicate 600 (0 : UInt32)).set! 257 1, pool := #[((0 : Nat), (1 : Nat), (0 : Nat))] }

/-! Non-vacuity: the scan of the tiny table reports both occurrences of the atom (the certificate itself is
    evaluated by the compiled driver on the real tables of every generated rule set; see evidence of C01). -/
example : scan tinyTables [0x62, 0x61, 0x61] = [(0, 1, 1), (0, 2, 1)] := by decide +kernel

end YaraModel.AC
