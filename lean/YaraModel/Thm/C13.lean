/-
  C13 — All scan entry points agree, also across interrupted block iteration.
  Property theorems only (helpers: Lemmas/ScannerResume.lean, Lemmas/ScannerPlace.lean; `history_independent` of Thm/C10).
  Model: Model/Scanner.lean; formulation (entry points, run-to-completion, schedules, place operators): Spec/Scanner.lean,
  Spec/ScannerPlace.lean.
  Quantified over every parameter instantiation, every scanner state / history, every block list,
  every schedule of iterator answers (ok, not-ready, stall, error), every callback script.
  The statements hold for both variants of the code (`Variant.current`, `Variant.fixed`).
-/
import YaraModel.Lemmas.ScannerResume
import YaraModel.Lemmas.ScannerPlace
import YaraModel.Thm.C10
namespace YaraModel.Scan

/-- **Resume equivalence.** For every block partition and every schedule in which "not ready" is
    answered to the block loop only (`nrWithin`: at arbitrary calls, any number of times, also to the
    very first call), repeating the call while it returns ERROR_BLOCK_NOT_READY produces — messages of
    all calls concatenated — exactly the callbacks, the result code, the final scanner state and the
    final clock/callback count of ONE call with the same partition whose iterator is never "not ready";
    nothing is duplicated or lost, and the repetition ends (`fuel` > number of not-ready answers). -/
theorem resume_equiv (P : Params) (v : Variant) (s : Sc) (x : Start) (w : World) (fuel : Nat)
    (hcb : s.set.hasCallback = true)
    (hblk : nrWithin (x.blocks.length + 1) x.sched = true)
    (hfuel : countNR x.sched < fuel) :
    let a := runToEnd P v x.cb x.stack fuel s x.it w
    let b := scanCall P v x.cb x.stack s { x.it with sched := dropNR x.sched } w
    a.msgs = b.msgs ∧ a.rc = b.rc ∧ a.sc = b.sc ∧ a.world = b.world ∧ a.rc ≠ .blockNotReady :=
  runToEnd_eq_uninterrupted P v x.cb x.stack s x.it w fuel hcb (by simp [Start.it]) hblk hfuel

/-- **The deadline is the deadline of the scan, not of the call.** A special case of `resume_equiv` worth its own
    line (the stopwatch is started in the fresh-scan prologue only, `freshInit`; a resumed call keeps `swStart`):
    when the uninterrupted scan — whose iterator may take time, `Act.stall` — ends with ERROR_SCAN_TIMEOUT, so does
    the scan interrupted by "not ready" answers and resumed, however the waiting is split over the calls. -/
theorem timeout_not_extended_by_resume (P : Params) (v : Variant) (s : Sc) (x : Start) (w : World) (fuel : Nat)
    (hcb : s.set.hasCallback = true)
    (hblk : nrWithin (x.blocks.length + 1) x.sched = true)
    (hfuel : countNR x.sched < fuel)
    (hto : (scanCall P v x.cb x.stack s { x.it with sched := dropNR x.sched } w).rc = .scanTimeout) :
    (runToEnd P v x.cb x.stack fuel s x.it w).rc = .scanTimeout := by
  have h := (resume_equiv P v s x w fuel hcb hblk hfuel).2.1
  exact h.trans hto

/-- **The invariant behind it**: when the loop is suspended, its state (matches, flags, entry point,
    iterator position, clock, messages so far) is the state of the uninterrupted run at the same iterator
    position — continuing without interruptions from the suspension point gives the uninterrupted loop. -/
theorem suspended_state_is_resume_point (P : Params) (cb : Nat → CbRet) (set : Settings) (blocks : List Block)
    (sched : List Act) (c : Core) (w : World)
    (h : (blockLoop P cb set blocks sched c w).result = .blockNotReady) :
    let o := blockLoop P cb set blocks sched c w
    blockLoop P cb set blocks (dropNR sched) c w =
      (blockLoop P cb set o.rest (dropNR o.sched) o.core o.world).pre o.msgs :=
  (blockLoop_segment.1 h).1

/-- Sufficient condition made explicit: with at most `blocks + 1` answers of another kind before it,
    a not-ready answer is consumed by the block loop, and rule evaluation then sees none. -/
theorem eval_sees_no_not_ready (P : Params) (cb : Nat → CbRet) (set : Settings) (n : Nat) (blocks : List Block)
    (sched : List Act) (c : Core) (w : World) (h : nrWithin (blocks.length + 1) sched = true) :
    (loopToEnd P cb set n blocks sched c w).result = .success →
      countNR (loopToEnd P cb set n blocks sched c w).sched = 0 :=
  loopToEnd_nrWithin h

/-- **All wrappers funnel** into `yr_scanner_scan_mem_blocks` on a single-block iterator
    (`base 0`, `size` = buffer size, `file_size` = buffer size, `last_error` = success, never not-ready):
    scanner-level mem / file / fd, rules-level mem / file / fd (a new scanner with the given callback,
    timeout and flags) and rules-level blocks. Mapping failures return their error with no callback. -/
theorem wrappers_funnel (P : Params) (v : Variant) (cb : Nat → CbRet) (stack : Nat) (s : Sc) (set : Settings)
    (data : Option Nat) (size : Nat) (e : Err) (it : It) (w : World) :
    scannerScanMem P v cb stack s data size w = scanCall P v cb stack s (memIt data size) w ∧
    scannerScanMapped P v cb stack s (.ok (data, size)) w = scanCall P v cb stack s (memIt data size) w ∧
    rulesScanMem P v cb stack set data size w = scanCall P v cb stack (Sc.fresh set) (memIt data size) w ∧
    rulesScanMapped P v cb stack set (.ok (data, size)) w = scanCall P v cb stack (Sc.fresh set) (memIt data size) w ∧
    rulesScanBlocks P v cb stack set it w = scanCall P v cb stack (Sc.fresh set) it w ∧
    (scannerScanMapped P v cb stack s (.error e) w).msgs = [] ∧ (scannerScanMapped P v cb stack s (.error e) w).rc = e ∧
    (rulesScanMapped P v cb stack set (.error e) w).msgs = [] ∧ (rulesScanMapped P v cb stack set (.error e) w).rc = e :=
  ⟨rfl, rfl, rfl, rfl, rfl, rfl, rfl, rfl, rfl⟩

/-- **Entry points agree** (code with the C10 fixes): the scanner-level entry points used on a scanner
    with ANY history give the callbacks and result of the rules-level entry points (which scan on a new
    scanner), for memory, mapped files and descriptors alike. -/
theorem entry_points_agree (P : Params) (set0 : Settings) (w0 : World) (h : List HOp)
    (cb : Nat → CbRet) (stack : Nat) (data : Option Nat) (size : Nat) (hcb : (settingsAfter set0 h).hasCallback = true) :
    let st := runH P .fixed (HSt.init set0 w0) h
    let a := scannerScanMapped P .fixed cb stack st.sc (.ok (data, size)) { st.w with nmsg := 0 }
    let b := rulesScanMem P .fixed cb stack (settingsAfter set0 h) data size { st.w with nmsg := 0 }
    a.msgs = b.msgs ∧ a.rc = b.rc := by
  -- the case `k = 0` of `history_independent`, for the `Start` whose iterator is `memIt data size`
  have := history_independent P set0 w0 h ⟨[⟨0, size, data⟩], [], some size, cb, stack⟩ 0 hcb
  simp only [List.replicate, tracesH, stepH, List.cons.injEq, Option.some.injEq, Prod.mk.injEq, and_true] at this
  exact this

/-- **Every place-dependent string operator is a function of the ABSOLUTE occurrences** (`absT`: position =
    `match->base + match->offset`): `$s`, `#s`, `$s at x`, `$s in (lo..hi)`, `#s in (lo..hi)`, `@s[i]`, `!s[i]`,
    `N of (...) at x`, `N of (...) in (lo..hi)` as the evaluator computes them from the scanner's match lists
    (`PlaceOps`) equal their specification over absolute occurrences (`PlaceSpec`). -/
theorem place_operators_use_absolute_offsets (t : MatchTable) (s i off lo hi : Nat) (ss : List Nat) :
    PlaceOps.found t s = PlaceSpec.found (absT t) s ∧
    PlaceOps.count t s = PlaceSpec.count (absT t) s ∧
    PlaceOps.foundAt t s off = PlaceSpec.foundAt (absT t) s off ∧
    PlaceOps.foundIn t s lo hi = PlaceSpec.foundIn (absT t) s lo hi ∧
    PlaceOps.countIn t s lo hi = PlaceSpec.countIn (absT t) s lo hi ∧
    PlaceOps.offset t s i = PlaceSpec.offset (absT t) s i ∧
    PlaceOps.length t s i = PlaceSpec.length (absT t) s i ∧
    PlaceOps.ofAt t ss off = PlaceSpec.ofAt (absT t) ss off ∧
    PlaceOps.ofIn t ss lo hi = PlaceSpec.ofIn (absT t) ss lo hi :=
  ⟨found_spec t s, count_spec t s, foundAt_spec t s off, foundIn_spec t s lo hi, countIn_spec t s lo hi,
   offset_spec t s i, length_spec t s i, ofAt_spec t ss off, ofIn_spec t ss lo hi⟩

/-- **Partition invariance** for strings that are not chained (`hnc`; chained strings: `two_piece_chain_in_one_block`,
    `pieces_in_different_blocks_never_combine`, `chain_in_one_part_equals_whole` below). `hk`: the blocks' candidates, put at
    their absolute offsets `base + off` and concatenated, are the candidates of the whole buffer — the partition cuts no
    occurrence; the bases need not be contiguous. Then collecting the matches block by block gives the same absolute match
    table, the same too-many-matches dialogue with the callback, the same result code and the same remaining state as
    collecting them from the single block `whole`. Any limit, any callback script, fast mode or not. -/
theorem partition_invariant_matches (P : Params) (cb : Nat → CbRet) (fast : Bool) (parts : List (Block × List Cand))
    (whole : Block) (ksW : List Cand) (c : Core) (w : World) (hnc : ∀ s, P.chain s = none) (hu : c.unconfirmed = [])
    (hk : absCands whole ksW = parts.flatMap fun p => absCands p.1 p.2) :
    let a := collect P cb fast parts c w
    let b := addCands P cb fast whole ksW c w
    absT a.1.found = absT b.1.found ∧ { a.1 with found := [] } = { b.1 with found := [] } ∧ a.2 = b.2 := by
  have := collect_partition (cb := cb) (fast := fast) (w := w) hnc hu (.refl c) hk
  exact ⟨this.1.found, this.1.rest, this.2⟩

/-- … hence every place operator (and every condition built from them) has the same value after scanning the partition
    as after scanning the whole buffer in one block (`yr_rules_scan_mem` of the same bytes). -/
theorem partition_invariant_operators (P : Params) (cb : Nat → CbRet) (fast : Bool) (parts : List (Block × List Cand))
    (whole : Block) (ksW : List Cand) (c : Core) (w : World) (hnc : ∀ s, P.chain s = none) (hu : c.unconfirmed = [])
    (hk : absCands whole ksW = parts.flatMap fun p => absCands p.1 p.2) (s i off lo hi : Nat) (ss : List Nat) :
    let ta := (collect P cb fast parts c w).1.found
    let tb := (addCands P cb fast whole ksW c w).1.found
    PlaceOps.found ta s = PlaceOps.found tb s ∧ PlaceOps.count ta s = PlaceOps.count tb s ∧
    PlaceOps.foundAt ta s off = PlaceOps.foundAt tb s off ∧ PlaceOps.foundIn ta s lo hi = PlaceOps.foundIn tb s lo hi ∧
    PlaceOps.countIn ta s lo hi = PlaceOps.countIn tb s lo hi ∧ PlaceOps.offset ta s i = PlaceOps.offset tb s i ∧
    PlaceOps.length ta s i = PlaceOps.length tb s i ∧ PlaceOps.ofAt ta ss off = PlaceOps.ofAt tb ss off ∧
    PlaceOps.ofIn ta ss lo hi = PlaceOps.ofIn tb ss lo hi := by
  have h := (partition_invariant_matches P cb fast parts whole ksW c w hnc hu hk).1
  simp [found_spec, count_spec, foundAt_spec, foundIn_spec, countIn_spec, offset_spec, length_spec, ofAt_spec, ofIn_spec, h]

/-- The same at the level of the block loop of `yr_scanner_scan_mem_blocks`: an iterator that is never late over plain
    blocks (data available, no executable header, no verifier error), no timeout. The loop over the partition and the
    loop over the single block `whole` end with the same absolute match table, messages and result code. -/
theorem block_loop_partition_invariant (P : Params) (cb : Nat → CbRet) (set : Settings) (blocks : List Block) (whole : Block)
    (c : Core) (w : World) (hnc : ∀ s, P.chain s = none) (hu : c.unconfirmed = [])
    (ht : set.timeout = 0) (hb : ∀ b ∈ blocks, PlainBlock P set b) (hw : PlainBlock P set whole)
    (hk : absCands whole (blockCands P whole) = blocks.flatMap fun b => absCands b (blockCands P b)) :
    let a := blockLoop P cb set blocks [] c w
    let b := blockLoop P cb set [whole] [] c w
    absT a.core.found = absT b.core.found ∧ a.msgs = b.msgs ∧ a.result = b.result ∧ a.world = b.world := by
  intro a b
  -- both loops are collections (`blockLoop_collect`), related by `partition_invariant_matches`
  have ha := blockLoop_collect (cb := cb) (c := c) (w := w) ht hb
  have hb' := (blockLoop_collect (cb := cb) (c := c) (w := w) (blocks := [whole]) ht (by simpa using hw)).trans collect_single
  rw [clear_unconfirmed_id hu] at hb'
  have hp := partition_invariant_matches P cb set.fastMode (blocks.map fun b => (b, blockCands P b)) whole (blockCands P whole)
    c w hnc hu (by simpa [List.flatMap_map] using hk)
  rw [← ha, ← hb'] at hp
  simp only [Prod.mk.injEq] at hp
  exact ⟨hp.1, hp.2.2.2.1, hp.2.2.2.2, hp.2.2.1⟩

/-! ### Chained strings and blocks (after /repo 173a2ea: the unconfirmed lists are cleared at the start of every block)

    Spec decision, explicit: a chained string is reported iff ALL its pieces lie in ONE block at admissible gaps; the match
    is at `base + head offset` and its length is the true one (`tail end - head start`). A partition that keeps a chain
    inside one block reports it exactly as the whole buffer does; a partition that separates the pieces reports nothing for
    that occurrence, and never invents one. Stated and proved for the two-piece chain `chainP gmin gmax`
    (`{ head [gmin-gmax] tail }`, any offsets, lengths, bases); longer chains and several occurrences are covered by the tie. -/

/-- **one block**: the chain is reported iff the tail starts `gmin..gmax` bytes after the end of the head, at the block's base +
    the head's offset, with the true length -/
theorem two_piece_chain_in_one_block (gmin gmax : Nat) (cb : Nat → CbRet) (b : Block) (oh lh ot lt : Nat) (w : World) :
    (addCands (chainP gmin gmax) cb false b [⟨0, oh, lh⟩, ⟨1, ot, lt⟩] Core.fresh w).1.found =
      if oh + lh + gmin ≤ ot ∧ ot ≤ oh + lh + gmax then [(0, [⟨b.base, oh, ot - oh + lt⟩])] else [] := by
  -- the tail looks at the one pending head: out of reach (pruned), at a legal distance, or neither
  have hg : gapOk ⟨some 0, gmin, gmax, true⟩ ⟨b.base, oh, lh, 0⟩ ot = decide (oh + lh + gmin ≤ ot ∧ ot ≤ oh + lh + gmax) := by
    simp [gapOk, and_comm]
  by_cases hc : oh + lh + gmin ≤ ot ∧ ot ≤ oh + lh + gmax
  · have h3 : ¬ (oh + lh + gmax + 1028 < ot) := by omega
    simp [addCands, chainP, chainStep, Core.fresh, uget, uset, insU, pruneScan, hg, propagate, maxChain, chainHead, tset, tget,
      insMatch, setIns, hc, h3]
  · by_cases h4 : oh + lh + gmax + 1028 < ot <;>
    simp [addCands, chainP, chainStep, Core.fresh, uget, uset, insU, pruneScan, hg, tget, hc, h4]

/-- **different blocks**: head in one block and tail in the next (or the other way round) — nothing is reported, whatever the
    in-block offsets (combining them by in-block offsets was finding F67) -/
theorem pieces_in_different_blocks_never_combine (gmin gmax : Nat) (cb : Nat → CbRet) (b1 b2 : Block) (oh lh ot lt : Nat) (w : World) :
    (collect (chainP gmin gmax) cb false [(b1, [⟨0, oh, lh⟩]), (b2, [⟨1, ot, lt⟩])] Core.fresh w).1.found = [] ∧
    (collect (chainP gmin gmax) cb false [(b1, [⟨1, ot, lt⟩]), (b2, [⟨0, oh, lh⟩])] Core.fresh w).1.found = [] := by
  -- `collect` starts every block without pending pieces: a tail finds no head to join, a head is dropped with its block
  constructor <;>
  simp [collect, addCands, chainP, chainStep, Core.fresh, uget, uset, insU, pruneScan, tget]

/-- **in general** (any parameters, any chains): what a block scan does is independent of the pieces left pending by earlier blocks -/
theorem scanBlock_ignores_pending (P : Params) (cb : Nat → CbRet) (set : Settings) (b : Block) (c : Core) (u : UTable) (w : World)
    (hd : b.data.isSome) :
    (scanBlock P cb set b { c with unconfirmed := u } w) = (scanBlock P cb set b { c with unconfirmed := [] } w) := by
  obtain ⟨d, hb⟩ := Option.isSome_iff_exists.mp hd
  unfold scanBlock
  rw [hb]
  dsimp only
  -- both states become `{ .. with unconfirmed := [] }` before anything is read
  cases c.entryPoint <;> rfl

/-- **partition invariance for a chain kept inside one part**: the same absolute match (or none) as scanning the whole buffer as
    one block at base 0 -/
theorem chain_in_one_part_equals_whole (gmin gmax : Nat) (cb : Nat → CbRet) (b1 b2 : Block) (sizeW : Nat) (oh lh ot lt : Nat) (w : World) :
    absT (collect (chainP gmin gmax) cb false [(b1, []), (b2, [⟨0, oh, lh⟩, ⟨1, ot, lt⟩])] Core.fresh w).1.found =
    absT (collect (chainP gmin gmax) cb false [(⟨0, sizeW, some 0⟩, [⟨0, b2.base + oh, lh⟩, ⟨1, b2.base + ot, lt⟩])] Core.fresh w).1.found := by
  -- both sides are one block holding the whole chain (`two_piece_chain_in_one_block`); shifting both pieces by the base of
  -- the block changes neither the gap test nor the absolute position and length of the match
  have one (b : Block) (oh ot : Nat) :
      (collect (chainP gmin gmax) cb false [(b, [⟨0, oh, lh⟩, ⟨1, ot, lt⟩])] Core.fresh w).1.found = _ :=
    (congrArg (·.1.found) (collect_single (P := chainP gmin gmax) (cb := cb) (fast := false) (b := b) (c := Core.fresh) (w := w))).trans
      (two_piece_chain_in_one_block gmin gmax cb b oh lh ot lt w)
  rw [collect_nil_cons]
  refine (congrArg absT (one b2 oh ot)).trans (.trans ?_ (congrArg absT (one _ _ _)).symm)
  have hc : (b2.base + oh + lh + gmin ≤ b2.base + ot ∧ b2.base + ot ≤ b2.base + oh + lh + gmax) ↔
      (oh + lh + gmin ≤ ot ∧ ot ≤ oh + lh + gmax) := by omega
  simp only [hc]
  split
  · simp [absT, absM, Match.pos, Nat.add_sub_add_left]
  · rfl

/-- non-vacuity: "MARKER" at absolute offset 10 of a 16-byte buffer, delivered as blocks [0,4) [4,9) [9,16) (the
    match is in the third block at in-block offset 1) or as blocks with bases 0, 100, 200 (not contiguous): `in`, `at`,
    `@`, `#..in` see offset 10 resp. 201; a version that forgot the base would see 1. -/
example :
    let P : Params := { rules := [], imports := [], strRule := fun _ => 0, maxMatches := 5, cands := fun _ => [],
                        ep := fun _ _ _ _ => none, singleMatch := fun _ => false, chain := fun _ => none, pruneSlack := 1028, scanErr := fun _ => none,
                        cond := fun _ _ => .ret false, modParse := fun _ _ => none }
    let parts : List (Block × List Cand) := [(⟨0, 4, some 0⟩, []), (⟨4, 5, some 1⟩, []), (⟨9, 7, some 2⟩, [⟨0, 1, 6⟩])]
    let sparse : List (Block × List Cand) := [(⟨0, 4, some 0⟩, []), (⟨100, 5, some 1⟩, []), (⟨200, 7, some 2⟩, [⟨0, 1, 6⟩])]
    let t := (collect P (fun _ => .cont) false parts Core.fresh ⟨0, 0⟩).1.found
    let u := (collect P (fun _ => .cont) false sparse Core.fresh ⟨0, 0⟩).1.found
    PlaceOps.foundIn t 0 5 12 = true ∧ PlaceOps.foundIn t 0 0 9 = false ∧ PlaceOps.foundAt t 0 10 = true ∧
    PlaceOps.offset t 0 1 = some 10 ∧ PlaceOps.countIn t 0 10 10 = 1 ∧ PlaceOps.length t 0 1 = some 6 ∧
    PlaceOps.foundIn u 0 150 250 = true ∧ PlaceOps.offset u 0 1 = some 201 ∧ PlaceOps.foundIn u 0 0 9 = false := by
  decide +kernel

namespace Witness13

/-- one rule `uint8(5) == <the byte there>`: walks the blocks until one contains offset 5 -/
def P : Params :=
  { rules := [⟨0, false, false, true, []⟩]
    imports := []
    strRule := fun _ => 0
    maxMatches := 1000
    cands := fun _ => []
    ep := fun _ _ _ _ => none
    singleMatch := fun _ => false, chain := fun _ => none, pruneSlack := 1028
    scanErr := fun _ => none
    cond := fun _ _ => .walk (fun b => decide (b.base ≤ 5 ∧ 5 < b.base + b.size))
                        (fun seen => .ret (seen.any fun b => decide (b.base ≤ 5 ∧ 5 < b.base + b.size)))
    modParse := fun _ _ => none }

def set : Settings := ⟨true, true, 0, true, false, false⟩
def blocks : List Block := [⟨0, 4, some 0⟩, ⟨4, 4, some 1⟩]
/-- calls: first, next, next (end of the block loop), then evaluation: first, next <- not ready -/
def lateNR : Start := ⟨blocks, [.ok, .ok, .ok, .ok, .notReady], some 8, fun _ => .cont, 16⟩
def earlyNR : Start := ⟨blocks, [.ok, .notReady, .notReady, .ok, .notReady, .ok], some 8, fun _ => .cont, 16⟩

end Witness13

open Witness13 in
/-- **F27** (both variants): if the iterator answers "not ready" to a call made by rule evaluation
    (`uintN(off)`, module load, hash/math ranges), the scan does not return ERROR_BLOCK_NOT_READY: the
    condition is evaluated as if the data ended there, the scan reports success with a different verdict,
    and `iterator->last_error` is left at ERROR_BLOCK_NOT_READY. `resume_equiv` needs `nrWithin`. -/
theorem eval_phase_not_ready_changes_verdict (v : Variant) :
    let a := runToEnd P v lateNR.cb lateNR.stack 5 (Sc.fresh set) lateNR.it ⟨0, 0⟩
    let b := scanCall P v lateNR.cb lateNR.stack (Sc.fresh set) { lateNR.it with sched := dropNR lateNR.sched } ⟨0, 0⟩
    a.msgs = [.ruleNotMatching 0 [], .scanFinished] ∧ a.rc = .success ∧ a.it.lastError = .blockNotReady ∧
    b.msgs = [.ruleMatching 0 [], .scanFinished] ∧ b.rc = .success ∧
    nrWithin (lateNR.blocks.length + 1) lateNR.sched = false := by
  cases v with
  | mk a b c => cases a <;> cases b <;> cases c <;> decide +kernel

open Witness13 in
/-- non-vacuity of `resume_equiv`: a schedule with three not-ready answers (to the second call twice and to
    the last call of the block loop) satisfies the hypotheses; four calls are needed and the final trace is
    the uninterrupted one. -/
example :
    nrWithin (earlyNR.blocks.length + 1) earlyNR.sched = true ∧ countNR earlyNR.sched = 3 ∧
    (runToEnd P .fixed earlyNR.cb earlyNR.stack 3 (Sc.fresh set) earlyNR.it ⟨0, 0⟩).rc = .blockNotReady ∧
    (runToEnd P .fixed earlyNR.cb earlyNR.stack 4 (Sc.fresh set) earlyNR.it ⟨0, 0⟩).rc = .success ∧
    (runToEnd P .fixed earlyNR.cb earlyNR.stack 4 (Sc.fresh set) earlyNR.it ⟨0, 0⟩).msgs = [.ruleMatching 0 [], .scanFinished] := by
  decide +kernel

end YaraModel.Scan
