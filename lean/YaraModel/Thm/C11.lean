/-
  C11 — The scan callback protocol is exact.
  Property theorems only; helper lemmas are in Lemmas/Callback*.lean.
  The statements are about `scan` (in the last part `fullScan`), the C-shaped model of Model/Callback.lean, and quantify over
  EVERY rule list (any number of rules / namespaces, global / private / global+private / plain,
  any condition over literals, strings and rule identifiers), EVERY import list, EVERY flag pair and
  EVERY callback script (list of answers; CONTINUE once exhausted).
  `tr[k]? = some m` reads "the k-th message of the trace is m"; `answer script k` is the
  callback's answer to it.
-/
import YaraModel.Lemmas.CallbackRefine
namespace YaraModel.Cb

/-- **Refinement.** The model of the code (module table, two bit sets, skipped rules, loop with
    two exits) produces exactly the trace and return code of the protocol specification. -/
theorem scan_eq_spec (rs : List Rule) (imports : List String) (fl : Flags) (script : List Ret) :
    scan rs imports fl script = specScan rs imports fl script :=
  scan_eq_specScan rs imports fl script

/-- Whatever the callback answers, the trace is an initial segment of
    "module messages, rule messages, finished": nothing else, nothing twice, nothing out of order. -/
theorem trace_prefix_of_protocol (rs : List Rule) (imports : List String) (fl : Flags) (script : List Ret) :
    (scan rs imports fl script).1 <+: moduleMsgs imports ++ ruleMsgs rs fl ++ [.scanFinished] :=
  (scan_plays rs imports fl script).prefix

/-- **Each non-private rule exactly once, in definition order**: in a scan that is not
    stopped the rule messages are exactly `ruleMsgs`; in any scan they are an initial segment of it. -/
theorem each_nonprivate_once_in_order (rs : List Rule) (imports : List String) (fl : Flags) (script : List Ret) :
    (scan rs imports fl script).1.filter Msg.isRule <+: ruleMsgs rs fl ∧
    (NotStopped (scan rs imports fl script).1 script →
      (scan rs imports fl script).1.filter Msg.isRule = ruleMsgs rs fl) := by
  have h := scan_plays rs imports fl script
  rw [← protocol_filter_rule rs imports fl]
  exact ⟨h.prefix.filter _, fun hn => by rw [(h.complete hn).1]⟩

/-- `ruleMsgs` lists rules with strictly increasing index: definition order, no rule twice. -/
theorem ruleMsgs_definition_order (rs : List Rule) (fl : Flags) :
    ((ruleMsgs rs fl).map Msg.ruleIdx).Pairwise (· < ·) := by
  have h : (rs.zipIdx.map Prod.snd).Pairwise (· < ·) := by
    rw [List.zipIdx_map_snd]; exact List.pairwise_lt_range' 1
  rw [ruleMsgs, List.pairwise_map, List.pairwise_filterMap]
  refine (List.pairwise_map.1 h).imp fun hlt b hb b' hb' => ?_
  rw [(ruleMsg_ruleIdx hb).2, (ruleMsg_ruleIdx hb').2]
  exact hlt

/-- `ruleMsgs` contains precisely: every non-private rule, as matching or as not matching,
    filtered only by the two report flags. -/
theorem ruleMsgs_content (rs : List Rule) (fl : Flags) (i : Nat) :
    (Msg.ruleMatching i ∈ ruleMsgs rs fl ↔
      ∃ r, rs[i]? = some r ∧ r.isPrivate = false ∧ fl.matching = true ∧ specMatching rs i r = true) ∧
    (Msg.ruleNotMatching i ∈ ruleMsgs rs fl ↔
      ∃ r, rs[i]? = some r ∧ r.isPrivate = false ∧ fl.notMatching = true ∧ specMatching rs i r = false) :=
  mem_ruleMsgs_matching rs fl i

/-- **Private rules are never reported**, whatever the flags and the callback do. -/
theorem private_never (rs : List Rule) (imports : List String) (fl : Flags) (script : List Ret)
    (m : Msg) (hm : m ∈ (scan rs imports fl script).1) (hr : m.isRule = true) :
    ∃ r, rs[m.ruleIdx]? = some r ∧ r.isPrivate = false := by
  obtain ⟨r, i, hi, h⟩ := mem_ruleMsgs.1 (mem_scan_rule rs imports fl script m hm hr)
  exact ⟨r, by rw [(ruleMsg_ruleIdx h).2]; exact hi, (ruleMsg_eq_some.1 h).1⟩

/-- **A single finished message comes last iff the scan is not stopped**: the finished message is
    in the trace exactly when no answer ended the scan; then the trace is the complete protocol, ends
    with the only finished message, and the return code is success. -/
theorem finished_last_iff_not_aborted (rs : List Rule) (imports : List String) (fl : Flags) (script : List Ret) :
    (Msg.scanFinished ∈ (scan rs imports fl script).1 ↔ NotStopped (scan rs imports fl script).1 script) ∧
    (NotStopped (scan rs imports fl script).1 script →
      ∃ body, (scan rs imports fl script).1 = body ++ [.scanFinished] ∧ Msg.scanFinished ∉ body ∧
        body = moduleMsgs imports ++ ruleMsgs rs fl ∧ (scan rs imports fl script).2 = .success) := by
  refine ⟨finished_mem_iff rs imports fl script, fun h => ?_⟩
  have hc := (scan_plays rs imports fl script).complete h
  exact ⟨_, hc.1, finished_not_mem_body rs imports fl, rfl, hc.2⟩

/-- **Flag filtering**: a matching (not-matching) message needs REPORT_RULES_MATCHING
    (REPORT_RULES_NOT_MATCHING); giving neither flag means both. -/
theorem flags_filter (rs : List Rule) (imports : List String) (fl : Flags) (script : List Ret) (i : Nat) :
    (Msg.ruleMatching i ∈ (scan rs imports fl script).1 → fl.matching = true) ∧
    (Msg.ruleNotMatching i ∈ (scan rs imports fl script).1 → fl.notMatching = true) ∧
    setFlags false false = ⟨true, true⟩ ∧ (∀ m n, (m || n) = true → setFlags m n = ⟨m, n⟩) := by
  refine ⟨fun h => ?_, fun h => ?_, rfl, ?_⟩
  · obtain ⟨_, _, _, hf, _⟩ := ruleMatching_of_scan h
    exact hf
  · obtain ⟨_, _, _, hf, _⟩ := ruleNotMatching_of_scan h
    exact hf
  · intro m n h
    cases m <;> cases n <;> simp_all [setFlags]

/-- **Reported as matching iff the own condition holds and every global rule of the namespace
    holds** — for every rule message that reaches the callback (aborted scans included). -/
theorem matching_iff_cond_and_globals (rs : List Rule) (imports : List String) (fl : Flags) (script : List Ret) (i : Nat) :
    (Msg.ruleMatching i ∈ (scan rs imports fl script).1 →
      ∃ r, rs[i]? = some r ∧ condHolds rs i = true ∧
        ∀ (j : Nat) (g : Rule), rs[j]? = some g → g.isGlobal = true → g.ns = r.ns → condHolds rs j = true) ∧
    (Msg.ruleNotMatching i ∈ (scan rs imports fl script).1 →
      ∃ r, rs[i]? = some r ∧
        ¬ (condHolds rs i = true ∧
           ∀ (j : Nat) (g : Rule), rs[j]? = some g → g.isGlobal = true → g.ns = r.ns → condHolds rs j = true)) := by
  constructor
  · intro h
    obtain ⟨r, hr, _, _, hs⟩ := ruleMatching_of_scan h
    simp only [specMatching, Bool.and_eq_true] at hs
    exact ⟨r, hr, hs.1, (globalsHold_iff rs r.ns).1 hs.2⟩
  · intro h
    obtain ⟨r, hr, _, _, hs⟩ := ruleNotMatching_of_scan h
    refine ⟨r, hr, fun hc => ?_⟩
    simp [specMatching, hc.1, (globalsHold_iff rs r.ns).2 hc.2] at hs

/-- What "its condition holds" means: when identifiers denote earlier rules (the only thing the
    compiler accepts), `condHolds` is THE assignment under which every rule's truth value is the
    value of its condition with identifiers read as the truth values of the rules they name. -/
theorem condHolds_is_the_fixpoint (rs : List Rule) (h : BackRefs rs) :
    (∀ (i : Nat) (r : Rule), rs[i]? = some r → condHolds rs i = r.cond.holds (condHolds rs)) ∧
    (∀ t : Nat → Bool, (∀ (i : Nat) (r : Rule), rs[i]? = some r → t i = r.cond.holds t) →
      ∀ i, i < rs.length → t i = condHolds rs i) :=
  ⟨condHolds_fixpoint rs h, fun t ht i hi => condHolds_unique rs h t ht i hi⟩

/-- **Abort on a rule message**: it is the last message (no further rule message, no finished
    message) and the scan returns success. -/
theorem abort_stops_rc_success (rs : List Rule) (imports : List String) (fl : Flags) (script : List Ret)
    (k : Nat) (m : Msg) (hm : (scan rs imports fl script).1[k]? = some m) (hr : m.isRule = true)
    (ha : answer script k = .abort) :
    (scan rs imports fl script).1.length = k + 1 ∧ (scan rs imports fl script).2 = .success :=
  (scan_plays rs imports fl script).stop hm (by rw [ha, verdict_rule hr])

/-- **Error on a rule message**: it is the last message and the scan returns callback-error. -/
theorem error_stops_rc_callback_error (rs : List Rule) (imports : List String) (fl : Flags) (script : List Ret)
    (k : Nat) (m : Msg) (hm : (scan rs imports fl script).1[k]? = some m) (hr : m.isRule = true)
    (ha : answer script k = .error) :
    (scan rs imports fl script).1.length = k + 1 ∧ (scan rs imports fl script).2 = .callbackError :=
  (scan_plays rs imports fl script).stop hm (by rw [ha, verdict_rule hr])

/-- **Error on a module message** (import or imported) fails the scan with callback-error;
    no rule is reported and no finished message is sent. -/
theorem module_msg_error_fails_scan (rs : List Rule) (imports : List String) (fl : Flags) (script : List Ret)
    (k : Nat) (m : Msg) (hm : (scan rs imports fl script).1[k]? = some m) (hmod : m.isModule = true)
    (ha : answer script k = .error) :
    (scan rs imports fl script).1.length = k + 1 ∧ (scan rs imports fl script).2 = .callbackError ∧
    ∀ m' ∈ (scan rs imports fl script).1, m'.isModule = true := by
  obtain ⟨hl, hrc⟩ := (scan_plays rs imports fl script).stop hm (by rw [ha, verdict_module hmod]; rfl)
  exact ⟨hl, hrc, all_of_prefix_append_of_last (scan_prefix_modules rs imports fl script)
    (fun _ => moduleMsgs_isModule) (fun _ => protocol_tail_not_module) hl hm hmod⟩

/-- **One import and one imported message per imported module**: the module messages of any scan
    are an initial segment of `moduleMsgs` (import then imported, per distinct module, in order of
    first import); they are all of it as soon as the scan got past the module phase; and in
    `moduleMsgs` each imported module has exactly one message of each kind, other modules none. -/
theorem import_imported_once_per_module (rs : List Rule) (imports : List String) (fl : Flags) (script : List Ret) :
    (scan rs imports fl script).1.filter Msg.isModule <+: moduleMsgs imports ∧
    ((∃ m ∈ (scan rs imports fl script).1, m.isModule = false) →
      (scan rs imports fl script).1.filter Msg.isModule = moduleMsgs imports) ∧
    (∀ mod : String,
      (moduleMsgs imports).count (.importModule mod) = (if mod ∈ imports then 1 else 0) ∧
      (moduleMsgs imports).count (.moduleImported mod) = (if mod ∈ imports then 1 else 0)) := by
  obtain ⟨h1, h2⟩ := filter_of_prefix_append (scan_prefix_modules rs imports fl script)
    (fun _ => moduleMsgs_isModule) (fun _ => protocol_tail_not_module)
  refine ⟨h1, h2, fun mod => ?_⟩
  have h := count_import_pairs (distinctModules imports) mod
  rwa [count_distinctModules] at h

/-! ### The too-many-matches warning (matching phase, `fullScan`)

  `limit` is `YR_MAX_STRING_MATCHES` (any value), `events` is ANY sequence of occurrences (string index
  per occurrence, in scan order), the rule list is ANY list of rules whose conditions refer to strings by
  index (`$s`, `#s > n`), the script is ANY list of answers. -/

/-- **Refinement, matching phase included**: per-string counters, the list-is-full test, the disabled
    bit set and the early exit produce exactly: the warnings of `tooManyMsgs`, then the protocol of a scan
    in which every string has `min occurrences limit` matches, delivered under the stop rules. -/
theorem fullScan_eq_spec (limit : Nat) (events : List Nat) (rs : List SRule) (imports : List String)
    (fl : Flags) (script : List Ret) :
    fullScan limit events rs imports fl script = specFullScan limit events rs imports fl script :=
  fullScan_eq_specFullScan limit events rs imports fl script

/-- **Exactly once per overflowing string, carrying that string**: the warnings of any scan are an
    initial segment of `tooManyMsgs`, all of it as soon as anything else was delivered; and `tooManyMsgs`
    holds the warning for string `s` once if `s` occurs more than `limit` times, not at all otherwise. -/
theorem too_many_matches_once_per_string (limit : Nat) (events : List Nat) (rs : List SRule)
    (imports : List String) (fl : Flags) (script : List Ret) :
    (fullScan limit events rs imports fl script).1.filter Msg.isTooMany <+: tooManyMsgs limit events ∧
    ((∃ m ∈ (fullScan limit events rs imports fl script).1, m.isTooMany = false) →
      (fullScan limit events rs imports fl script).1.filter Msg.isTooMany = tooManyMsgs limit events) ∧
    (∀ s : Nat, (tooManyMsgs limit events).count (.tooManyMatches s) = if limit < events.count s then 1 else 0) := by
  obtain ⟨h1, h2⟩ := filter_of_prefix_append (fullScan_plays limit events rs imports fl script).prefix
    (fun _ => tooManyMsgsFrom_isTooMany) (fun _ => protocol_not_tooMany)
  exact ⟨h1, h2, count_tooManyMsgs limit events⟩

/-- **ABORT or ERROR in answer to the warning halts the scan**: the warning is the last message (no
    module, rule or finished message) and the scan returns too-many-matches. -/
theorem too_many_matches_abort_error_halt (limit : Nat) (events : List Nat) (rs : List SRule)
    (imports : List String) (fl : Flags) (script : List Ret) (k s : Nat)
    (hm : (fullScan limit events rs imports fl script).1[k]? = some (.tooManyMatches s))
    (ha : answer script k ≠ .cont) :
    (fullScan limit events rs imports fl script).1.length = k + 1 ∧
    (fullScan limit events rs imports fl script).2 = .tooManyMatches :=
  (fullScan_plays limit events rs imports fl script).stop hm (by rw [verdict_tooMany]; split <;> simp_all)

/-- **After CONTINUE only that string stops matching**: when every warning is answered with CONTINUE
    all warnings are delivered, and what follows is exactly the scan (module, rule and finished messages,
    return code — all theorems above apply to it) of the same rules in which string `s` has
    `specCount limit events s` matches, with the callback's remaining answers; `specCount` is the number
    of occurrences for every string within the limit and `limit` for the others. -/
theorem continue_disables_only_that_string (limit : Nat) (events : List Nat) (rs : List SRule)
    (imports : List String) (fl : Flags) (script : List Ret)
    (hcont : ∀ k, k < (tooManyMsgs limit events).length → answer script k = .cont) :
    fullScan limit events rs imports fl script =
      (tooManyMsgs limit events ++
         (scan (rs.map (SRule.resolve (specCount limit events))) imports fl
            (script.drop (tooManyMsgs limit events).length)).1,
       (scan (rs.map (SRule.resolve (specCount limit events))) imports fl
            (script.drop (tooManyMsgs limit events).length)).2) ∧
    (∀ s : Nat, events.count s ≤ limit → specCount limit events s = events.count s) ∧
    (∀ s : Nat, limit < events.count s → specCount limit events s = limit) := by
  refine ⟨fullScan_of_continue limit events rs imports fl script hcont, ?_, ?_⟩ <;>
    (intro s h; simp only [specCount]; omega)

/-- **The warning does not change which other messages are sent**: if no count comparison in the
    rules can see the cap (`#s > n` only with `n < limit` or on strings within the limit; `$s` never can),
    the messages after the warnings and the return code are those of the scan with no limit at all. -/
theorem warning_changes_nothing_else (limit : Nat) (hl : 0 < limit) (events : List Nat) (rs : List SRule)
    (imports : List String) (fl : Flags) (script : List Ret)
    (hfree : ∀ r ∈ rs, r.cond.limitFree limit (fun s => events.count s))
    (hcont : ∀ k, k < (tooManyMsgs limit events).length → answer script k = .cont) :
    fullScan limit events rs imports fl script =
      (tooManyMsgs limit events ++
         (scan (rs.map (SRule.resolve (fun s => events.count s))) imports fl
            (script.drop (tooManyMsgs limit events).length)).1,
       (scan (rs.map (SRule.resolve (fun s => events.count s))) imports fl
            (script.drop (tooManyMsgs limit events).length)).2) := by
  have hmap : rs.map (SRule.resolve (specCount limit events)) = rs.map (SRule.resolve (fun s => events.count s)) :=
    List.map_congr_left fun r hr =>
      congrArg (Rule.mk r.ns r.isGlobal r.isPrivate) (resolve_limitFree limit hl _ r.cond (hfree r hr))
  rw [fullScan_of_continue limit events rs imports fl script hcont, hmap]

/-- No string over the limit: no warning, and the scan is the ordinary scan. -/
theorem no_warning_within_limit (limit : Nat) (events : List Nat) (rs : List SRule)
    (imports : List String) (fl : Flags) (script : List Ret) :
    (tooManyMsgs limit events = [] ↔ ∀ s : Nat, events.count s ≤ limit) ∧
    ((∀ s : Nat, events.count s ≤ limit) →
      fullScan limit events rs imports fl script =
        scan (rs.map (SRule.resolve (fun s => events.count s))) imports fl script) := by
  refine ⟨tooManyMsgs_eq_nil_iff limit events, fun h => ?_⟩
  have hnil := (tooManyMsgs_eq_nil_iff limit events).2 h
  have hc : specCount limit events = fun s => events.count s := by
    funext s; simp only [specCount]; have := h s; omega
  have := fullScan_of_continue limit events rs imports fl script (by rw [hnil]; intro k hk; cases hk)
  rw [this, hnil, hc]
  simp

/-- three namespaces-worth of shapes: a false global+private rule in namespace 0, a true global rule
    in namespace 1, a private rule, plain rules referring to earlier rules, a skipped string rule -/
def exampleRules : List Rule :=
  [⟨0, true, true, .lit false⟩, ⟨0, false, false, .lit true⟩, ⟨1, true, false, .or (.str true) (.lit false)⟩,
   ⟨1, false, true, .lit true⟩, ⟨1, false, false, .and (.rule 3) (.not (.str false))⟩, ⟨1, false, false, .str false⟩]

example : BackRefs exampleRules := by
  intro i r h
  rcases i with _ | _ | _ | _ | _ | _ | i <;> cases h <;> simp [Cond.refsBelow]

-- an undisturbed scan: NotStopped holds, finished comes last
example : scan exampleRules ["pe", "math", "pe"] ⟨true, true⟩ [] =
    ([.importModule "pe", .moduleImported "pe", .importModule "math", .moduleImported "math",
      .ruleNotMatching 1, .ruleMatching 2, .ruleMatching 4, .ruleNotMatching 5, .scanFinished], .success) := rfl

-- abort on a rule message (k = 5), abort on a module message is ignored (k = 0)
example : scan exampleRules ["pe", "math", "pe"] ⟨true, true⟩ [.abort, .cont, .cont, .cont, .cont, .abort] =
    ([.importModule "pe", .moduleImported "pe", .importModule "math", .moduleImported "math",
      .ruleNotMatching 1, .ruleMatching 2], .success) := rfl

-- error on a rule message, only matching rules reported
example : scan exampleRules ["pe"] ⟨true, false⟩ [.cont, .cont, .cont, .error] =
    ([.importModule "pe", .moduleImported "pe", .ruleMatching 2, .ruleMatching 4], .callbackError) := rfl

-- error on a module message (k = 1, the imported message)
example : scan exampleRules ["pe", "math"] ⟨true, true⟩ [.cont, .error] =
    ([.importModule "pe", .moduleImported "pe"], .callbackError) := rfl

/-- strings 0,1 belong to rule 0, string 2 to rule 1 (index ≠ rule index), string 3 to rule 2 -/
def exampleSRules : List SRule :=
  [⟨0, false, false, .or (.str 1) (.str 0)⟩, ⟨0, false, false, .and (.str 2) (.not (.cnt 2 3))⟩,
   ⟨1, true, true, .str 3⟩]

-- limit 3; string 2 occurs five times, string 1 once after the overflow: one warning, answered CONTINUE
example : fullScan 3 [2, 2, 0, 2, 2, 2, 1] exampleSRules ["pe"] ⟨true, true⟩ [] =
    ([.tooManyMatches 2, .importModule "pe", .moduleImported "pe", .ruleMatching 0, .ruleMatching 1,
      .scanFinished], .success) := rfl

-- the same with ABORT / with ERROR in answer to the warning
example : fullScan 3 [2, 2, 0, 2, 2, 2, 1] exampleSRules ["pe"] ⟨true, true⟩ [.abort] =
    ([.tooManyMatches 2], .tooManyMatches) := rfl
example : fullScan 3 [2, 2, 0, 2, 2, 2, 1] exampleSRules ["pe"] ⟨true, true⟩ [.error] =
    ([.tooManyMatches 2], .tooManyMatches) := rfl

-- two overflowing strings, the second warning answered with ABORT (k = 1)
example : fullScan 2 [2, 0, 2, 0, 0, 2, 0] exampleSRules [] ⟨true, true⟩ [.cont, .abort] =
    ([.tooManyMatches 0, .tooManyMatches 2], .tooManyMatches) := rfl

-- hypotheses of `warning_changes_nothing_else` are satisfiable with an overflowing string present
example : (∀ r ∈ exampleSRules, r.cond.limitFree 4 (fun s => [2, 2, 0, 2, 2, 2, 1].count s)) ∧
    tooManyMsgs 4 [2, 2, 0, 2, 2, 2, 1] = [.tooManyMatches 2] := by
  refine ⟨?_, by decide⟩
  intro r hr
  simp only [exampleSRules, List.mem_cons, List.not_mem_nil, or_false] at hr
  rcases hr with h | h | h <;> subst h <;> simp [SCond.limitFree]

end YaraModel.Cb
