/-
  C06 — Scanning arbitrary bytes with any module is memory-safe and terminates.
  PARTIAL claim: what is proved here is the *logic meant to guarantee* memory safety —
  every bounds predicate regenerated from the C text (Gen/Bounds.lean, translator T5) implies
  an in-range access for ALL 64-bit values, with no hypothesis other than validity of the
  allocation (`base + size < 2^64`, i.e. the buffer does not wrap around the address space),
  the result range of `pe_rva_to_offset`, and the iteration bounds of the capped loops.
  Whether every dereference in the parsers is preceded by such a predicate is NOT modelled;
  that part is only sampled by the sanitizer campaign (vf/checks/c06.py).
  The arithmetic shared by the predicates is in Lemmas/Bounds.lean.
-/
import YaraModel.Gen.Bounds
import YaraModel.Gen.Guards
import YaraModel.Lemmas.Bounds
set_option linter.unusedVariables false
namespace YaraModel.C06
open YaraModel.Gen.Bounds YaraModel.PeRva YaraModel.Gen.Guards

/-- `fits_in_pe` (pe_utils.h; ≈60 call sites in pe.c, ≈40 in dotnet.c) is sound for all 64-bit values. -/
theorem fits_in_pe_sound (data sz p n : BitVec 64) (hv : data.toNat + sz.toNat < 2 ^ 64)
    (h : fits_in_pe data sz p n = true) : InRange data sz p n := by
  simp only [fits_in_pe, Bool.and_eq_true, decide_eq_true_eq] at h
  exact .of_le_end_sub hv h.1.1 h.1.2 h.2

example : fits_in_pe 0x7f0000001000#64 0x400#64 0x7f00000013f8#64 8#64 = true := by decide

theorem struct_fits_in_pe_sound (data sz p n : BitVec 64) (hv : data.toNat + sz.toNat < 2 ^ 64)
    (h : struct_fits_in_pe data sz p n = true) : InRange data sz p n :=
  fits_in_pe_sound data sz p n hv h

/-- `fits_in_dex` (dex.h). -/
theorem fits_in_dex_sound (data sz p n : BitVec 64) (hv : data.toNat + sz.toNat < 2 ^ 64)
    (h : fits_in_dex data sz p n = true) : InRange data sz p n := by
  simp only [fits_in_dex, Bool.and_eq_true, decide_eq_true_eq] at h
  exact .of_le_end_sub hv h.1.1 h.1.2 h.2

example : fits_in_dex 0x1000#64 0x70#64 0x1000#64 0x70#64 = true := by decide

theorem struct_fits_in_dex_sound (data sz p n : BitVec 64) (hv : data.toNat + sz.toNat < 2 ^ 64)
    (h : struct_fits_in_dex data sz p n = true) : InRange data sz p n :=
  fits_in_dex_sound data sz p n hv h

/-- `function_read` range test (exec.c: `uint8(off)`, `int32be(off)` … on a memory block with
    virtual base `base`): the `tsize` bytes read lie inside the block. -/
theorem function_read_in_range_sound (base sz off n : BitVec 64) (hv : base.toNat + sz.toNat < 2 ^ 64)
    (h : function_read_in_range base sz off n = true) : InRange base sz off n := by
  simp only [function_read_in_range, Bool.and_eq_true, decide_eq_true_eq] at h
  exact .of_le_end_sub hv h.1.2 h.1.1 h.2

example : function_read_in_range 0x400000#64 0x10#64 0x40000c#64 4#64 = true := by decide

/-- **`is_valid_ptr`** (elf.c; all users of IS_VALID_PTR and the symbol / string table tests): full-strength soundness of the
    GENERATED definition (the text of /repo on this run), for all 64-bit values, under allocation validity only.
    (The 4.5.2 text `ptr + ptr_size <= base + size` is unsound, see the regression example below.) -/
theorem is_valid_ptr_sound (b sz p n : BitVec 64) (hv : b.toNat + sz.toNat < 2 ^ 64)
    (h : is_valid_ptr b sz p n = true) : InRange b sz p n := by
  -- both differences are exact, whatever the allocation
  simp only [is_valid_ptr, Bool.and_eq_true, decide_eq_true_eq] at h
  obtain ⟨⟨hb, hn⟩, hp⟩ := h
  have := add_le_of_le_sub hn hp
  rw [BitVec.toNat_sub_of_le hb] at this
  exact ⟨hb, by omega⟩

example : is_valid_ptr 0x1000#64 0x1000#64 0x1ff0#64 16#64 = true := by decide
/-- regression example (F10): the tuple that the frozen 4.5.2 text accepted is rejected by the current text -/
example : is_valid_ptr_v452 0x1000#64 0x1000#64 0xFFFFFFFFFFFFFFF8#64 16#64 = true ∧
    is_valid_ptr 0x1000#64 0x1000#64 0xFFFFFFFFFFFFFFF8#64 16#64 = false := by decide

/-- arena.c relocation test at load time (generated from the current text, which tests `used < sizeof(void*)` itself):
    an *accepted* relocation entry addresses 8 bytes inside the buffer — for ALL values, no side hypothesis.
    The proof only uses the Nat meaning of the disjuncts, not their grouping into `if`s. -/
theorem arena_reloc_accept_sound (id nb off used bd : BitVec 64)
    (h : arena_reloc_reject id nb off used bd = false) :
    id.toNat < nb.toNat ∧ off.toNat + 8 ≤ used.toNat ∧ bd.toNat ≠ 0 := by
  simp only [arena_reloc_reject, Bool.or_eq_false_iff, decide_eq_false_iff_not, beq_eq_false_iff_ne,
    BitVec.not_le, BitVec.not_lt] at h
  obtain ⟨hid, ⟨hbd, h8⟩, hoff⟩ := h
  exact ⟨hid, Nat.add_comm .. ▸ add_le_of_le_sub h8 hoff, fun e => hbd (BitVec.eq_of_toNat_eq e)⟩

example : arena_reloc_reject 0#64 1#64 8#64 16#64 1#64 = false := by decide
/-- regression example (F9 family): the frozen 4.5.2 test accepted offset 0xFFFFFF00 in a 4-byte buffer -/
example : arena_reloc_reject_v452 0#64 1#64 0xFFFFFF00#64 4#64 1#64 = false ∧
    arena_reloc_reject 0#64 1#64 0xFFFFFF00#64 4#64 1#64 = true := by decide

/-- Mach-O fat archive entry (macho.c): an entry that passes both tests lies inside the file, for all values. -/
theorem macho_fat_entry_sound (sz off asz : BitVec 64)
    (h1 : macho_fat_wraps off asz = false) (h2 : macho_fat_outside sz off asz = false) :
    off.toNat + asz.toNat ≤ sz.toNat := by
  -- a 64-bit sum that is not below its first operand has not wrapped
  have hw : off.toNat + asz.toNat < 2 ^ 64 := by
    have := of_decide_eq_false h1
    rw [BitVec.lt_def, BitVec.toNat_add] at this
    omega
  exact add_le_of_not_lt hw (of_decide_eq_false h2)

example : macho_fat_wraps 0x1000#64 0x2000#64 = false ∧ macho_fat_outside 0x3000#64 0x1000#64 0x2000#64 = false := by decide

/-- Mach-O fat arch table: `count` entries of `fat_arch_sz ∈ {20, 32}` bytes after the 8-byte header
    lie inside the file (count is a uint32, so the product cannot wrap). -/
theorem macho_fat_table_sound (sz count esz : BitVec 64) (hc : count.toNat < 2 ^ 32) (he : esz.toNat ≤ 32)
    (h : macho_fat_table_outside sz count esz = false) :
    8 + count.toNat * esz.toNat ≤ sz.toNat := by
  have hm : count.toNat * esz.toNat < 2 ^ 37 :=
    calc count.toNat * esz.toNat ≤ count.toNat * 32 := Nat.mul_le_mul_left _ he
      _ < 2 ^ 37 := by omega
  have e1 := BitVec.toNat_mul_of_lt (x := count) (y := esz) (by omega)
  have := add_le_of_not_lt (a := 8#64) (by rw [e1]; exact Nat.lt_trans (Nat.add_lt_add_left hm 8) (by decide)) (of_decide_eq_false h)
  rwa [e1] at this

/-- ELF program/section table (elf.c `elf_rva_to_offset_*`): a table that passes both tests lies
    inside the file, for all values. -/
theorem elf_table_sound (esz off tsz cnt : BitVec 64)
    (h1 : elf_table_wraps off tsz = false) (h2 : elf_table_outside esz off tsz cnt = false) :
    off.toNat + tsz.toNat ≤ esz.toNat ∧ 0 < off.toNat := by
  -- `ULONG_MAX - off` is `~off`, i.e. `2^64 - 1 - off`: the first test says that `off + tsz` does not wrap
  have hw := of_decide_eq_false h1
  rw [BitVec.lt_def, BitVec.allOnes_sub_eq_not, BitVec.toNat_not] at hw
  simp only [elf_table_outside, Bool.or_eq_false_iff, decide_eq_false_iff_not, beq_eq_false_iff_ne] at h2
  exact ⟨add_le_of_not_lt (by omega) h2.1.2, Nat.pos_of_ne_zero fun e => h2.1.1.1 (BitVec.eq_of_toNat_eq e)⟩

example : elf_table_wraps 0x40#64 0x1c0#64 = false ∧ elf_table_outside 0x1000#64 0x40#64 0x1c0#64 8#64 = false := by decide

/-- .NET string heap access (dotnet.c `pe_get_dotnet_string`): the start byte is inside the file. -/
theorem dotnet_string_start_sound (data sz st idx hs : BitVec 64) (hv : data.toNat + sz.toNat < 2 ^ 64)
    (h : dotnet_string_start_ok data sz st idx hs = true) : InRange data sz st 1#64 := by
  simp only [dotnet_string_start_ok, Bool.and_eq_true, decide_eq_true_eq, BitVec.le_def, BitVec.lt_def,
    BitVec.toNat_add_of_lt hv] at h
  exact ⟨h.1.1, Nat.succ_le_of_lt h.1.2⟩

/-- pe.c `available_space`: when neither early return is taken, the pointer is inside the file and the returned
    count is exactly the number of bytes from it to the end of the file. -/
theorem pe_available_space_sound (data sz p : BitVec 64) (hv : data.toNat + sz.toNat < 2 ^ 64)
    (h1 : pe_available_before data sz p = false) (h2 : pe_available_after data sz p = false) :
    data.toNat ≤ p.toNat ∧ p.toNat + (pe_available_value data sz p).toNat = data.toNat + sz.toNat := by
  simp only [pe_available_before, pe_available_after, decide_eq_false_iff_not, BitVec.not_lt, BitVec.not_le] at h1 h2
  have hle : p.toNat ≤ (data + sz).toNat := BitVec.le_of_lt h2
  rw [pe_available_value, BitVec.toNat_sub_of_le hle, Nat.add_sub_cancel' hle, BitVec.toNat_add_of_lt hv]
  exact ⟨h1, rfl⟩

example : pe_available_before 0x1000#64 0x100#64 0x10f0#64 = false ∧ pe_available_after 0x1000#64 0x100#64 0x10f0#64 = false ∧
    pe_available_value 0x1000#64 0x100#64 0x10f0#64 = 0x10#64 := by decide

/-- pe.c export tables: `n * sizeof(DWORD) > data_size - offset` rejected ⇒ the n-entry table at `offset` lies in the file
    (`offset` is a result of pe_rva_to_offset, hence `≤ data_size`; `n` is a uint32 so the product cannot wrap). -/
theorem pe_exports_table_sound (sz off n : BitVec 64) (ho : off.toNat ≤ sz.toNat) (hn : n.toNat < 2 ^ 32)
    (h : pe_exports_table_outside sz off n = false) : off.toNat + 4 * n.toNat ≤ sz.toNat := by
  have := add_le_of_le_sub ho (BitVec.not_lt.1 (of_decide_eq_false h))
  rwa [BitVec.toNat_mul_of_lt (by show n.toNat * 4 < 2 ^ 64; omega), Nat.mul_comm] at this

theorem pe_export_names_sound (sz off n : BitVec 64) (ho : off.toNat ≤ sz.toNat) (hn : n.toNat < 2 ^ 32)
    (h : pe_export_names_outside sz off n = false) : off.toNat + 4 * n.toNat ≤ sz.toNat :=
  pe_exports_table_sound sz off n ho hn h

example : pe_exports_table_outside 0x1000#64 0xff0#64 4#64 = false ∧ pe_exports_table_outside 0x1000#64 0xff0#64 5#64 = true := by decide

/-- pe.c Rich-header search (F60): the test before `p = pe->data + nthdr_offset - 4; … *p` implies, for
    ALL 64-bit values and with no further hypothesis, that the 4-byte read `[nthdr_offset - 4, nthdr_offset)` lies inside the file.
    (4.5.2 accepted `nthdr_offset ≤ data_size + 4`; the frozen text and its witness `pe_rich_nthdr_v452_unsound_witness` are in Lemmas/Bounds.lean.) -/
theorem pe_rich_nthdr_sound (sz off : BitVec 64)
    (h : pe_rich_nthdr_reject sz off = false) : 4 ≤ off.toNat ∧ (off.toNat - 4) + 4 ≤ sz.toNat := by
  simp only [pe_rich_nthdr_reject, Bool.or_eq_false_iff, decide_eq_false_iff_not, BitVec.lt_def] at h
  have h4 : ¬ off.toNat < 4 := h.2
  omega

/-- pe.c security directory (F61): `VirtualAddress + Size` is added in 64 bits; for all 32-bit field values
    (`va`, `n` < 2^32, which is what `yr_le32toh` yields) and every file size the accepted directory lies inside the file.
    (The frozen text with the 32-bit sum and its witness `pe_security_dir_v452_unsound_witness` are in Lemmas/Bounds.lean.) -/
theorem pe_security_dir_sound (sz va n : BitVec 64) (hva : va.toNat < 2 ^ 32) (hn : n.toNat < 2 ^ 32)
    (h : pe_security_dir_reject sz va n = false) : 0 < va.toNat ∧ va.toNat + n.toNat ≤ sz.toNat := by
  simp only [pe_security_dir_reject, Bool.or_eq_false_iff, decide_eq_false_iff_not, beq_eq_false_iff_ne] at h
  exact ⟨Nat.pos_of_ne_zero fun e => h.1.1.1 (BitVec.eq_of_toNat_eq e),
    add_le_of_not_lt (Nat.lt_trans (Nat.add_lt_add hva hn) (by decide)) h.2⟩

/-- dotnet.c blob tests. `blob_offset`/`offset` are pointers formed from file fields, lengths are 32-bit; the additions
    on the left cannot wrap when the buffer does not end within 4 GiB of the top of the address space (`hv`), and the
    pointer is known to be ≥ `data` from the preceding `fits_in_pe` (`hp`). PARTIAL w.r.t. plain allocation validity.
    (Conclusions are the access ranges `[p, p+n) ⊆ buffer`, i.e. `≤`: a `>=`/`>` variation of the C test that keeps the access inside is not an alarm.) -/
theorem dotnet_blob4_sound_partial (data sz p : BitVec 64) (hv : data.toNat + sz.toNat + 2 ^ 32 ≤ 2 ^ 64) (hp : p.toNat ≤ data.toNat + sz.toNat)
    (h : dotnet_blob4_ok data sz p = true) : p.toNat + 4 ≤ data.toNat + sz.toNat := by
  obtain ⟨e1, e2⟩ := dotnet_sums (n := 4#64) hv hp (by decide)
  simp only [dotnet_blob4_ok, decide_eq_true_eq, BitVec.lt_def, e1, e2] at h
  exact Nat.le_of_lt h

theorem dotnet_blob_entry_sound_partial (data sz p n : BitVec 64) (hv : data.toNat + sz.toNat + 2 ^ 32 ≤ 2 ^ 64)
    (hp : p.toNat ≤ data.toNat + sz.toNat) (hn : n.toNat < 2 ^ 32)
    (h : dotnet_blob_entry_outside data sz p n = false) : p.toNat + n.toNat ≤ data.toNat + sz.toNat := by
  obtain ⟨e1, e2⟩ := dotnet_sums hv hp hn
  simp only [dotnet_blob_entry_outside, decide_eq_false_iff_not, BitVec.le_def, e1, e2] at h
  exact Nat.le_of_lt (Nat.lt_of_not_le h)

theorem dotnet_attr_blob_sound_partial (data sz p n : BitVec 64) (hv : data.toNat + sz.toNat + 2 ^ 32 ≤ 2 ^ 64)
    (hp : p.toNat ≤ data.toNat + sz.toNat) (hn : n.toNat < 2 ^ 32)
    (h : dotnet_attr_blob_reject data sz p n = false) : 3 ≤ n.toNat ∧ p.toNat + n.toNat ≤ data.toNat + sz.toNat := by
  obtain ⟨e1, e2⟩ := dotnet_sums hv hp hn
  simp only [dotnet_attr_blob_reject, Bool.or_eq_false_iff, decide_eq_false_iff_not, BitVec.le_def, BitVec.lt_def, e1, e2] at h
  exact ⟨Nat.le_of_not_lt h.1, Nat.le_of_lt (Nat.lt_of_not_le h.2)⟩

theorem dotnet_attr_str_sound_partial (data sz p n : BitVec 64) (hv : data.toNat + sz.toNat + 2 ^ 32 ≤ 2 ^ 64)
    (hp : p.toNat ≤ data.toNat + sz.toNat) (hn : n.toNat < 256)
    (h : dotnet_attr_str_outside data sz p n = false) : p.toNat + n.toNat ≤ data.toNat + sz.toNat := by
  obtain ⟨e1, e2⟩ := dotnet_sums (n := n) hv hp (by omega)
  simp only [dotnet_attr_str_outside, decide_eq_false_iff_not, BitVec.lt_def, e1, e2] at h
  exact Nat.le_of_not_lt h

/-- the index test accepts only pointers strictly inside the file (upper side; all values) -/
theorem dotnet_blob_index_sound (data sz p i : BitVec 64) (hv : data.toNat + sz.toNat < 2 ^ 64)
    (h : dotnet_blob_index_reject data sz p i = false) : i.toNat ≠ 0 ∧ p.toNat < data.toNat + sz.toNat := by
  simp only [dotnet_blob_index_reject, Bool.or_eq_false_iff, decide_eq_false_iff_not, BitVec.le_def,
    BitVec.toNat_add_of_lt hv, beq_eq_false_iff_ne] at h
  exact ⟨fun e => h.1 (BitVec.eq_of_toNat_eq e), Nat.lt_of_not_le h.2⟩

example : dotnet_blob_entry_outside 0x1000#64 0x100#64 0x1080#64 0x7f#64 = false ∧
    dotnet_blob_entry_outside 0x1000#64 0x100#64 0x1080#64 0x80#64 = true := by decide

/-- elf.c `str_table_entry`: an entry pointer that passes both tests is strictly below the table limit, and not below the
    table base when `str_entry = base + index` with a non-negative 31-bit index does not wrap. -/
theorem elf_str_entry_sound (base lim idx : BitVec 64) (hv : base.toNat + 2 ^ 31 ≤ 2 ^ 64) (hi : idx.toNat < 2 ^ 31)
    (h1 : elf_str_table_empty base lim = false) (h2 : elf_str_entry_outside (base + idx) lim = false) :
    base.toNat ≤ (base + idx).toNat ∧ (base + idx).toNat < lim.toNat := by
  have e := BitVec.toNat_add_of_lt (x := base) (y := idx) (by omega)
  simp only [elf_str_entry_outside, decide_eq_false_iff_not, BitVec.le_def, e] at h2
  rw [e]
  exact ⟨Nat.le_add_right .., Nat.lt_of_not_le h2⟩

/-- pe.c `pe_get_section_full_name` (COFF long section names): the loop reads `string[len]` under the guard
    `fits_in_pe(pe, string, <generated size>)`; the guarded size covers the index that is read, so with `fits_in_pe_sound` the byte
    `string + len` lies inside the file, for all values (`len` cannot reach 2^64-1: it counts bytes of the file). -/
theorem pe_fullname_read_in_guard (data sz str len : BitVec 64) (hv : data.toNat + sz.toNat < 2 ^ 64) (hl : len.toNat < 2 ^ 64 - 1)
    (h : fits_in_pe data sz str (pe_fullname_guard_size len) = true) :
    data.toNat ≤ str.toNat ∧ str.toNat + len.toNat < data.toNat + sz.toNat := by
  have hr := fits_in_pe_sound data sz str (pe_fullname_guard_size len) hv h
  have hs : (pe_fullname_guard_size len).toNat = len.toNat + 1 :=
    BitVec.toNat_add_of_lt (x := len) (y := 1#64) (Nat.add_lt_of_lt_sub hl)
  rw [InRange, hs] at hr
  exact hr

/-- **Guard/read pairs** (translators/guards.py, regenerated from pe.c, pe_utils.c, dotnet.c, elf.c and the packed layouts of pe.h, dotnet.h, elf.h on
    every run): for EVERY extracted site `struct_fits_in_pe(pe, p, T)` / `IS_VALID_PTR(elf, elf_size, p)` the furthest byte read through `p` in the same
    function (`p->field`, `p[k].field`, `(p + k)->field`, with the layout of p's DECLARED type) lies within the size that was guarded. -/
theorem struct_guard_reads_in_guard : ∀ s ∈ structGuards, s.readExtent ≤ s.guardSize ∧ s.guardSize < 2 ^ 16 := by decide

/-- …hence, when the guard `fits_in_pe(pe, p, sizeof(T))` passed, every one of those reads is inside the file — for all 64-bit values of the pointer,
    the buffer address and its size, under allocation validity only. -/
theorem struct_guard_read_in_file (s : Site) (hs : s ∈ structGuards) (data sz p : BitVec 64) (hv : data.toNat + sz.toNat < 2 ^ 64)
    (h : fits_in_pe data sz p (BitVec.ofNat 64 s.guardSize) = true) : InRange data sz p (BitVec.ofNat 64 s.readExtent) := by
  have hb := struct_guard_reads_in_guard s hs
  exact (fits_in_pe_sound data sz p _ hv h).ofNat_mono hb.1 (by omega)

/-- the same for the ELF sites, whose guard is `is_valid_ptr(elf, elf_size, p, sizeof(*p))` -/
theorem elf_guard_read_in_file (s : Site) (hs : s ∈ structGuards) (base sz p : BitVec 64) (hv : base.toNat + sz.toNat < 2 ^ 64)
    (h : is_valid_ptr base sz p (BitVec.ofNat 64 s.guardSize) = true) : InRange base sz p (BitVec.ofNat 64 s.readExtent) := by
  have hb := struct_guard_reads_in_guard s hs
  exact (is_valid_ptr_sound base sz p _ hv h).ofNat_mono hb.1 (by omega)

/-- the table is not vacuous -/
example : 20 ≤ structGuards.length ∧ structGuards.any (fun s => s.readExtent == s.guardSize) = true := by decide

/-- pe.c string walks `remaining = <generated bound>; strnlen((char*)(pe->data + offset), remaining)` (export / DLL names): the walk cannot leave the
    file (`offset` is a result of pe_rva_to_offset, hence `≤ data_size`). -/
theorem pe_strnlen_walk_in_file (sz off : BitVec 64) (ho : off.toNat ≤ sz.toNat) :
    ∀ b ∈ pe_strnlen_bounds sz off, off.toNat + b.toNat ≤ sz.toNat := by
  intro b hb
  simp only [pe_strnlen_bounds, List.mem_cons, List.mem_nil_iff, or_false] at hb
  rcases hb with rfl
  exact add_le_of_le_sub ho (BitVec.le_refl _)

example : (pe_strnlen_bounds 100#64 40#64) = [60#64] := by decide

/-- Mach-O load-command walk: every command handled by the loop has its 8-byte header and its whole
    `cmdsize` extent inside the file, makes progress ≥ 8, for all `cmdsize` streams and all fuel.
    Hypotheses: `parsed ≤ size` initially (the caller checked `size ≥ sizeof(header)`), and
    `data + size + 8 ≤ 2^64` — PARTIAL w.r.t. plain allocation validity: `command + 8` in the first
    test may wrap when the buffer ends within 8 bytes of the top of the address space. -/
theorem macho_cmd_loop_in_bounds_partial (data size : BitVec 64) (hv : data.toNat + size.toNat + 8 ≤ 2 ^ 64)
    (fuel : Nat) (parsed : BitVec 64) (cs : List (BitVec 64)) (hp : parsed.toNat ≤ size.toNat) :
    ∀ oc ∈ cmdLoop data size fuel parsed cs,
      oc.1.toNat + 8 ≤ size.toNat ∧ oc.1.toNat + oc.2.toNat ≤ size.toNat ∧ 8 ≤ oc.2.toNat := by
  intro oc h
  have := (cmdLoop_inv data size fuel parsed cs hp).1 oc h
  omega

/-- Termination measure of the same walk: at most `(size - parsed) / 8` commands are handled
    whatever the `ncmds` cap and the file contents are. -/
theorem macho_cmd_loop_progress (data size : BitVec 64) (fuel : Nat) (parsed : BitVec 64)
    (cs : List (BitVec 64)) (hp : parsed.toNat ≤ size.toNat) :
    8 * (cmdLoop data size fuel parsed cs).length ≤ size.toNat - parsed.toNat ∧
    (cmdLoop data size fuel parsed cs).length ≤ fuel :=
  (cmdLoop_inv data size fuel parsed cs hp).2

/-- `pe_rva_to_offset`: a defined result is a valid file offset (`< data_size`), for every section
    table, every alignment, every rva. -/
theorem rva_to_offset_bounded (dataSize fa sa nsec secOff : Nat) (secs : List Sect) (rva r : Nat)
    (h : rvaToOffset dataSize fa sa nsec secOff secs rva = some r) : r < dataSize := by
  unfold rvaToOffset at h
  split at h
  · cases h
  · unfold finish at h
    split at h <;> exact finishCore_bounded _ _ _ _ _ _ h

example : rvaToOffset 0x1000 0x200 0x1000 1 0x178 [⟨0x1000, 0x200, 0x400, 0x200⟩] 0x1010 = some 0x410 := by decide

/-- …and its section walk runs at most `min(NumberOfSections, MAX_PE_SECTIONS)` ≤ 96 times. -/
theorem rva_to_offset_iterations (dataSize fa sa nsec secOff : Nat) (secs : List Sect) (rva : Nat) :
    rvaIterations dataSize fa sa nsec secOff secs rva ≤ MAX_PE_SECTIONS := by
  unfold rvaIterations
  split
  · exact Nat.zero_le _
  · rename_i a n h
    have := sectLoop_iterations _ _ _ _ _ _ _ _ _ _ _ h
    have : min nsec MAX_PE_SECTIONS ≤ MAX_PE_SECTIONS := Nat.min_le_right _ _
    omega

/-- Iteration cap: a loop `for (i = 0; i < cap; i++) { if (!progress) break; … }` runs its body at most
    `cap` times whatever the body does (used with the generated caps `MAX_PE_SECTIONS`, `MAX_PE_IMPORTS`,
    `MAX_PE_EXPORTS`, `MAX_RESOURCES`, `MAX_METHOD_COUNT`, …). -/
theorem capped_loop_iterations_le {σ : Type} (body : σ → Option σ) (cap : Nat) (s : σ) :
    (cappedLoop body cap s).2 ≤ cap := by
  induction cap generalizing s with
  | zero => simp [cappedLoop]
  | succ n ih =>
    simp only [cappedLoop]
    split
    · simp
    · rename_i s' _
      have := ih s'
      omega

example : (cappedLoop (fun (n : Nat) => if n < 1000000 then some (n + 1) else none) MAX_PE_SECTIONS 0).2 = 96 := by decide

end YaraModel.C06
