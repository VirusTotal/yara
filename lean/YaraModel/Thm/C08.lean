/-
  C08 — Saved rules behave identically once loaded.
  The property theorems and their examples; the file declares no helper (those are in Lemmas/Arena*.lean; the proofs of
  `save_restores`, `load_chunked` and `load_save_run` assemble them here).  Model: Model/Arena.lean (arena.c
  yr_arena_save_stream / yr_arena_load_stream).  `WF a` is the protocol under which the compiler
  uses the arena (registered slots are disjoint 8-byte fields inside used bytes, each holding NULL or a pointer into
  used bytes); that the real compiler obeys it is what the correspondence harness samples.
-/
import YaraModel.Lemmas.ArenaRoundTrip
import YaraModel.Lemmas.ArenaSave
import YaraModel.Lemmas.ArenaChunks
import YaraModel.Lemmas.ArenaExample
import YaraModel.Lemmas.ArenaSession
import YaraModel.Lemmas.ArenaExec
namespace YaraModel.Arena
open YaraModel.Gen.ArenaLayout

/-- **The original stays usable**: after yr_arena_save_stream has converted every registered pointer
    to a reference, written the buffers and converted back, the arena is exactly what it was. -/
theorem save_restores {a : Arena} (h : WF a) : afterSave a = a := by
  unfold afterSave
  rw [restore_eq, toRefs_eq]
  simp only [mapSlots_relocs]
  rw [backVal_congr (keys_mapSlots _ a.relocs a), mapSlots_comp _ _ h.slots (fun r _ => encRef_lt _)]
  apply mapSlots_id
  intro r hr
  show backVal a.bufs (encRef (ptrToRef a.bufs (getSlot a r)).2) = getSlot a r
  unfold backVal
  rw [(back_of_toRef h (h.valid r hr)).1]

/-- None of the asserts of yr_arena_save_stream (`assert(found)`, the asserts of
    yr_arena_ref_to_ptr) fires on a well-formed arena; the call writes `save a` and leaves `a`. -/
theorem save_no_assert {a : Arena} (h : WF a) : saveFull a = .ok (save a, a) := by
  unfold saveFull
  rw [if_pos ⟨saveOk_of_wf h, restoreOk_of_wf h⟩, save_restores h]

/-- **The bytes written depend only on the rules**, never on process addresses, buffer capacities
    or the history of reallocations: they are a function of the abstract arena. -/
theorem save_address_free {a a' : Arena} (h : abs a = abs a') : save a = save a' := by
  rw [save_eq_saveOfAbs, save_eq_saveOfAbs, h]

/-- **Round trip.** For every well-formed arena (buffers below 2 GiB), every loader configuration and every
    allocator that hands out non-null, non-overlapping blocks, loading the saved image succeeds and
    yields an arena with the same abstract content: same bytes, every registered pointer denoting the
    same (buffer, offset), same relocation list — whatever the new addresses are. -/
theorem load_save (cfg : LoaderCfg) {a : Arena} (h : WF a) (hs2 : ∀ b ∈ a.bufs, b.data.length ≤ 2 ^ 31)
    (alloc : Nat → Nat) (hA : RangesOk (loadedBufs alloc 0 (bodies (toRefs a)))) (hnz : ∀ i, alloc i ≠ 0) :
    ∃ a', load cfg alloc (save a) = .ok a' ∧ abs a' = abs a :=
  load_save_abs cfg h (length_le_of_mem_bodies_toRefs hs2) alloc hA hnz

/-- **save (load (save r)) = save r**: re-saving the loaded rules writes the same bytes. -/
theorem resave_identical (cfg : LoaderCfg) {a : Arena} (h : WF a) (hs2 : ∀ b ∈ a.bufs, b.data.length ≤ 2 ^ 31)
    (alloc : Nat → Nat) (hA : RangesOk (loadedBufs alloc 0 (bodies (toRefs a)))) (hnz : ∀ i, alloc i ≠ 0) :
    ∃ a', load cfg alloc (save a) = .ok a' ∧ save a' = save a := by
  obtain ⟨a', h1, h2⟩ := load_save cfg h hs2 alloc hA hnz
  exact ⟨a', h1, save_address_free h2⟩

/-- **Any chunking.** A stream obeying the fread contract that delivers its content in chunks of
    arbitrary sizes (`cs`; empty chunks allowed) is, for the loader, indistinguishable from the
    concatenation: same result, same error, for every content (valid image or not). -/
theorem load_chunked (cfg : LoaderCfg) (alloc : Nat → Nat) (cs : List Bytes) :
    loadVia cfg alloc cs = load cfg alloc cs.flatten := by
  rw [load_eq, parseHeader_take]
  unfold loadVia
  have h1 := readChunks_spec headerSize cs
  simp only
  rw [h1.1]
  cases hp : parseHeader (cs.flatten.take headerSize) with
  | error e => rfl
  | ok x =>
    obtain ⟨n, _⟩ := x
    simp only
    have h2 := readChunks_spec (tableEntrySize * n) (readChunks headerSize cs).2
    rw [h1.2] at h2
    rw [h2.1, parseTable_take n (cs.flatten.drop headerSize)]
    cases hq : parseTable n ((cs.flatten.drop headerSize).take (tableEntrySize * n)) with
    | error e => rfl
    | ok y =>
      obtain ⟨sizes, _⟩ := y
      simp only
      rw [offsetsOk_take n _ 0 _ sizes (by rw [parseTable_length hq]; omega)]
      split
      · rfl
      · have hb := bodiesVia_spec alloc sizes 0 (readChunks (tableEntrySize * n) (readChunks headerSize cs).2).2
        rw [h2.2] at hb
        rw [hb]
        cases hv : loadVia.bodiesVia alloc 0 sizes (readChunks (tableEntrySize * n) (readChunks headerSize cs).2).2 with
        | error e => rfl
        | ok z =>
          apply relocsVia_spec
          rw [← List.length_flatten]
          simp only [relocEntrySize]; omega

/-- … in particular a saved image delivered one byte at a time -/
example : loadVia loaderCfg exAlloc ((save exArena).map (fun b => [b])) = load loaderCfg exAlloc (save exArena) := by
  rw [load_chunked, ← List.flatMap_def, List.flatMap_singleton']

/-- **Round trip for every arena reachable through the API.** Start from any arena obeying the protocol, run any
    sequence of client operations inside the protocol (`arun` defined = `OpsOK`; result `x'`, buffers of at most
    2 GiB) under any configuration and any admissible realloc schedule: the arena `a` reached is such that saving
    it fires no assert and leaves it as it was, and loading the image — under every loader configuration and every
    allocator handing out non-null, non-overlapping blocks — succeeds and gives an arena with the same abstract
    content as `a` (which is `x'`: what the address-free machine computed), hence the same bytes when saved again. -/
theorem load_save_run (cfg : Cfg) (bases : List Nat) (ops : List Op) {a₀ a : Arena} (h₀ : WF a₀) (hi : 0 < a₀.init)
    {x' : AArena} {outs outs' : List Out} (hspec : arun (abs a₀) ops = some (x', outs))
    (hs2 : ∀ d ∈ x'.1, d.length ≤ 2 ^ 31) (had : AdmRun cfg bases a₀ ops)
    (hr : runOut cfg bases a₀ ops = .ok (a, outs'))
    (lcfg : LoaderCfg) (alloc : Nat → Nat) (hA : RangesOk (loadedBufs alloc 0 x'.1)) (hnz : ∀ i, alloc i ≠ 0) :
    saveFull a = .ok (save a, a) ∧
      ∃ a', load lcfg alloc (save a) = .ok a' ∧ abs a' = x' ∧ abs a' = abs a ∧ save a' = save a := by
  obtain ⟨_, w, rfl⟩ := runOut_sim_ok cfg ops bases h₀ hi hspec had hr
  obtain ⟨a', h1, h2⟩ := load_save_abs lcfg w hs2 alloc hA hnz
  exact ⟨save_no_assert w, a', h1, h2, h2, save_address_free h2⟩

/-- … in particular for everything built from `yr_arena_create(n, init)`: no well-formedness assumption is left,
    only the protocol on the operation sequence (decidable) and the allocators' contracts. -/
theorem load_save_reachable (n : Nat) (hn : n ≤ maxBuffers) (init : Nat) (hi : 0 < init) (cfg : Cfg) (bases : List Nat)
    (ops : List Op) {a : Arena} {x' : AArena} {outs outs' : List Out} (hspec : arun (aCreate n) ops = some (x', outs))
    (hs2 : ∀ d ∈ x'.1, d.length ≤ 2 ^ 31) (had : AdmRun cfg bases (create n init) ops)
    (hr : runOut cfg bases (create n init) ops = .ok (a, outs'))
    (lcfg : LoaderCfg) (alloc : Nat → Nat) (hA : RangesOk (loadedBufs alloc 0 x'.1)) (hnz : ∀ i, alloc i ≠ 0) :
    saveFull a = .ok (save a, a) ∧
      ∃ a', load lcfg alloc (save a) = .ok a' ∧ abs a' = x' ∧ abs a' = abs a ∧ save a' = save a :=
  load_save_run cfg bases ops (wf_create init hn) hi (by rw [abs_create]; exact hspec) hs2 had hr lcfg alloc hA hnz

/-- the hypotheses are satisfiable: the 17-operation session `exOps` (every kind of operation, growth between
    storing a pointer and reading it back) run with initial size 1 and loaded at 1 MiB-spaced addresses -/
example : ∃ a a' outs, runOut {} exBases₁ (create 2 1) exOps = .ok (a, outs) ∧
    load loaderCfg exAlloc (save a) = .ok a' ∧ abs a' = abs a ∧ a.relocs.length = 5 := by
  obtain ⟨x', _, hspec, hs2, hA⟩ := exOps_arun
  obtain ⟨a, outs, hr, had, hrel, _⟩ := exOps_run₁
  obtain ⟨_, a', h1, _, h3, _⟩ := load_save_reachable 2 (by decide) 1 (by decide) {} exBases₁ exOps hspec hs2 had hr
    loaderCfg exAlloc hA (by intro i; unfold exAlloc; omega)
  exact ⟨a, a', outs, hr, h1, h3, hrel⟩

/-- the hypotheses of the round trip are satisfiable: the example arena, loaded at 1 MiB-spaced addresses -/
example : ∃ a', load loaderCfg exAlloc (save exArena) = .ok a' ∧ abs a' = abs exArena :=
  load_save loaderCfg exArena_wf exArena_small exAlloc exArena_loaded (by intro i; unfold exAlloc; omega)

/-- the hypotheses are satisfiable (three buffers, two registered pointers, one of them non-null) -/
example : afterSave exArena = exArena ∧ saveFull exArena = .ok (save exArena, exArena) :=
  ⟨save_restores exArena_wf, save_no_assert exArena_wf⟩

end YaraModel.Arena
