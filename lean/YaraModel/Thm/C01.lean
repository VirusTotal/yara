/-
  C01 — Text-string matches are exactly the documented occurrences. Property theorems
  (lemmas: Lemmas/Text*.lean, Lemmas/Base64.lean). Specification: Spec/Text.lean. Model of the engine: Model/TextScan.lean.
-/
import YaraModel.Lemmas.TextFinal
import YaraModel.Lemmas.Base64
namespace YaraModel.Text

/-- **Nothing can be missed by the index**: for EVERY string, EVERY legal modifier set and xor range, EVERY
    window the quality heuristic may choose (`ValidWindow w s`), EVERY buffer and offset: if the string occurs
    at `o` in any documented variant, then one of the atoms inserted in the automaton occurs at exactly the
    place (`o + backtrack`) from which the scanner computes the candidate offset `o`. -/
theorem atoms_cover (w : Nat) (m : Mods) (s buf : Bytes) (o : Nat) (hw : ValidWindow w s) (hleg : m.legal = true)
    (v : Nat × UInt8 × Bool) (hv : v ∈ variantsAt m s buf o) :
    ∃ a ∈ atomsOf w m s, atomAt a buf o := by
  obtain ⟨n, k, wide⟩ := v
  obtain ⟨hs, _, hocc⟩ := mem_variantsAt.mp hv
  exact atomAt_of_found hleg hs hw hocc

/-- **The reported list is exactly the documented occurrences** (partial: two hypotheses, see below).
    For EVERY non-empty string, EVERY legal modifier set / xor range, EVERY atom window `w` (every quality
    table), EVERY buffer, and EVERY candidate list `C` — in ANY arrival order, with ANY repetitions — that
    contains exactly the occurrences of the indexed atoms (`CandsOK`, the automaton stage's contract, checked
    on the real tables per case), the modelled engine (verification of each candidate as
    `_yr_scan_verify_literal_match` does it, `fullword` test, ordered de-duplicating insertion) reports
      * exactly the offsets at which the string occurs under the documented semantics (`occurrences`),
        in ascending order, each once,
      * each with an admissible (true) length and xor key.
    Hypotheses `h19`, `h20` exclude precisely the two situations in which the faithful model — like the
    code — deviates from the specification (known findings F19: an occurrence under a key outside the
    declared range exists somewhere; F20: at some offset one encoding passes `fullword` and the other fails).
    FULL statement (without `h19 h20`) is FALSE for the current code; witnesses are in corpus/C01. -/
theorem pipeline_exact_partial (w : Nat) (m : Mods) (s buf : Bytes) (C : List (Nat × Nat))
    (hleg : m.legal = true) (hs : s.isEmpty = false) (hw : ValidWindow w s) (hC : CandsOK w m s buf C)
    (h19 : ∀ o, variantsAt (anyKey m) s buf o = variantsAt m s buf o)
    (h20 : ∀ o, ¬ MixedAt m s buf o) :
    (pipeline m s buf C).map (·.off) = (occurrences m s buf).map (·.1) ∧
    (∀ x ∈ pipeline m s buf C, (x.len, x.key) ∈ admissibleAt m s buf x.off) ∧
    Asc (pipeline m s buf C) := by
  have hs' : s ≠ [] := by rintro rfl; cases hs
  have h19' : ∀ o, ∀ v ∈ variantsAt (anyKey m) s buf o, v ∈ variantsAt m s buf o := fun o _ hv => h19 o ▸ hv
  obtain ⟨hoffs, hasc, hmem⟩ := pipeline_spec hC
  refine ⟨hoffs.trans (acceptedAt_eq_occurrences hleg hs' hw h19' h20), fun x hx => ?_, hasc⟩
  obtain ⟨c, hc, hv⟩ := hmem x hx
  have := verify_admissible hleg hs' hw (hC.exact c hc) (h19' c.1) hv
  rw [this.1]; exact this.2

/-- `h19` holds outright when there is no xor modifier or the range is the full `xor` / `xor(0-255)`. -/
theorem no_out_of_range_key_of_full (m : Mods) (s buf : Bytes) (h : m.xor = none ∨ m.xor = some (0, 255)) :
    ∀ o, variantsAt (anyKey m) s buf o = variantsAt m s buf o := by
  intro o
  have : anyKey m = m := by
    cases m with
    | mk a w n f x =>
      simp only [anyKey]
      rcases h with h | h <;> simp only at h <;> subst h <;> rfl
  rw [this]

/-- `h20` holds outright without `fullword`. -/
theorem no_mixed_of_not_fullword (m : Mods) (s buf : Bytes) (h : m.fullword = false) : ∀ o, ¬ MixedAt m s buf o := by
  intro o hm
  rw [hm.1] at h; cases h

/-- The property for the common case, with no semantic hypothesis left: no `fullword`, and either no xor or
    the full key range. -/
theorem pipeline_exact (w : Nat) (m : Mods) (s buf : Bytes) (C : List (Nat × Nat))
    (hleg : m.legal = true) (hs : s.isEmpty = false) (hw : ValidWindow w s) (hC : CandsOK w m s buf C)
    (hx : m.xor = none ∨ m.xor = some (0, 255)) (hf : m.fullword = false) :
    (pipeline m s buf C).map (·.off) = (occurrences m s buf).map (·.1) ∧
    (∀ x ∈ pipeline m s buf C, (x.len, x.key) ∈ admissibleAt m s buf x.off) ∧
    Asc (pipeline m s buf C) :=
  pipeline_exact_partial w m s buf C hleg hs hw hC (no_out_of_range_key_of_full m s buf hx)
    (no_mixed_of_not_fullword m s buf hf)

/-! Non-vacuity: a concrete non-trivial instance of the hypotheses and of the conclusion. -/
example :
    let m : Mods := { ascii := true, wide := true, nocase := false, fullword := false, xor := some (0, 255) }
    let s : Bytes := [0x61, 0x62, 0x63, 0x64, 0x65]
    let buf : Bytes := [0x60, 0x63, 0x62, 0x65, 0x64, 0x2e, 0x61, 0x00, 0x62, 0x00, 0x63, 0x00, 0x64, 0x00, 0x65, 0x00]
    m.legal = true ∧ (1 + min 4 s.length ≤ s.length) ∧
    occurrences m s buf = [(0, [(5, 1)]), (6, [(10, 0)])] ∧
    (pipeline m s buf [(6, 4 + 2), (0, 4 + 1)]).map (·.off) = [0, 6] := by decide

end YaraModel.Text

namespace YaraModel.B64
open YaraModel.Text

/-- **The three permutations are complete**: whatever precedes and follows the plaintext `s` inside a text that
    is then base64-encoded (any 64-symbol alphabet), the permutation for `|pre| mod 3` occurs in the encoding,
    at character index `4·(|pre| / 3)` plus the number of leading characters that depend on `pre`.
    (For a one-byte string preceded by 3k+1 bytes no character is determined by the string alone — the
    compiler drops that permutation, and so does the hypothesis.) -/
theorem b64_alignment (A pre s post : Bytes) (hs : s ≠ []) (h1 : ¬ (pre.length % 3 = 1 ∧ s.length = 1)) :
    let i := pre.length % 3
    ((encode A (pre ++ s ++ post)).drop (4 * (pre.length / 3) + (if i = 0 then 0 else i + 1))).take
      (permutation A s i).length = permutation A s i := by
  intro i
  -- peel the full triples of `pre`; what is left of it is the `r` of `alignment_rest`
  have hdrop : (encode A (pre ++ s ++ post)).drop (4 * (pre.length / 3)) =
      encode A (pre.drop (3 * (pre.length / 3)) ++ s ++ post) := by
    conv => lhs; rw [← List.take_append_drop (3 * (pre.length / 3)) pre]
    rw [List.append_assoc, List.append_assoc, encode_drop_triples A _ _ _ (by simp; omega)]
    simp [List.append_assoc]
  have hlen : (pre.drop (3 * (pre.length / 3))).length = i := by simp [i]; omega
  rw [← List.drop_drop, hdrop, ← hlen]
  exact alignment_rest A _ s post (by omega) (by rwa [hlen])

/-! Non-vacuity: the manual's example — "This program cannot" inside a longer text, one byte before it. -/
example :
    let s := "This program cannot".toUTF8.toList
    let text := "XThis program cannot be run".toUTF8.toList
    permutation stdAlphabet s 1 = "RoaXMgcHJvZ3JhbSBjYW5ub3".toUTF8.toList ∧
    ((encode stdAlphabet text).drop 2).take 24 = "RoaXMgcHJvZ3JhbSBjYW5ub3".toUTF8.toList := by decide +kernel

end YaraModel.B64
