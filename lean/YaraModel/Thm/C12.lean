/-
  C12 — Shortcuts and compile-time evaluation never change a verdict (constant-folding part).
  `Gen.Fold.foldBin/foldUn` are REGENERATED from the grammar.y actions and `Gen.VmOps.vmBin/vmUn` from the
  exec.c case blocks on every run; these theorems are re-checked against what the code says now.
  All statements are for ALL 64-bit operands (carried as `Int`, `C.UNDEF` = the YR_UNDEFINED sentinel =
  "value not known at compile time").
-/
import YaraModel.Lemmas.FoldVm
namespace YaraModel.FoldVm
open YaraModel.C YaraModel.Gen.Fold YaraModel.Gen.VmOps

/-- **Folding is exact**: when both operands are known at compile time and the grammar action yields a
    value, that value is exactly what the VM opcode emitted for the operator computes at run time
    (including "undefined": e.g. INT64_MIN \ -1 folds to the undefined sentinel, as OP_INT_DIV yields). -/
theorem fold_agrees_known (prim : String → List Int → Int) (op : FBin) (a b v : Int)
    (ha : isUndef a = false) (hb : isUndef b = false)
    (h : foldBin op a b = .val v) : vmBin prim (toVm op) a b = v := by
  cases op <;> dsimp only [foldBin, toVm, vmBin] at h ⊢ <;>
    simp only [ha, hb, Bool.false_or, Bool.not_false, Bool.true_and, Bool.and_self, Bool.false_eq_true, ↓reduceIte, ne_eq,
      Int.reduceEq, not_false_eq_true, decide_true, Bool.decide_eq_true] at h ⊢
  case ADD | SUB | MUL =>
    split at h
    · cases h
    · exact FoldRes.val.inj h
  case DIV | MOD =>
    -- the VM's one test is the action's two tests joined
    cases h0 : b == 0 <;>
      simp only [bne, h0, Bool.not_true, Bool.not_false, Bool.false_eq_true, ↓reduceIte, Bool.false_or] at h ⊢
    · exact FoldRes.val.inj ((apply_ite FoldRes.val ..).trans h)
    · cases h
  case SHL | SHR =>
    -- the action tests `b ≥ 64` where the VM tests `b < 64`
    simp only [decide_eq_true_eq, ← Int.not_le, ite_not, ge_iff_le, ← apply_ite FoldRes.val] at h ⊢
    exact val_of_guarded h
  all_goals exact FoldRes.val.inj h

/-- Same for the unary operators `-` and `~`. -/
theorem foldUn_agrees_known (prim : String → List Int → Int) (op : FUn) (a v : Int)
    (ha : isUndef a = false) (h : foldUn op a = .val v) : vmUn prim (toVmUn op) a = v := by
  have ha' : (a == UNDEF) = false := ha
  cases op <;> dsimp only [foldUn, toVmUn, vmUn] at h ⊢ <;>
    simp only [ha, ha', ne_eq, Int.reduceEq, not_false_eq_true, decide_true, Bool.false_eq_true, decide_false, ↓reduceIte] at h ⊢ <;>
    exact FoldRes.val.inj h

/-- **Unknown operands are never guessed**: if an operand is not known at compile time (a run-time quantity
    such as `filesize` or an external) and the action nevertheless yields a defined value `v` (only `x << n`, `x >> n`
    with known `n ≥ 64` do), then for EVERY run-time instantiation of the unknown operand(s) the VM yields
    `v` or undefined. -/
theorem fold_unknown_sound (prim : String → List Int → Int) (op : FBin) (a b a' b' v : Int)
    (_ha : isUndef a = false → a' = a) (hb : isUndef b = false → b' = b)
    (hu : isUndef a = true ∨ isUndef b = true)
    (h : foldBin op a b = .val v) (hv : isUndef v = false) :
    vmBin prim (toVm op) a' b' = v ∨ vmBin prim (toVm op) a' b' = UNDEF := by
  rcases foldBin_unknown op a b v hu h with rfl | ⟨rfl, hbk, h64, hop⟩
  · rw [isUndef_UNDEF] at hv
    cases hv
  · rw [hb hbk, vmBin_shift_ge prim op hop a' b hbk h64]
    cases isUndef a'
    · exact .inl rfl
    · exact .inr rfl

/-- Compile-time overflow check of `+` rejects exactly the sums that do not fit in 64 bits. -/
theorem add_rejects_iff (a b : Int) (ha : inRange a) (hb : inRange b)
    (hua : isUndef a = false) (hub : isUndef b = false) :
    foldBin .ADD a b = .err "INTEGER_OVERFLOW" ↔ ¬ inRange (a + b) := by
  dsimp only [foldBin]
  simp only [hua, hub, ne_eq, Int.reduceEq, not_false_eq_true, decide_true, Bool.and_self, ↓reduceIte, Bool.not_false,
    Bool.true_and, Bool.false_or, Bool.false_eq_true, err_iff_guard, Bool.or_eq_true, Bool.and_eq_true, decide_eq_true_eq]
  -- in the guard's own case (`b > 0`, `b < 0`) the subtraction `INT64_MAX - b`, `INT64_MIN - b` is exact
  have e1 : b > 0 → C.sub INT64_MAX b = INT64_MAX - b := fun h => sub_exact (by unfold inRange INT64_MIN INT64_MAX at *; omega)
  have e2 : b < 0 → C.sub INT64_MIN b = INT64_MIN - b := fun h => sub_exact (by unfold inRange INT64_MIN INT64_MAX at *; omega)
  rw [or_congr (and_congr_right fun h => by rw [e1 h]) (and_congr_right fun h => by rw [e2 h])]
  unfold inRange INT64_MIN INT64_MAX at *
  omega

/-- …and an accepted sum is the mathematical sum (no wrap-around hidden in a folded constant). -/
theorem add_exact_when_accepted (a b v : Int) (ha : inRange a) (hb : inRange b)
    (hua : isUndef a = false) (hub : isUndef b = false) (h : foldBin .ADD a b = .val v) : v = a + b := by
  have hr : inRange (a + b) := Decidable.byContradiction fun hn => by
    rw [(add_rejects_iff a b ha hb hua hub).mpr hn] at h
    cases h
  dsimp only [foldBin] at h
  simp only [hua, hub, ne_eq, Int.reduceEq, not_false_eq_true, decide_true, Bool.and_self, ↓reduceIte, Bool.false_or,
    Bool.false_eq_true] at h
  split at h
  · cases h
  · rw [← FoldRes.val.inj h, add_exact hr]

/-- Shifts are rejected at compile time exactly for a known negative count. -/
theorem shift_rejects_iff (a b : Int) :
    (foldBin .SHL a b = .err "INVALID_OPERAND" ↔ (isUndef b = false ∧ b < 0)) ∧
    (foldBin .SHR a b = .err "INVALID_OPERAND" ↔ (isUndef b = false ∧ b < 0)) := by
  constructor <;> dsimp only [foldBin] <;>
    simp only [← apply_ite FoldRes.val, err_iff_guard, Bool.and_eq_true, Bool.not_eq_eq_eq_not, Bool.not_true,
      decide_eq_true_eq]

/-- Division / modulo are rejected at compile time exactly for a literal zero divisor. -/
theorem div_rejects_iff (a b : Int) :
    (foldBin .DIV a b = .err "DIVISION_BY_ZERO" ↔ b = 0) ∧
    (foldBin .MOD a b = .err "DIVISION_BY_ZERO" ↔ b = 0) := by
  constructor <;> dsimp only [foldBin] <;>
    simp only [ne_eq, Int.reduceEq, not_false_eq_true, decide_true, Bool.and_self, ↓reduceIte, Bool.decide_eq_true,
      bne_iff_ne, decide_eq_true_eq, ite_not, ← apply_ite FoldRes.val, err_iff_guard]

/-- PARTIAL (documented quirk, proved as a negation witness): the `*` overflow test uses `llabs`, which
    maps INT64_MIN to itself, so `INT64_MIN * 2` is accepted and folded to the wrapped value 0 — the same
    value the VM computes, hence verdicts agree, but the overflow diagnostic is missed. -/
theorem mul_overflow_unnoticed_at_min : foldBin .MUL INT64_MIN 2 = .val 0 := by decide

example : foldBin .SHR 8 1 = .val 4 ∧ vmBin noPrim .OP_SHR 8 1 = 4 := by decide
example : foldBin .DIV INT64_MIN (-1) = .val UNDEF ∧ vmBin noPrim .OP_INT_DIV INT64_MIN (-1) = UNDEF := by decide
example : foldBin .SHL UNDEF 64 = .val 0 := by decide

end YaraModel.FoldVm
