/-
  C16 — Allocation failure anywhere is reported, never suffered.
  Property theorems for the PORTED functions only (Model/AllocM.lean); the property itself is
  decided by the exhaustive fault enumeration of vf/checks/c16.py (claim: fault_enumeration/partial).

  Every positive theorem quantifies over ALL failure oracles `fail : Nat → Bool` (any set of
  failing allocation requests, not just a single one) and all start heaps. Shape:
      outcome = error  →  live_after ⊆ live_before                      (nothing leaks)
      outcome = ok obj →  destroying obj gives live_after ⊆ live_before  (object destroyable)
  Where the faithful port refutes the statement, the negation is proved on a concrete oracle
  (the witness `k` is the finding), the `_partial` theorem carries the extra hypothesis under
  which the code is right, and the `…Fixed` theorem proves the proposed patch for all oracles.
-/
import YaraModel.Lemmas.AllocM
namespace YaraModel.AllocM

variable (fail : Nat → Bool)

/-- `yr_hash_table_add_raw_key`: on failure nothing it allocated stays live; on success exactly
    the returned blocks were added. -/
theorem hashAdd_no_leak (withNs : Bool) (h : Heap) :
    match hashAdd fail withNs h with
    | (none, h') => h'.live ⊆ h.live
    | (some owned, h') => h'.live ⊆ owned ++ h.live :=
  (hashAdd_cover fail withNs (List.Subset.refl h.live)).elim (fun _ c => c) (fun _ _ c => c)

example : (hashAdd (fun k => k == 2) true ⟨0, []⟩).1 = none ∧ (hashAdd (fun k => k == 2) true ⟨0, []⟩).2.live = [] := by decide

/-- `yr_notebook_create` failing leaves nothing behind. -/
theorem notebookCreate_no_leak (h : Heap) :
    match notebookCreate fail h with
    | (none, h') => h'.live ⊆ h.live
    | (some nb, h') => h'.live ⊆ (nb.self :: nb.pages) ++ h.live :=
  (notebookCreate_cover fail (List.Subset.refl h.live)).elim (fun _ c => c) (fun _ _ c => c)

/-- **A notebook stays destroyable whatever fails**: after any sequence of `yr_notebook_alloc`
    calls (with any subset of them failing), `yr_notebook_destroy` releases every page. -/
theorem notebook_destroyable (nb : Notebook) (reqs : List Bool) (base : List Nat) (h : Heap)
    (hc : h.live ⊆ (nb.self :: nb.pages) ++ base) :
    (notebookDestroy (notebookUse fail nb reqs h).1.2 (notebookUse fail nb reqs h).2).2.live ⊆ base := by
  induction reqs generalizing nb h with
  | nil => exact notebookDestroy_cover hc
  | cons r rs ih =>
    cases r <;> simp only [notebookUse, notebookAlloc, Bool.false_eq_true, ↓reduceIte]
    · exact ih nb h hc
    refine alloc_cover fail [nb.self] hc (fun h1 c1 => ?_) (fun p h1 c1 => ?_) <;> simp only
    · exact notebookDestroy_cover c1
    · exact ih _ h1 c1

example : (notebookUse (fun k => k == 1) ⟨100, [101]⟩ [true, true, false] ⟨0, [100, 101]⟩).1.1 = false := by decide

/-- **`yr_scanner_create`**: for every failure oracle and any list of external variables (string externals
    allocate one more block), a
    failed creation leaves nothing allocated, and a successful one returns a scanner that
    `yr_scanner_destroy` releases completely. -/
theorem scannerCreate_no_leak (nExt : List Bool) (h : Heap) :
    match scannerCreate fail nExt h with
    | (none, h') => h'.live ⊆ h.live
    | (some s, h') => h'.live ⊆ s.owned ++ h.live ∧ (scannerDestroy s h').2.live ⊆ h.live :=
  (scannerCreate_cover fail nExt (List.Subset.refl h.live)).elim (fun _ c => c)
    (fun _ _ c => ⟨c, scannerDestroy_cover c⟩)

example : (scannerCreate (fun k => k == 10) [false, true] ⟨0, []⟩).1 = none ∧ (scannerCreate (fun k => k == 10) [false, true] ⟨0, []⟩).2.live = [] ∧
          (scannerCreate (fun _ => false) [true] ⟨0, []⟩).1.isSome := by decide

/-- No block leaks in `yr_rules_define_string_variable`, for any oracle … -/
theorem defineString_no_leak (e : Ext) (h : Heap) :
    (defineString fail e h).2.live ⊆ (match (defineString fail e h).1.2.value with | some b => [b] | none => []) ++ h.live := by
  simp only [defineString]
  have hsub : (if e.type = .mallocString then (freeOpt e.value h).2 else h).live ⊆ h.live := by
    split
    · exact freeOpt_sub _ _
    · exact List.Subset.refl _
  refine alloc_cover fail [] hsub (fun h2 c2 => ?_) (fun b h2 c2 => ?_) <;> simp only
  · exact c2
  · exact c2

/-- … but **the error path leaves the external half-updated**: type MALLOC_STRING with a NULL
    value (the next `yr_scanner_create` does `strlen(NULL)`), and the old value is gone.
    Witness: the single allocation fails. -/
theorem defineString_breaks_invariant :
    ∃ (fail : Nat → Bool) (e : Ext) (h : Heap), e.wellFormed ∧
      (defineString fail e h).1.1 = .insufficientMemory ∧ ¬ (defineString fail e h).1.2.wellFormed :=
  ⟨fun _ => true, ⟨.string, none⟩, ⟨0, []⟩, by decide, by decide, by decide⟩

/-- Under the extra hypothesis that the duplication succeeds the external stays well formed. -/
theorem defineString_wellFormed_partial (e : Ext) (h : Heap) (hok : (defineString fail e h).1.1 = .ok) :
    (defineString fail e h).1.2.wellFormed := by
  rcases defineString_result fail e h with e1 | ⟨b, e1⟩ <;> rw [e1] at hok ⊢
  · cases hok
  · exact fun _ => rfl

/-- The proposed patch (duplicate first, swap on success): for every oracle the external stays
    well formed, an error leaves it untouched and nothing leaks. -/
theorem defineStringFixed_ok (e : Ext) (h : Heap) (hw : e.wellFormed) :
    (defineStringFixed fail e h).1.2.wellFormed ∧
    ((defineStringFixed fail e h).1.1 = .insufficientMemory → (defineStringFixed fail e h).1.2 = e ∧ (defineStringFixed fail e h).2.live = h.live) := by
  unfold defineStringFixed
  rcases ea : alloc fail h with ⟨_ | b, h1⟩
  · exact ⟨hw, fun _ => ⟨rfl, (alloc_none fail ea).1⟩⟩
  · exact ⟨fun _ => rfl, fun hx => nomatch hx⟩

/-- **`yr_rules_load_stream` leaks the arena** when `yr_rules_from_arena` fails.
    Witness: one buffer, the third allocation (the YR_RULES struct) fails: two blocks stay live. -/
theorem loadStream_leaks :
    ∃ (fail : Nat → Bool) (n : Nat) (h : Heap), (loadStream fail n h).1 = none ∧ ¬ (loadStream fail n h).2.live ⊆ h.live :=
  ⟨fun k => k == 2, 1, ⟨0, []⟩, by decide, by decide⟩

/-- The code is right when the arena load itself fails (the only error path that was exercised). -/
theorem loadStream_no_leak_partial (n : Nat) (h : Heap) (hfail : (arenaLoad fail (n + 1) [] h).1 = none) :
    (loadStream fail n h).1 = none ∧ (loadStream fail n h).2.live ⊆ h.live := by
  unfold loadStream
  have hc := arenaLoad_cover fail (n + 1) (acc := []) (List.Subset.refl h.live)
  rcases e : arenaLoad fail (n + 1) [] h with ⟨_ | a, h1⟩ <;> rw [e] at hc hfail
  · exact ⟨rfl, hc⟩
  · cases hfail

/-- The proposed patch releases the arena on that path: no leak for any oracle, and a loaded rule
    set owns exactly what remains allocated. -/
theorem loadStreamFixed_no_leak (n : Nat) (h : Heap) :
    match loadStreamFixed fail n h with
    | (none, h') => h'.live ⊆ h.live
    | (some owned, h') => h'.live ⊆ owned ++ h.live :=
  (loadStreamFixed_cover fail n (List.Subset.refl h.live)).elim (fun _ c => c) (fun _ _ c => c)

/-- **`_yr_ac_create_failure_links` leaks queue nodes** when `_yr_ac_queue_push` fails inside
    the loops. Witness: a root with two children, the second push fails: one node stays live. -/
theorem createFailureLinks_leaks :
    ∃ (fail : Nat → Bool) (fuel : Nat) (root : Trie) (h : Heap),
      (createFailureLinks fail fuel root h).1 = .insufficientMemory ∧ ¬ (createFailureLinks fail fuel root h).2.live ⊆ h.live :=
  ⟨fun k => k == 1, 10, .node [.node [], .node []], ⟨0, []⟩, by decide, by decide⟩

/-- Whatever fails, the live blocks are exactly covered by the abandoned queue — so the leak is
    precisely the nodes still queued (this is what the patch has to free). -/
theorem createFailureLinks_leak_is_queue (fuel : Nat) (root : Trie) (h : Heap) :
    ∃ q : Queue, (createFailureLinks fail fuel root h).2.live ⊆ q.map (·.1) ++ h.live := by
  rw [createFailureLinks_eq]
  exact ⟨_, linksRun_cover fail fuel root (List.Subset.refl h.live)⟩

/-- The code as it is leaks nothing under the extra hypothesis that the function returns with an
    empty queue (which is the case when no push fails and the loop runs to completion).
    Full statement (false, see `createFailureLinks_leaks`): `∀ fail, live_after ⊆ live_before`. -/
theorem createFailureLinks_no_leak_partial (fuel : Nat) (root : Trie) (h : Heap)
    (hp : (pushAll fail root.children [] h).1.1 = .ok)
    (hq : (bfs fail fuel (pushAll fail root.children [] h).1.2 (pushAll fail root.children [] h).2).1.2 = []) :
    (createFailureLinks fail fuel root h).2.live ⊆ h.live := by
  have hc := linksRun_cover fail fuel root (List.Subset.refl h.live)
  rw [createFailureLinks_eq]
  unfold linksRun at hc ⊢
  rcases e : pushAll fail root.children [] h with ⟨⟨_ | _, q⟩, h1⟩ <;> rw [e] at hp hq hc
  · simpa [Covered, nodes, hq] using hc
  · cases hp

example : (createFailureLinks (fun _ => false) 10 (.node [.node [.node []], .node []]) ⟨0, []⟩) = (.ok, ⟨3, []⟩) := by decide

/-- The proposed patch (drain the queue on the error path): nothing leaks for ANY oracle, any
    trie and any start heap, on the error path and on the success path. -/
theorem createFailureLinksFixed_no_leak (fuel : Nat) (root : Trie) (h : Heap) :
    (createFailureLinksFixed fail fuel root h).2.live ⊆ h.live := by
  rw [createFailureLinksFixed_eq]
  exact freeAll_cover [] (linksRun_cover fail fuel root (List.Subset.refl h.live))

/-- **`_yr_ac_build_transition_table` (patched: the queue is cleared when the slot search fails)**: for every
    failure oracle, trie, fuel and start state, whatever the outcome, the only blocks left are the ones the
    automaton owns (freed by `yr_ac_automaton_destroy`) — no queue node survives. -/
theorem buildTable_patched_no_leak (fuel : Nat) (q : Queue) (owned base : List Nat) (h : Heap)
    (hi : h.live ⊆ q.map (·.1) ++ (owned ++ base)) :
    (buildTable fail true fuel q owned h).2.live ⊆ (buildTable fail true fuel q owned h).1.2 ++ base := by
  fun_induction buildTable fail true fuel q owned generalizing h
  case case1 => exact freeAll_cover [] hi
  case case2 => exact hi
  case case3 n b t q owned ih =>
    have c1 : (free b h).2.live ⊆ q.map (·.1) ++ (owned ++ base) := free_cover [] hi
    dsimp only
    refine alloc_cover fail (q.map (·.1)) c1 (fun h2 c2 => ?_) (fun a h2 c2 => ?_) <;> simp only [↓reduceIte]
    · exact freeAll_cover [] c2
    refine (pushAll_cover fail t.children (q := q) (base := a :: owned ++ base) c2).elim fun r h3 c3 => ?_
    rcases r with ⟨_ | _, q'⟩ <;> simp only
    · exact ih a q' h3 c3
    · exact freeAll_cover [] c3

/-- Before the patch a failed slot search abandons the queue. Witness: two states queued, the first slot
    allocation fails: the second queue node stays allocated. -/
theorem buildTable_as_is_leaks :
    ∃ (fail : Nat → Bool) (q : Queue) (h : Heap), (buildTable fail false 5 q [] h).1.1 = .insufficientMemory ∧
      ¬ (buildTable fail false 5 q [] h).2.live ⊆ (buildTable fail false 5 q [] h).1.2 :=
  ⟨fun _ => true, [(100, .node []), (101, .node [])], ⟨0, [100, 101]⟩, by decide, by decide⟩

example : (createFailureLinksFixed (fun k => k == 1) 10 (.node [.node [], .node []]) ⟨0, []⟩) = (.insufficientMemory, ⟨2, []⟩) := by decide

/-- **The first failing verification is what the block scan returns**: with `GOTO_EXIT_ON_ERROR` around every
    `yr_scan_verify_match` the loop over a state's match list succeeds iff every verification succeeded — an
    allocation failure in an earlier entry can not be overwritten by a later success. -/
theorem verify_loop_reports_errors (rs : List Res) :
    verifyLoop true .ok rs = .ok ↔ ∀ r ∈ rs, r = .ok := by
  rw [verifyLoop_stop]
  cases e : rs.find? (· ≠ .ok) with
  | none => simpa using e
  | some r =>
    have hr : r ≠ .ok := by simpa using List.find?_some e
    exact ⟨fun h => absurd h hr, fun h => absurd (h r (List.mem_of_find?_eq_some e)) hr⟩

/-- … whereas keeping only the last result (tested once after the loop) swallows an earlier failure.
    Witness: the first of two verifications runs out of memory. -/
theorem verify_loop_last_result_swallows :
    ∃ rs : List Res, (∃ r ∈ rs, r ≠ .ok) ∧ verifyLoop false .ok rs = .ok :=
  ⟨[.insufficientMemory, .ok], by decide, by decide⟩

/-- **yr_re_fast_exec keeps every position reachable**: with the tail pointer maintained inside the insertion
    loop, for every failure oracle, every number of insertions, every pool content and every list whose `last`
    designates its final node, a failed `_yr_re_fast_exec_position_create` hands the WHOLE list back to the pool
    (no node is cut off), and on success `last` still designates the final node. -/
theorem insertLoop_no_orphans (k ip : Nat) (st : FastExec) (h : Heap)
    (hl : st.lastIdx + 1 = st.list.length) (hip : ip ≤ st.lastIdx) :
    (insertLoop fail true k ip st h).1.2.2 = [] ∧
    ((insertLoop fail true k ip st h).1.1 = .ok →
      (insertLoop fail true k ip st h).1.2.1.lastIdx + 1 = (insertLoop fail true k ip st h).1.2.1.list.length) := by
  induction k generalizing ip st h with
  | zero => exact ⟨rfl, fun _ => hl⟩
  | succ k ih =>
    simp only [insertLoop]
    have hs := positionCreate_shape fail st h
    rcases e : positionCreate fail st h with ⟨⟨_ | b, st1⟩, h1⟩ <;> rw [e] at hs <;> simp only at hs ⊢
    · -- `last` is the final node, so the cleanup splices the whole list into the pool
      exact ⟨List.drop_eq_nil_of_le (by rw [hs.1, hs.2]; omega), fun hx => nomatch hx⟩
    · -- the new node goes in at or before `last`, which therefore moves up by one, as does the length
      have hlast : (if ip < st1.lastIdx then st1.lastIdx + 1 else ip + 1) = st.lastIdx + 1 := by
        rw [hs.2]; split <;> omega
      simp only [↓reduceIte, hlast]
      apply ih
      · rw [length_insert, hs.1, hl]
      · exact Nat.succ_le_succ hip

/-- With the tail pointer repaired only after the loop a failure in the middle cuts nodes off the list: they are in
    neither the list nor the pool (never freed). Witness: one node in the list, the second creation fails. -/
theorem insertLoop_stale_tail_orphans :
    ∃ (fail : Nat → Bool) (k ip : Nat) (st : FastExec) (h : Heap), st.lastIdx + 1 = st.list.length ∧
      (insertLoop fail false k ip st h).1.1 = .insufficientMemory ∧ (insertLoop fail false k ip st h).1.2.2 ≠ [] :=
  ⟨fun i => i == 1, 3, 0, ⟨[], [100], 0⟩, ⟨0, [100]⟩, by decide, by decide, by decide⟩

example : (insertLoop (fun i => i == 1) true 3 0 ⟨[], [100], 0⟩ ⟨0, [100]⟩).1 = (.insufficientMemory, ⟨[100, 0], [], 0⟩, []) := by decide

/-- The source has the structure both theorems are about: every `yr_scan_verify_match` call of
    `_yr_scanner_scan_mem_block` sits in GOTO_EXIT_ON_ERROR/FAIL_ON_ERROR, and `yr_re_fast_exec` updates `last`
    inside the insertion loop (facts regenerated by translators/oomsites.py). -/
theorem gen_oom_sites :
    Gen.OomSites.verifyStopsAtFirstError = true ∧ Gen.OomSites.fastExecTailInLoop = true ∧ Gen.OomSites.unparsedItems = [] := by decide


end YaraModel.AllocM
