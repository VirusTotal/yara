/-
  C18 — Command-line results are independent of thread count and rule form.
  The property theorems (helpers: Lemmas/Queue*.lean, Lemmas/CliOutput.lean).

  Part 1 (D11): the work queue of cli/yara.c.  Every theorem quantifies over EVERY interleaving
  (`Reachable` = any sequence of atomic actions of the producer and the n consumers), every input
  list, every thread count `1 ≤ n ≤ threadLimit`, and every configuration `c` satisfying `Cfg.WF`
  (any capacity ≥ 1, any number of finish posts ≥ the thread limit).  `cli_cfg_wf` instantiates them
  with the constants the translator reads from cli/yara.c on every run.
-/
import YaraModel.Lemmas.QueueProgress
import YaraModel.Lemmas.CliOutput
import YaraModel.Gen.Cli
namespace YaraModel.Queue
variable {α : Type}

/-- The constants found in the sources form a well-formed protocol configuration
    (moduli = array length, capacity < array length, as many finish posts as admissible threads). -/
theorem cli_cfg_wf : YaraModel.Gen.Cli.cfg.WF := by decide

/-- **No loss, no duplication.**  In every reachable state the paths scanned so far, together with
    the paths in flight (dequeued, not yet scanned) and the paths still in the ring, are exactly
    (as a multiset) the paths enqueued so far, which are a prefix of the walker's input;
    so `delivered ⊆ put ⊆ input` as multisets.  At termination `delivered` is a permutation of
    the whole input: every file is scanned exactly once. -/
theorem queue_no_loss_no_dup {c : Cfg} {n : Nat} {input : List α} {s : State α} (hc : c.WF) (hn : 1 ≤ n)
    (hr : Reachable c n input s) :
    (s.delivered ++ (s.cs.filterMap held ++ s.q)).Perm s.put ∧ s.put <+: input ∧
    (Final s → s.delivered.Perm input) := by
  have h := inv_reachable hc hr
  have h1 : (s.delivered ++ (s.cs.filterMap held ++ s.q)).Perm s.put := by
    rw [h.putEq, ← List.append_assoc]
    exact List.Perm.append_right _ h.takenPerm.symm
  refine ⟨h1, ⟨cur s.ppc ++ s.todo, by rw [← List.append_assoc]; exact h.inputEq⟩, fun hf => ?_⟩
  -- in a final state nothing is held, queued or left to walk, and the first claim reads `delivered ~ input`
  have h0 : 0 < s.cs.length := by rw [h.len]; omega
  have hex : s.cs[0] = CPc.exited := hf.2 _ (List.getElem_mem h0)
  have hq := (h.seenEmpty 0 _ (List.getElem?_eq_getElem h0) (by rw [hex]; rfl)).1
  have hheld : s.cs.filterMap held = [] := List.filterMap_eq_nil_iff.2 fun x hx => by rw [hf.2 x hx]; rfl
  have hput := h.inputEq
  rw [hf.1, h.finTodo (by rw [hf.1]; rfl)] at hput
  rwa [hheld, hq, show s.put = input by simpa [cur] using hput, List.append_nil, List.append_nil] at h1

example : ∃ s : State Nat, Reachable YaraModel.Gen.Cli.cfg 2 [7, 8, 9] s ∧ s.delivered = [7] :=
  ⟨_, .step (.step (.step (.step (.step (.step (.step (.step (.step (.step (.step (.step (.step (.step .init
      ⟨.pWait, rfl⟩) ⟨.pLock, rfl⟩) ⟨.pWrite, rfl⟩) ⟨.pAdvTail, rfl⟩) ⟨.pUnlock, rfl⟩) ⟨.pPost, rfl⟩)
      ⟨.cWait 1, rfl⟩) ⟨.cLock 1, rfl⟩) ⟨.cTest 1, rfl⟩) ⟨.cRead 1, rfl⟩) ⟨.cAdvHead 1, rfl⟩) ⟨.cUnlock 1, rfl⟩)
      ⟨.cPost 1, rfl⟩) ⟨.cReturn 1, rfl⟩, rfl⟩

/-- **Bounds.**  `queue_head`, `queue_tail` stay inside `file_queue[]`, and the number of queued
    elements as the C code sees it, `(tail - head) mod slots`, is the length of the abstract FIFO and
    never exceeds `MAX_QUEUED_FILES` (even counting a slot the producer has reserved). -/
theorem queue_bounds {c : Cfg} {n : Nat} {input : List α} {s : State α} (hc : c.WF)
    (hr : Reachable c n input s) :
    s.head < c.slots ∧ s.tail < c.slots ∧ size c s = s.q.length ∧ size c s + pHold s.ppc ≤ c.unusedInit := by
  have h := inv_reachable hc hr
  have hsz : size c s = s.q.length := by
    unfold size
    rw [h.tail_eq]
    exact mod_add_sub_self h.head_lt (q_lt_slots hc h)
  exact ⟨h.head_lt, h.tail_eq ▸ Nat.mod_lt _ (Nat.zero_lt_of_lt h.head_lt), hsz, hsz ▸ h.qlen⟩

/-- **The ring holds the FIFO.**  Slot `(head + k) mod slots` holds the `k`-th queued path: no live
    slot is ever overwritten, and paths are dequeued in the order they were enqueued. -/
theorem ring_is_fifo {c : Cfg} {n : Nat} {input : List α} {s : State α} (hc : c.WF)
    (hr : Reachable c n input s) (k : Nat) (hk : k < s.q.length) :
    s.ring ((s.head + k) % c.slots) = some s.q[k] ∧ s.put = s.taken ++ s.q :=
  ⟨(inv_reachable hc hr).ringq k hk, (inv_reachable hc hr).putEq⟩

/-- **Semaphore / size invariant.**
    `used_slots + (consumers holding a token) + (producer element not yet posted) = size + finish posts done`,
    `unused_slots + size + (slot reserved by the producer) + (dequeued, not yet posted) = MAX_QUEUED_FILES + (posts after an empty wake-up)`. -/
theorem semaphore_invariant {c : Cfg} {n : Nat} {input : List α} {s : State α} (hc : c.WF)
    (hr : Reachable c n input s) :
    s.used + wsum au s.cs + pPend s.ppc = s.q.length + posted c s.ppc ∧
    s.unused + s.q.length + pHold s.ppc + wsum owes s.cs = c.unusedInit + wsum ex s.cs :=
  ⟨(inv_reachable hc hr).usedEq, (inv_reachable hc hr).unusedEq⟩

/-- **Mutual exclusion** on `queue_mutex`: the producer and a consumer, or two different consumers,
    are never inside the critical section together. -/
theorem mutex_exclusive {c : Cfg} {n : Nat} {input : List α} {s : State α} (hc : c.WF)
    (hr : Reachable c n input s) (i j : Nat) (pi pj : CPc α) (hi : s.cs[i]? = some pi) (hj : s.cs[j]? = some pj)
    (ci : cCrit pi = true) :
    pCrit s.ppc = false ∧ (cCrit pj = true → i = j) := by
  have h := inv_reachable hc hr
  have hl := (h.lockC i pi hi).1 ci
  constructor
  · cases hp : pCrit s.ppc with
    | false => rfl
    | true => have := h.lockP.1 hp; rw [hl] at this; cases this
  · intro cj
    have := (h.lockC j pj hj).1 cj
    rw [hl] at this
    simpa using this

/-- **An empty wake-up happens only after `file_queue_finish` started, on an empty queue**: a consumer
    leaves its loop only when nothing is left to scan. -/
theorem empty_wakeup_only_at_end {c : Cfg} {n : Nat} {input : List α} {s : State α} (hc : c.WF)
    (hr : Reachable c n input s) (i : Nat) (pc : CPc α) (hi : s.cs[i]? = some pc) (hz : isZ pc = true) :
    s.q = [] ∧ s.todo = [] ∧ pFin s.ppc = true := by
  have h := inv_reachable hc hr
  have := h.seenEmpty i pc hi hz
  exact ⟨this.1, h.finTodo this.2, this.2⟩

/-- **Deadlock freedom.**  In every reachable state that is not final (producer returned from
    `file_queue_finish`, every scanning thread left its loop) some thread can take a step. -/
theorem no_stuck {c : Cfg} {n : Nat} {input : List α} {s : State α} (hc : c.WF) (hn : 1 ≤ n) (hnl : n ≤ c.threadLimit)
    (hr : Reachable c n input s) (hf : ¬ Final s) : Enabled c s :=
  enabled_of_inv hc hn hnl (inv_reachable hc hr) hf

example : ¬ Final (init YaraModel.Gen.Cli.cfg 3 [1, 2]) := by simp [Final, init]

/-- **Every step decreases the measure** `mu` (remaining producer steps + 10·paths not yet dequeued +
    consumer ranks): there is no livelock, with or without fairness. -/
theorem step_decreases_measure {c : Cfg} {n : Nat} {input : List α} {s s' : State α} (hc : c.WF)
    (hr : Reachable c n input s) (hs : Step c s s') : mu c s' < mu c s := by
  obtain ⟨a, ha⟩ := hs
  exact mu_decreases (inv_reachable hc hr) (step_eq_some.1 ha)

/-- A run of `k` steps from a reachable state has `k ≤ mu`; in particular from the initial state
    at most `mu (init …)` atomic actions happen in any schedule. -/
theorem run_length_bounded {c : Cfg} {n : Nat} {input : List α} {k : Nat} {s s' : State α} (hc : c.WF)
    (hr : Reachable c n input s) (hs : StepsN c k s s') : k + mu c s' ≤ mu c s := by
  induction hs with
  | refl => omega
  | cons h1 _ ih =>
    have := step_decreases_measure hc hr h1
    have := ih (Reachable.step hr h1)
    omega

/-- **No infinite run** exists (so under any scheduler that keeps running enabled threads — weak
    fairness is more than enough — the system stops, and by `no_stuck` it stops in a final state). -/
theorem no_infinite_run {c : Cfg} {n : Nat} {input : List α} (hc : c.WF) (f : Nat → State α)
    (h0 : Reachable c n input (f 0)) (hstep : ∀ k, Step c (f k) (f (k + 1))) : False := by
  have := run_length_bounded hc h0 (stepsN_of_seq hstep 0 (mu c (f 0) + 1))
  omega

/-- **Termination.**  From every reachable state the run can be completed, and every maximal run
    (one that cannot be extended) ends in a final state after at most `mu` steps. -/
theorem terminates {c : Cfg} {n : Nat} {input : List α} {s : State α} (hc : c.WF) (hn : 1 ≤ n) (hnl : n ≤ c.threadLimit)
    (hr : Reachable c n input s) :
    (∃ k s', StepsN c k s s' ∧ Final s') ∧
    (∀ k s', StepsN c k s s' → ¬ Enabled c s' → Final s' ∧ k ≤ mu c s) := by
  refine ⟨reaches_final hc hn hnl hr, ?_⟩
  intro k s' hs hne
  have hr' := reachable_stepsN hr hs
  have hb := run_length_bounded hc hr hs
  refine ⟨?_, by omega⟩
  apply Classical.byContradiction
  intro hf
  exact hne (no_stuck hc hn hnl hr' hf)

/-- the hypotheses of `terminates` / the `Final` clause of `queue_no_loss_no_dup` are satisfiable: a complete run
    (put, get, 32 finish posts, empty wake-up, exit) for the generated constants ends final with the path delivered -/
example : ∃ s : State Nat, Reachable YaraModel.Gen.Cli.cfg 1 [5] s ∧ Final s ∧ s.delivered = [5] := by
  have key : (runActs YaraModel.Gen.Cli.cfg (init YaraModel.Gen.Cli.cfg 1 [5]) (demoSched YaraModel.Gen.Cli.cfg)).map
      (fun s => (s.ppc, s.cs, s.delivered)) = some (.done, [.exited], [5]) := by decide
  cases h : runActs YaraModel.Gen.Cli.cfg (init YaraModel.Gen.Cli.cfg 1 [5]) (demoSched YaraModel.Gen.Cli.cfg) with
  | none => rw [h] at key; cases key
  | some s =>
    rw [h] at key
    simp only [Option.map_some, Option.some.injEq, Prod.mk.injEq] at key
    obtain ⟨h1, h2, h3⟩ := key
    exact ⟨s, runActs_reachable _ .init h, ⟨h1, by rw [h2]; simp⟩, h3⟩

/-- The theorems above, for the constants of the code as it is (any `1 ≤ n ≤ YR_MAX_THREADS`). -/
theorem cli_queue_correct {n : Nat} {input : List α} {s : State α} (hn : 1 ≤ n) (hnl : n ≤ YaraModel.Gen.Cli.cfg.threadLimit)
    (hr : Reachable YaraModel.Gen.Cli.cfg n input s) :
    (Final s → s.delivered.Perm input) ∧ (¬ Final s → Enabled YaraModel.Gen.Cli.cfg s) ∧
    size YaraModel.Gen.Cli.cfg s ≤ YaraModel.Gen.Cli.cfg.unusedInit :=
  ⟨(queue_no_loss_no_dup cli_cfg_wf hn hr).2.2, no_stuck cli_cfg_wf hn hnl hr,
   by have := (queue_bounds cli_cfg_wf hr).2.2.2; omega⟩

end YaraModel.Queue

/-!
  Part 2: the output mutex.  Model/CliOutput.lean: every thread prints a sequence of blocks
  (lock output_mutex; one printf per chunk; unlock) and possibly chunks outside the mutex.
-/
namespace YaraModel.CliOut
variable {χ : Type}

/-- **Output printed under `output_mutex` is contiguous.**  If every print of every thread happens inside a
    lock/unlock block, then in every reachable state (any interleaving, any number of threads, any programs)
    the chunks of each block `k` of each thread `i` are adjacent in the output stream, in program order:
    the lines of one file's match output are never interleaved with another thread's output. -/
theorem output_atomic {progs : List (List (Item χ))} {s : St χ} (hn : NoLoose progs) (hr : Reachable progs s)
    (i k : Nat) : Contig i k s.out :=
  (inv_reachable hn hr).C i k

/-- …and the mutex is held exactly by the thread that is inside a block. -/
theorem output_mutex_exclusive {progs : List (List (Item χ))} {s : St χ} (hn : NoLoose progs) (hr : Reachable progs s)
    (i j : Nat) (ti tj : Th χ) (hi : s.ths[i]? = some ti) (hj : s.ths[j]? = some tj)
    (ii : ti.inside.isSome = true) (ij : tj.inside.isSome = true) : i = j := by
  have h := inv_reachable hn hr
  have a := (h.L i ti hi).1 ii
  have b := (h.L j tj hj).1 ij
  rw [a] at b; simpa using b

example : NoLoose [[Item.block ["r ", "f1\n", "0x0:$a\n"]], [Item.block ["r ", "f2\n"], Item.block ["q ", "f2\n"]]] := by
  intro p hp it hit
  simp at hp
  rcases hp with rfl | rfl <;> simp at hit
  · exact ⟨_, hit⟩
  · rcases hit with rfl | rfl <;> exact ⟨_, rfl⟩

/-- **A print outside the mutex can tear a block** (the `console.log` callback of cli/yara.c prints without
    taking `output_mutex`): with thread 0 printing one block of two chunks and thread 1 printing one chunk
    outside the mutex there is a reachable state whose output has the loose chunk between the two chunks
    of the block.  This is finding F24. -/
theorem unlocked_print_can_tear (a1 a2 b : χ) :
    ∃ s : St χ, Reachable [[Item.block [a1, a2]], [Item.loose b]] s ∧ ¬ Contig 0 0 s.out := by
  refine ⟨_, .step (.print 0) (.step (.loose 1) (.step (.print 0) (.step (.lock 0) .init rfl) rfl) rfl) rfl, ?_⟩
  -- the stream is [a1, b, a2], and the loose chunk `b` lies between the two chunks of the block
  intro h
  cases (contig_between h (Nat.zero_le 1) (Nat.le_succ 1) rfl rfl rfl ⟨rfl, rfl⟩ ⟨rfl, rfl⟩).2

end YaraModel.CliOut
