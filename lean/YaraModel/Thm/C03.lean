/-
  C03 — regular-expression strings and `matches` agree with regex semantics.  Property theorems only.
-/
import YaraModel.Lemmas.ReAlgebra
import YaraModel.Lemmas.ReVm
import YaraModel.Lemmas.ReEmit
import YaraModel.Lemmas.ReAtomPos
import YaraModel.Lemmas.ReComplete
import YaraModel.Lemmas.ReCompleteSF
namespace YaraModel.C03
open YaraModel.Re

/-- The specification is self-consistent: the set-of-end-positions semantics `Re.ends` (what the compiled driver
    evaluates in the correspondence runs) coincides with the independent relational semantics `Re.Matches`, for every
    node kind of RE_NODE_* (incl. the closures of `*` `+` `{n,m}`), every flag combination (wide, nocase, dot-all),
    every buffer and every pair of positions. -/
theorem ends_iff_Matches (fl : Flags) (buf : Bytes) (r : Re) (p q : Nat) :
    q ∈ r.ends fl buf p ↔ Re.Matches fl buf r p q :=
  Re.ends_iff_Matches fl buf r p q

/-- non-trivial instance: `a*x` from offset 2 of `xxaaaxx` ends exactly at 6 -/
example : (Re.cat (.star (.lit 97) true) (.lit 120)).ends {} "xxaaaxx".toUTF8.data 2 = [6] := by decide +kernel

/-- The driver's fast set evaluator answers exactly the specification at every offset inside the buffer. -/
theorem driver_evaluates_spec (fl : Flags) (buf : Bytes) (r : Re) (o : Nat) (ho : o ≤ buf.size) (q : Nat) :
    q ∈ r.endsSet fl buf [o] ↔ Re.Matches fl buf r o q :=
  endsSet_iff_Matches fl buf r o ho q

/-- `range_table`: the code shape `_yr_re_emit` produces for `e{n,m}` — prolog `e` when n > 0, a repeat_start/repeat_end
    loop with the adjusted bounds (`repMin`, `repMax`) when `m > n+1 ∨ m > 2`, `split; e` (an optional `e`) when m > n or
    a plain epilog `e` when `m > 1` — denotes exactly `e{n,m}`, for ALL n ≤ m, all bodies, buffers and positions. -/
theorem range_table (fl : Flags) (buf : Bytes) (e : Re) (n m : Nat) (g : Bool) (hnm : n ≤ m) (p q : Nat) :
    Re.Matches fl buf (rangeShape e n m g) p q ↔ Re.Matches fl buf (.range e n m g) p q :=
  rangeShape_iff e n m g hnm p q

/-- instances of the table rows: 0,1 / 1,3 / 2,2 / 3,3 / 4,M -/
example : rangeShape (.lit 97) 0 1 true = .cat .empty (.cat .empty (.range (.lit 97) 0 1 true)) := by decide
example : rangeShape (.lit 97) 1 3 true = .cat (.lit 97) (.cat (.range (.lit 97) 0 1 true) (.range (.lit 97) 0 1 true)) := by decide
example : rangeShape (.lit 97) 2 2 true = .cat (.lit 97) (.cat .empty (.lit 97)) := by decide
example : rangeShape (.lit 97) 3 3 true = .cat (.lit 97) (.cat (.range (.lit 97) 1 1 true) (.lit 97)) := by decide
example : rangeShape (.lit 97) 4 9 true = .cat (.lit 97) (.cat (.range (.lit 97) 3 7 true) (.range (.lit 97) 0 1 true)) := by decide

/-- counted repeats concatenate: `e{a,b} e{c,d}` = `e{a+c,b+d}` (the arithmetic behind the table) -/
theorem range_concat (fl : Flags) (buf : Bytes) (e : Re) (a b c d : Nat) (g : Bool) (hab : a ≤ b) (hcd : c ≤ d) (p q : Nat) :
    Re.Matches fl buf (.cat (.range e a b g) (.range e c d g)) p q ↔ Re.Matches fl buf (.range e (a + c) (b + d) g) p q := by
  simp only [cat_iff, range_iff_cnt]
  exact cnt_cat e a b c d p q hab hcd

/-- `decompose`: with one atom chosen on every way through the expression (both branches of an alternation, one side
    of a concatenation, the body of a `+`), a match of the whole expression exists exactly when it is found around one
    of the atoms (before-part, atom, after-part) — the scheme "forward from the atom, exhaustively backward from the
    atom" loses and invents nothing, with atoms inside groups, alternation branches and repeats. -/
theorem decompose (fl : Flags) (buf : Bytes) (r : Re) (atoms : List (Ctx × Re)) (hc : Cover r atoms) (p q : Nat) :
    Re.Matches fl buf r p q ↔ ∃ c a, (c, a) ∈ atoms ∧ c.Through fl buf a p q :=
  decompose_iff fl buf r atoms hc p q

/-- instance: `(ab)+c` with the atom `ab` inside the `+` body -/
example : Cover (.cat (.plus (.cat (.lit 97) (.lit 98)) true) (.lit 99))
    [(.catL (.plusIn .hole true) (.lit 99), .cat (.lit 97) (.lit 98))] :=
  .catL (.plus (.leaf _))


open YaraModel.ReVm in
/-- `vm_reports_reachable`: whatever the model of `yr_re_exec` reports — the lengths handed to the callback in exhaustive
    mode, the value left in `*matches`, also in the scan mode of the `matches` operator — is the number of matched bytes of
    a fiber that (a) is reachable in the abstract machine by ε-steps (every branch `_yr_re_fiber_sync` can take),
    zero-width steps and consuming steps and (b) stands at RE_OPCODE_MATCH.  Holds for ANY bytecode, flags and input: the
    fiber list, its de-duplication, the executed-split set and KILL_TAIL only ever REMOVE behaviours.  (First half of VM
    soundness; the second half — reachable-at-MATCH implies a match of the expression — is `vm_sound` below.) -/
theorem vm_reports_reachable (e : Env) (m : Int) (c : List Nat) (h : exec e = .done m c) :
    (∀ L, L ∈ c → ∃ f md, Reach e f md L ∧ u8 e.code f.ip = OP_MATCH) ∧
    (0 ≤ m → ∃ f md, Reach e f md m.toNat ∧ u8 e.code f.ip = OP_MATCH) :=
  exec_sound e m c h

open YaraModel.ReVm in
/-- `vm_reports_accepting`: the converse half at the level of the executable model, for ANY bytecode, flags (byte or wide,
    forwards or backwards) and input — in EXHAUSTIVE mode (not scan mode) a run of the model of `yr_re_exec` that returns
    without an error (`exec e = .done m c`: fiber limit and fuel bounds not hit) reports the length of every ACCEPTING PATH
    from the entry: `AccU e n f 0` = whatever list a top-level `_yr_re_fiber_sync` call on `f` returns, it contains a
    stopped fiber that (n = 0) stands at RE_OPCODE_MATCH or (n + 1) stands at a consuming instruction that accepts the
    current character and whose successor again has such a path after every top-level sync (`AccN`, Lemmas/ReComplete.lean).
    The de-duplication only drops EQUAL fibers, the pass keeps the successors of every accepted fiber and the callback is
    called for every fiber at MATCH, so nothing on the path is lost.  (First half of VM completeness; the second half —
    every match of the expression yields an accepting path through the emitted code — is proved for hex patterns,
    Thm/C02 `vm_complete_hex`, and for star-free regular expressions, `vm_complete_starfree_partial` below; for
    regular expressions with ε-loops and counted repeats it is open.) -/
theorem vm_reports_accepting (e : Env) (hx : e.fl.exhaustive = true) (hs : e.fl.scan = false) (m : Int) (c : List Nat)
    (h : exec e = .done m c) (n : Nat) (hacc : AccU e n { ip := e.entry } 0) : n * e.cs ∈ c :=
  (exec_reports e hs m c h n hacc).2 hx

open YaraModel.ReVm YaraModel.ReEmit in
/-- `vm_complete_starfree_partial`: VM COMPLETENESS (the converse of `vm_sound`) for the STAR-FREE fragment of regular
    expressions, forward code, byte mode.  `starFree r` is a DECIDABLE predicate (Lemmas/ReCompleteSF.lean): `r` is built from
    the consuming one-character nodes (literal — case-insensitive or not —, masked / negated literal, `.`, classes,
    \w \W \s \S \d \D), the empty expression, `.{n,m}` (RE_NODE_RANGE_ANY, greedy or lazy, n ≤ m < 65536), concatenation and
    alternation whose FIRST branch cannot be left without consuming a character (`sfHd`: it begins with a character node or
    with `.{n,m}`, m ≥ 1 — recursively through nested alternatives).
    EXCLUDED shapes, precisely: `*`, `+` and counted repeats `e{n,m}` of a sub-expression (ε-loops, the repeat stack); the
    zero-width nodes `^ $ \b \B`; alternatives with a first branch that can be passed without consuming (`(|a)`, `(.{0,0}|a)`:
    there the executed-split set may kill the second branch at a split the first one already executed; `(a|)` IS covered).
    For ALL such expressions, buffers, start positions, nocase / dot-all flags and every match [start, start + L) with
    L ≤ 1024 (the scan window): the exhaustive run of the executable model of `yr_re_exec` on `emitCode false r` that returns
    without an error (`exec .. = .done m c`: fiber limit and fuel bounds not hit) reports L.  At most 256 alternatives
    (yara: RE_MAX_SPLIT_ID = 128), code below 32000 bytes, not scan mode.
    Proof: `vm_reports_accepting` + the path construction `acc_sf` by induction on the expression along the match
    (Thm/C02 `vm_complete_hex` is its instance for hex patterns).
    `_partial`: the full statement is for every well-formed `Re` outside the known-finding shapes; open are the excluded
    shapes above, wide mode and the non-exhaustive result (backward code: `vm_complete_starfree_backward_partial`). -/
theorem vm_complete_starfree_partial (r : Re) (hr : starFree r = true) (hsz : (emit false r 0).1.length < 32000)
    (hid : (emit false r 0).2 ≤ 256) (buf : Bytes) (start : Nat) (hst : start ≤ buf.size)
    (fl : VmFlags) (hw : fl.wide = false) (hb : fl.backwards = false) (hsc : fl.scan = false) (hx : fl.exhaustive = true)
    (fuel : Nat) (m : Int) (c : List Nat)
    (h : exec { code := (emitCode false r).toArray, entry := 0, buf := buf, start := start, fl := fl, syncFuel := fuel } = .done m c)
    (L : Nat) (hL : L ≤ 1024) (hm : Re.Matches (specFlags fl) buf r start (start + L)) : L ∈ c :=
  vm_complete_sf r (starFree_sound hr) hsz hid buf start hst fl hw hb hsc hx fuel m c h L hL hm

open YaraModel.ReVm YaraModel.ReEmit in
/-- `vm_complete_starfree_backward_partial`: the mirrored statement for the BACKWARD code (EMIT_BACKWARDS = the forward code of
    the mirrored expression `rev r`, run with RE_FLAGS_BACKWARDS): every match [start - L, start) with L ≤ 1024 has its
    length reported by the exhaustive run that returns without error.  `starFree (rev r)`: the first branch of every
    alternative cannot be passed BACKWARDS without consuming a character (it ends with a character node). -/
theorem vm_complete_starfree_backward_partial (r : Re) (hr : starFree (rev r) = true) (hsz : (emit true r 0).1.length < 32000)
    (hid : (emit true r 0).2 ≤ 256) (buf : Bytes) (start : Nat) (hst : start ≤ buf.size)
    (fl : VmFlags) (hw : fl.wide = false) (hb : fl.backwards = true) (hsc : fl.scan = false) (hx : fl.exhaustive = true)
    (fuel : Nat) (m : Int) (c : List Nat)
    (h : exec { code := (emitCode true r).toArray, entry := 0, buf := buf, start := start, fl := fl, syncFuel := fuel } = .done m c)
    (L : Nat) (hL : L ≤ 1024) (hLs : L ≤ start) (hm : Re.Matches (specFlags fl) buf r (start - L) start) : L ∈ c :=
  vm_complete_sf_bwd r (starFree_sound hr) hsz hid buf start fl hw hb hsc hx fuel m c h L hL hLs hm

open YaraModel.ReVm YaraModel.ReEmit in
/-- the hypotheses are satisfiable together, non-trivially: `a(b|c\d|).{0,2}\w` (greedy) on `ac1xyz` — the expression is
    star-free, the run returns `.done 6 [2, 3, 4, 5, 6]`, the expression matches [0, 4) (through `c\d`, no skipped byte)
    and the theorem yields 4 ∈ [2, 3, 4, 5, 6]; `(|a)b` and `a*` are outside the fragment -/
example : 4 ∈ [2, 3, 4, 5, 6] ∧ starFree (.cat (.alt .empty (.lit 97)) (.lit 98)) = false ∧ starFree (.star (.lit 97) true) = false :=
  ⟨vm_complete_starfree_partial (.cat (.lit 97) (.cat (.alt (.lit 98) (.alt (.cat (.lit 99) .digit) .empty)) (.cat (.rangeAny 0 2 true) .wordCh)))
    (by decide +kernel) (by decide +kernel) (by decide +kernel) "ac1xyz".toUTF8.data 0 (by decide +kernel) { exhaustive := true } rfl rfl rfl rfl
    1000 6 [2, 3, 4, 5, 6] (by decide +kernel) 4 (by decide +kernel) ((Re.ends_iff_Matches _ _ _ _ _).1 (by decide +kernel)), by decide +kernel, by decide +kernel⟩

open YaraModel.ReVm YaraModel.ReEmit in
/-- instance: the exhaustive run on the code of `ab*` over `abb` reports the lengths of all three accepting paths -/
example : exec { code := (emitCode false (.cat (.lit 97) (.star (.lit 98) true))).toArray, entry := 0, buf := "abb".toUTF8.data, start := 0, fl := { exhaustive := true } } = .done 3 [1, 2, 3] := by decide +kernel

open YaraModel.ReVm YaraModel.ReEmit in
/-- instance: the model of `yr_re_exec` on the code emitted for `a(b|c)*d` (greedy) over `abcbd` reports 5 -/
example : exec { code := (emitCode false (.cat (.lit 97) (.cat (.star (.alt (.lit 98) (.lit 99)) true) (.lit 100)))).toArray, entry := 0, buf := "abcbd".toUTF8.data, start := 0, fl := {} } = .done 5 [] := by decide +kernel


open YaraModel.ReVm YaraModel.ReEmit in
/-- `vm_sound`: soundness of the bytecode VM on emitted code for EVERY regular expression the compiler hands to
    `_yr_re_emit` (`WF r`: every RE_NODE kind — literals, `.`, the escapes \w \W \s \S \d \D, bracket classes, the anchors
    ^ $, the word boundaries \b \B, `.{n,m}`, concatenation, alternation incl. the empty alternative, `*`, `+`, and counted
    repeats `e{n,m}` of EVERY row of the emit table (prolog copy / REPEAT_START…REPEAT_END loop with the counter on the
    fiber stack / `split ; e` / epilog copy; n ≤ m < 65536), greedy or lazy, nested in any way).  For ALL such expressions
    whose code stays below the emitter's int16 jump range, ALL buffers and start positions, byte mode (ascii), any nocase /
    dot-all flags, exhaustive or first-match mode, WITH OR WITHOUT the scan mode of `matches`, forward code: every length L
    the Lean model of `yr_re_exec` reports on the code produced by the Lean model of `_yr_re_emit` ends a match of the
    expression inside the buffer that begins at the start position — or, in scan mode only, at some later position
    s0 ≤ start + L (in particular a reported match of a string at an offset implies that the expression matches there).
    Proof: the code decodes to a shape (`lower r`, the emit table as prolog · loop · optional/epilog) that denotes the same
    language (`lower_sem`, from `range_table`); every state of the abstract machine inside a shape has a continuation
    language — inside a loop it depends on the loop counter read from the stack at the loop's nesting depth — and every
    machine step keeps "what the successor accepts, the predecessor accepts" (`seg_step`).
    Both models are validated against the C functions on every generated case (real bytecode: C VM = Lean VM; emitted bytes
    equal).  Wide mode and backward code: `vm_sound_forward`, `vm_sound_backward` below.  Converse: `vm_complete_starfree_partial`
    (star-free), open for `* + e{n,m}` and zero-width nodes; entry at an atom: Thm/C02 `verify_from_atom_sound` (hex). -/
theorem vm_sound (r : Re) (hwf : WF r) (hsz : (emit false r 0).1.length < 32000) (buf : Bytes) (start : Nat) (hst : start ≤ buf.size)
    (fl : VmFlags) (hw : fl.wide = false) (hb : fl.backwards = false) (fuel : Nat) (m : Int) (c : List Nat)
    (h : exec { code := (emitCode false r).toArray, entry := 0, buf := buf, start := start, fl := fl, syncFuel := fuel } = .done m c) :
    (∀ L, L ∈ c → ∃ s0, start ≤ s0 ∧ s0 ≤ start + L ∧ start + L ≤ buf.size ∧ (fl.scan = false → s0 = start) ∧
      Re.Matches (specFlags fl) buf r s0 (start + L)) ∧
    (0 ≤ m → ∃ s0, start ≤ s0 ∧ s0 ≤ start + m.toNat ∧ start + m.toNat ≤ buf.size ∧ (fl.scan = false → s0 = start) ∧
      Re.Matches (specFlags fl) buf r s0 (start + m.toNat)) :=
  envOf_sound r hwf hsz buf start hst fl hw hb fuel m c h

open YaraModel.ReVm YaraModel.ReEmit in
/-- `vm_sound_forward`: `vm_sound` for one-byte AND two-byte (wide) characters.  For every well-formed expression, every
    buffer, start position and flags with RE_FLAGS_BACKWARDS off (wide or not, nocase, dot-all, exhaustive or not; the scan
    mode only in byte mode, as the `matches` operator uses it): a length L (in bytes) reported by the model of `yr_re_exec`
    on the forward code ends a match of the expression — under the specification's flags with the SAME wide bit: every
    character two bytes with a zero high byte — that begins s0 ≤ L bytes after the start position (s0 = 0 outside the
    scan mode) and lies inside the buffer. -/
theorem vm_sound_forward (r : Re) (hwf : WF r) (hsz : (emit false r 0).1.length < 32000) (buf : Bytes) (start : Nat) (hst : start ≤ buf.size)
    (fl : VmFlags) (hb : fl.backwards = false) (hsw : fl.scan = true → fl.wide = false) (fuel : Nat) (m : Int) (c : List Nat)
    (h : exec { code := (emitCode false r).toArray, entry := 0, buf := buf, start := start, fl := fl, syncFuel := fuel } = .done m c) :
    (∀ L, L ∈ c → ∃ s0, s0 ≤ L ∧ start + L ≤ buf.size ∧ (fl.scan = false → s0 = 0) ∧
      Re.Matches (specFlagsG fl) buf r (start + s0) (start + L)) ∧
    (0 ≤ m → ∃ s0, s0 ≤ m.toNat ∧ start + m.toNat ≤ buf.size ∧ (fl.scan = false → s0 = 0) ∧
      Re.Matches (specFlagsG fl) buf r (start + s0) (start + m.toNat)) :=
  vm_sound_fwd r hwf hsz buf start hst fl hb hsw fuel m c h

open YaraModel.ReVm YaraModel.ReEmit in
/-- `vm_sound_backward`: the BACKWARD code (`_yr_re_emit` with EMIT_BACKWARDS — proved to be the forward code of the mirrored
    expression, `emit_rev`) run by the model of `yr_re_exec` with RE_FLAGS_BACKWARDS, one-byte or wide characters: for every
    well-formed expression, buffer and start position, every reported length L satisfies L ≤ start and the expression
    matches buf[start - L, start) — the part of a string match BEFORE the atom that `_yr_scan_verify_re_match` looks for.
    (`$` never holds in backward code, `^` only at the beginning of the data, word boundaries are symmetric — as in re.c.)
    The same abstract-machine proof as forwards: only the single-instruction lemmas differ (`Dir`, Lemmas/ReDir.lean). -/
theorem vm_sound_backward (r : Re) (hwf : WF r) (hsz : (emit true r 0).1.length < 32000) (buf : Bytes) (start : Nat) (hst : start ≤ buf.size)
    (fl : VmFlags) (hb : fl.backwards = true) (hsc : fl.scan = false) (fuel : Nat) (m : Int) (c : List Nat)
    (h : exec { code := (emitCode true r).toArray, entry := 0, buf := buf, start := start, fl := fl, syncFuel := fuel } = .done m c) :
    (∀ L, L ∈ c → L ≤ start ∧ Re.Matches (specFlagsG fl) buf r (start - L) start) ∧
    (0 ≤ m → m.toNat ≤ start ∧ Re.Matches (specFlagsG fl) buf r (start - m.toNat) start) :=
  vm_sound_bwd r hwf hsz buf start hst fl hb hsc fuel m c h

open YaraModel.ReVm YaraModel.ReEmit in
/-- instance: the backward code of `ab+` run backwards from the end of `xabb` reports the lengths 3 (exhaustive mode) -/
example : exec { code := (emitCode true (.cat (.lit 97) (.plus (.lit 98) true))).toArray, entry := 0, buf := "xabb".toUTF8.data, start := 4, fl := { backwards := true, exhaustive := true } } = .done 3 [3] := by decide +kernel

open YaraModel.ReVm YaraModel.ReEmit in
/-- `matches_sound`: the `matches` operator never holds without reason.  `str matches /r/` runs `yr_re_exec` in scan mode
    from offset 0 of the string and is true iff the result is ≥ 0; for EVERY well-formed expression, every string and flags:
    if the model of the VM returns a non-negative value on the emitted code then the expression matches some substring
    str[o, q).  (The converse — every match is found — is the completeness statement not yet proved.) -/
theorem matches_sound (r : Re) (hwf : WF r) (hsz : (emit false r 0).1.length < 32000) (str : Bytes)
    (fl : VmFlags) (hw : fl.wide = false) (hb : fl.backwards = false) (fuel : Nat) (m : Int) (c : List Nat)
    (h : exec { code := (emitCode false r).toArray, entry := 0, buf := str, start := 0, fl := fl, syncFuel := fuel } = .done m c)
    (hm : 0 ≤ m) : ∃ o q, o ≤ q ∧ q ≤ str.size ∧ Re.Matches (specFlags fl) str r o q := by
  obtain ⟨s0, _, h2, h3, _, hmm⟩ := (envOf_sound r hwf hsz str 0 (Nat.zero_le _) fl hw hb fuel m c h).2 hm
  exact ⟨s0, 0 + m.toNat, h2, h3, hmm⟩

open YaraModel.ReVm YaraModel.ReEmit in
/-- instance (the former finding C03-matches-empty-at-end): `"abc" matches /x*$/` — the scan reaches offset 3 and reports the
    empty match there -/
example : exec { code := (emitCode false (.cat (.star (.lit 120) true) .eol)).toArray, entry := 0, buf := "abc".toUTF8.data, start := 0, fl := { scan := true } } = .done 3 [] := by decide +kernel

open YaraModel.ReVm YaraModel.ReEmit in
/-- instance (the former finding C03-plus-backjump): `x(a?b)+c` over `xbc` — the loop of `+` re-enters at the split of `a?`,
    the first byte of the body; the expression is covered by `vm_sound` -/
example : exec { code := (emitCode false (.cat (.lit 120) (.cat (.plus (.cat (.range (.lit 97) 0 1 true) (.lit 98)) true) (.lit 99)))).toArray, entry := 0, buf := "xbc".toUTF8.data, start := 0, fl := {} } = .done 3 [] := by decide +kernel

open YaraModel.ReEmit in
example : WF (.cat (.lit 120) (.cat (.plus (.cat (.range (.lit 97) 0 1 true) (.lit 98)) true) (.lit 99))) :=
  .cat (.lit _) (.cat (.plus _ (.cat (.range 0 1 _ (.lit _) (by decide) (by decide)) (.lit _))) (.lit _))

open YaraModel.ReVm YaraModel.ReEmit in
/-- instance with a REPEAT_START/END loop: `xa{3,5}y` over `xaaaay` (prolog · loop{1,3} · optional copy) -/
example : exec { code := (emitCode false (.cat (.lit 120) (.cat (.range (.lit 97) 3 5 true) (.lit 121)))).toArray, entry := 0, buf := "xaaaay".toUTF8.data, start := 0, fl := {} } = .done 6 [] := by decide +kernel

open YaraModel.ReEmit in
example : WF (.cat (.lit 120) (.cat (.range (.alt (.cat (.lit 97) (.lit 97)) (.lit 97)) 4 6 true) (.lit 121))) :=
  .cat (.lit _) (.cat (.range 4 6 _ (.alt (.cat (.lit _) (.lit _)) (.lit _)) (by decide) (by decide)) (.lit _))

open YaraModel.ReEmit in
/-- every node kind: `\ba(b|)*d+\B` -/
example : WF (.cat .wordB (.cat (.lit 97) (.cat (.star (.alt (.lit 98) .empty) true) (.cat (.plus (.lit 100) false) .nonWordB)))) :=
  .cat .wordB (.cat (.lit _) (.cat (.star _ (.alt (.lit _) .empty)) (.cat (.plus _ (.lit _)) .nonWordB)))

open YaraModel.ReAtoms in
/-- `reAtoms_cover`: the atoms extracted for a regular expression / hex string cover its matches.  `atomsOf q m r` is the
    model of what `yr_ac_add_string` receives (`yr_atoms_extract_from_re`: the walk over the expression with the sliding
    4-node window and `_yr_atoms_trim`, the tree of OR / AND / leaf nodes, `_yr_atoms_choose`, then
    `_yr_atoms_expand_wildcards`, `_yr_atoms_wide`, `_yr_atoms_case_insensitive`, or the zero-length atom) for an ARBITRARY
    quality function `q` — every window and every OR child the heuristic could pick — and modifiers `m`.  For ALL
    expressions whose masked nodes have the masks the grammars produce (every node kind: runs through groups, `+` bodies and
    the first copies of counted repeats; alternations), ALL buffers, byte or wide matching, with or without nocase (as the
    modifiers allow): along every match [p, q') one of these byte sequences occurs LITERALLY in the buffer inside [p, q'),
    at a position where the match (its trace `T`) has the node the atom begins at — or the string has the zero-length atom
    that is a candidate at every offset.  The model with the quality function of atoms.c is compared with the atoms the
    real compiler inserts (hook H3) and with the code positions of their automaton entries on every generated non-literal
    unchained string.  For loop-free expressions (hex strings) Thm/C02 `reAtoms_cover` adds the position statement. -/
theorem reAtoms_cover (q : Atom → Int) (m : Mods) (fl : Flags) (buf : Bytes) (hw1 : fl.wide = true → m.wide = true)
    (hw0 : fl.wide = false → (m.wide = false ∨ m.ascii = true)) (hn : m.nocase = fl.nocase) (r : Re) (hmk : MaskOK r)
    (p q' : Nat) (hm : Re.Matches fl buf r p q') :
    ∃ T, Tr fl buf r 0 p q' T ∧ ∃ x ∈ atomsOf q m r, ∃ s, p ≤ s ∧ s + x.1.length ≤ q' ∧ BytesAt buf x.1 s ∧ (x.1 = [] ∨ (x.2, s) ∈ T) := by
  obtain ⟨T, hT⟩ := tr_of_matches hm 0
  exact ⟨T, hT, atomsOf_cover q m fl buf hw1 hw0 hn r hmk hT⟩

open YaraModel.ReAtoms in
/-- instance: `10 ?? 41 42 43 ?? 20 30` — the heuristic of atoms.c picks the interior window `41 42 43` (leaf 2) -/
example : (chosen quality (.cat (.lit 0x10) (.cat .any (.cat (.lit 0x41) (.cat (.lit 0x42) (.cat (.lit 0x43) (.cat .any (.cat (.lit 0x20) (.lit 0x30))))))))).map (fun a => a.map (·.byte)) = [[0x41, 0x42, 0x43]] := by decide +kernel

end YaraModel.C03
