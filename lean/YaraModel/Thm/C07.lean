/-
  C07 — Compiling arbitrary text never crashes and every failure is diagnosed.  PARTIAL claim:
  proved here is the *protocol* (Model/CompilerErr.lean) for ALL event sequences, and the %destructor
  coverage of the three bison grammars as regenerated from the .y text. That the real parser emits only
  these events, frees what the destructors are given, and never crashes is sampled by vf/checks/c07.py
  (ASan/UBSan/LSan on grammar-aware mutations). Property theorems only.
-/
import YaraModel.Lemmas.CompilerErr
import YaraModel.Gen.GrammarTables
namespace YaraModel.C07
open YaraModel.CompilerErr YaraModel.Gen.GrammarTables

/-- Invariant behind the next theorems: without a set-up failure, `errors` counts exactly the callbacks. -/
theorem ret_eq_errors (evs : List Ev) (h : evs.all (fun e => !isSetupFail e) = true) :
    (run true evs).errors = (run true evs).log.length :=
  List.foldlRecOn (motive := Counted) evs (step true) rfl fun s hs e he =>
    step_errors_log (P := fun n l => n = l.length) hs (fun h1 => by simpa [h1] using List.all_eq_true.1 h e he)
      fun ln _ => yyerror_counted ln s hs

example : (run true [.shift, .syntaxError 3, .syntaxError 3, .shift, .shift, .shift, .failWithError false 7, .eof]).errors = 2 := by decide

/-- **Return value > 0 iff an error callback (carrying message and line) was invoked** — for every event
    sequence of a compilation that got past set-up (namespace/file-name/yylex_init allocation). -/
theorem ret_pos_iff_callback (evs : List Ev) (h : evs.all (fun e => !isSetupFail e) = true) :
    0 < (run true evs).errors ↔ (run true evs).log ≠ [] := by
  rw [ret_eq_errors evs h]
  cases (run true evs).log <;> simp

/-- After `yyfatal`, an OOM abort, or end of input, the parser has stopped: later events change nothing. -/
theorem stopped_is_final (cb : Bool) (s : St) (evs : List Ev) (h : s.done = true) :
    evs.foldl (step cb) s = s := by
  induction evs with
  | nil => rfl
  | cons e es ih => rw [List.foldl_cons, show step cb s e = s from if_pos h, ih]

/-- The gap, stated: a set-up failure (only reachable by allocation or I/O failure, never by the text)
    returns 1 without any callback. This is why `ret_pos_iff_callback` needs its hypothesis. -/
theorem setup_failure_is_silent_partial (evs : List Ev) :
    (run true (.setupFail :: evs)).errors = 1 ∧ (run true (.setupFail :: evs)).log = [] := by
  rw [run, List.foldl_cons, stopped_is_final true _ evs rfl]
  exact ⟨rfl, rfl⟩

/-- Every reported error carries a line number ≥ 1 (lines come from `current_line` when a reduction set it,
    otherwise from the lexer's `yylineno`, both ≥ 1). -/
theorem every_error_has_line (evs : List Ev) (h : evs.all linesOk = true) :
    ∀ e ∈ (run true evs).log, 1 ≤ e.line :=
  List.foldlRecOn (motive := LinesInv) evs (step true) nofun fun s hs e he =>
    step_errors_log (P := fun _ l => ∀ x ∈ l, 1 ≤ x.line) hs (fun _ => hs)
      fun ln hl => yyerror_lines ln s hs (hl (List.all_eq_true.1 h e he))

example : (run true [.setLine 12, .failWithError false 14, .eof]).log = [⟨12⟩] := by decide

theorem no_callback_no_log (evs : List Ev) : (run false evs).log = [] :=
  List.foldlRecOn (motive := fun s => s.log = []) evs (step false) rfl fun _ hs _ _ =>
    step_errors_log (P := fun _ l => l = []) hs (fun _ => hs) fun _ _ => hs

/-- Bison reports at most one syntax error per recovery: while `yyerrstatus > 0` further syntax errors neither
    count nor call back — so `errors` is exactly the number of `yyerror` calls. -/
theorem syntax_error_suppressed_in_recovery (cb : Bool) (s : St) (ln : Nat) (h : 0 < s.errstatus) :
    (step cb s (.syntaxError ln)).errors = s.errors ∧ (step cb s (.syntaxError ln)).log = s.log := by
  unfold step
  split
  · exact ⟨rfl, rfl⟩
  · simp only [if_neg (Nat.ne_of_gt h), and_self]

/-- **Recovery resets the loop context** (grammar.y `_FOR_ for_expression error`): whatever the nesting,
    afterwards `loop_index = -1` and no loop identifier is owned any more. -/
theorem recovery_resets_loop_ctx (cb : Bool) (s : St) (ln : Nat) (h : s.done = false) :
    (step cb s (.loopError ln)).loops = [] ∧ ownedLoopIds (step cb s (.loopError ln)) = 0 := by
  simp [step, h, ownedLoopIds]

example : ownedLoopIds (run true [.loopEnter, .loopVars 2, .loopEnter, .loopVars 1]) = 3 ∧
    ownedLoopIds (run true [.loopEnter, .loopVars 2, .loopEnter, .loopVars 1, .loopError 4]) = 0 := by decide

/-- **Destructor table**: in grammar.y, hex_grammar.y and re_grammar.y (as regenerated by translator T7 on this run)
    every symbol whose semantic value owns heap memory has a `%destructor`, so values discarded during error
    recovery are released. -/
theorem destructor_table :
    ∀ s ∈ grammar ++ hex_grammar ++ re_grammar, s.owns = true → s.hasDestructor = true := by
  decide

/-- the table is not vacuous: it does contain owning symbols -/
example : (grammar ++ hex_grammar ++ re_grammar).any (fun s => s.owns) = true := by decide

end YaraModel.C07
