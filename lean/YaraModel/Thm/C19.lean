/-
  C19 — Compiled rules do not depend on how internal storage grew.
  The property theorems and their examples; the file declares no helper (those are in Lemmas/Arena*.lean; `run_abs` and
  `run_defined` are proved here from them).  The arena model is Model/Arena.lean
  (arena.c); `abs a` is the address-free content of an arena: every buffer's bytes with each
  registered pointer slot replaced by the (buffer, offset) it denotes, plus the relocation list.
  All statements hold for every arena satisfying the protocol `WF`, every buffer, every capacity
  and every address the allocator may return (`Fresh`).

  Main result (`run_abs`, by refinement `exec_refines` / `run_refines`): the arena API refines an
  address-free abstract machine (`astep` / `arun`, Spec/Arena.lean: byte lists + registered slots holding
  references).  For every sequence of client operations inside the protocol (`OpsOK`, decidable), every
  initial size, capacity, base address, always-move setting and admissible realloc schedule, the concrete
  run produces the observations and the abstract content the abstract run prescribes.
-/
import YaraModel.Lemmas.ArenaExample
import YaraModel.Lemmas.ArenaSession
import YaraModel.Lemmas.ArenaGrow
import YaraModel.Lemmas.ArenaSeq
import YaraModel.Lemmas.ArenaExec
import YaraModel.Lemmas.ArenaFlags
namespace YaraModel.Arena
open YaraModel.Gen.ArenaLayout

/-- **Relocation is invisible.** When buffer `b` grows to any capacity `nc` and realloc returns any
    admissible block `newBase` (the old block extended in place, or a block elsewhere: then the fix-up
    loop runs over the relocation list), the abstract arena is unchanged: no registered pointer is
    left stale, no other byte changes. -/
theorem grow_abs {a : Arena} (h : WF a) {b newBase nc : Nat} (hb : b < a.bufs.length)
    (hf : Fresh a b newBase nc) (zero : Bool) :
    abs (growBuf a b newBase nc zero) = abs a :=
  abs_growBuf h hb hf zero

/-- the hypotheses are satisfiable: a three-buffer arena with two registered pointers whose buffer 1
    (the target of one of them) is moved by realloc from 0x1000 to 0x10000 -/
example : abs (growBuf exArena 1 65536 64 false) = abs exArena :=
  grow_abs exArena_wf (by decide) exArena_fresh false

/-- … and the move really happened and really rewrote the pointer (the statement is not vacuous) -/
example : getSlot (growBuf exArena 1 65536 64 false) ⟨0, 0⟩ = 65538 ∧ getSlot exArena ⟨0, 0⟩ = 4098 := by decide

/-- **No stale reference.** After the growth the protocol still holds: every registered slot holds null
    or a pointer into the used bytes of a buffer *at its new address*. -/
theorem grow_wf {a : Arena} (h : WF a) {b newBase nc : Nat} (hb : b < a.bufs.length)
    (hf : Fresh a b newBase nc) (zero : Bool) : WF (growBuf a b newBase nc zero) :=
  wf_growBuf h hb hf zero

/-- **One allocation is a function of the abstract arena.** Whatever the buffer's capacity, the
    always-move hook and the allocator's (admissible) answer: the bytes are appended to the body of
    buffer `b`, nothing else changes, the protocol is preserved. -/
theorem alloc_abs (cfg : Cfg) (nb : Nat) {a : Arena} (h : WF a) (hinit : 0 < a.init) {b : Nat} {zero : Bool} {fill : Bytes}
    {a' : Arena} {r : Ref} (hres : allocMem cfg nb a b zero fill = .ok (a', r))
    (hfresh : AllocFresh cfg nb a b fill.length) (hsz : (a.bufAt b).data.length + fill.length < 2 ^ 32) :
    WF a' ∧ abs a' = absAppend (abs a) b fill ∧ r = ⟨b, (a.bufAt b).data.length⟩ :=
  let ⟨h1, h2, h3, _⟩ := allocMem_spec cfg nb h hinit hres hfresh hsz
  ⟨h1, h2, h3⟩

/-- **Allocation-only sequences**, on the allocator interface `allocMem` directly: two runs of the same allocation requests — write_data / zeroed
    memory / the memory of a struct — started from arenas with the same abstract content but different initial
    sizes, capacities, addresses, hook settings and allocator answers end in arenas with the same abstract content. -/
theorem alloc_seq_abs (cfg₁ cfg₂ : Cfg) (reqs : List Req) :
    ∀ (bases₁ bases₂ : List Nat) (a₁ a₂ a₁' a₂' : Arena), WF a₁ → WF a₂ → 0 < a₁.init → 0 < a₂.init → abs a₁ = abs a₂ →
      Admissible cfg₁ bases₁ a₁ reqs → Admissible cfg₂ bases₂ a₂ reqs →
      runAllocs cfg₁ bases₁ a₁ reqs = .ok a₁' → runAllocs cfg₂ bases₂ a₂ reqs = .ok a₂' →
      abs a₁' = abs a₂' ∧ WF a₁' ∧ WF a₂' := by
  intro bases₁ bases₂ a₁ a₂ a₁' a₂' h₁ h₂ hi₁ hi₂ habs had₁ had₂ hr₁ hr₂
  have s₁ := runAllocs_abs cfg₁ reqs bases₁ h₁ hi₁ had₁ hr₁
  have s₂ := runAllocs_abs cfg₂ reqs bases₂ h₂ hi₂ had₂ hr₂
  exact ⟨by rw [s₁.2, s₂.2, habs], s₁.1, s₂.1⟩

/-- the hypotheses of the sequence theorem are satisfiable: 9 bytes written to buffer 1 of the example arena
    (capacity 8, 4 used) make it grow; one run lets realloc move the block to 0x10000, the other run has the
    always-move hook on and gets 0x30000: both runs succeed and are admissible -/
example : ∃ a₁' a₂', runAllocs {} [65536] exArena [⟨1, false, [1, 2, 3, 4, 5, 6, 7, 8, 9]⟩] = .ok a₁' ∧
    runAllocs { alwaysMove := true } [196608] exArena [⟨1, false, [1, 2, 3, 4, 5, 6, 7, 8, 9]⟩] = .ok a₂' ∧
    Admissible {} [65536] exArena [⟨1, false, [1, 2, 3, 4, 5, 6, 7, 8, 9]⟩] ∧
    Admissible { alwaysMove := true } [196608] exArena [⟨1, false, [1, 2, 3, 4, 5, 6, 7, 8, 9]⟩] := by
  have fresh : ∀ nb nc, nb = 65536 ∨ nb = 196608 → nc = 16 → Fresh exArena 1 nb nc := by
    intro nb nc hnb hnc
    subst hnc
    refine ⟨by omega, ⟨by decide, by omega⟩, ?_, by rcases hnb with rfl | rfl <;> decide⟩
    intro j hj hne
    have : j = 0 ∨ j = 2 := by have : j < 3 := hj; omega
    rcases this with rfl | rfl <;> rcases hnb with rfl | rfl <;> decide
  refine ⟨_, _, rfl, rfl, ⟨fun _ => fresh _ _ (Or.inl rfl) (by decide), by decide, fun _ _ _ => trivial⟩,
    ⟨fun _ => fresh _ _ (Or.inr rfl) (by decide), by decide, fun _ _ _ => trivial⟩⟩

/-- The bytes written by `yr_arena_save_stream` are a function of the abstract arena alone
    (never of addresses or capacities). -/
theorem save_of_abs (a : Arena) : save a = saveOfAbs (abs a) :=
  save_eq_saveOfAbs a

/-- Two arenas with the same abstract content serialise to identical bytes. -/
theorem save_eq_of_abs_eq {a a' : Arena} (h : abs a = abs a') : save a = save a' := by
  rw [save_of_abs, save_of_abs, h]

/-- Hence a growth at any point, to any capacity, at any address, does not change what a later
    save writes. -/
theorem grow_save {a : Arena} (h : WF a) {b newBase nc : Nat} (hb : b < a.bufs.length)
    (hf : Fresh a b newBase nc) (zero : Bool) :
    save (growBuf a b newBase nc zero) = save a :=
  save_eq_of_abs_eq (grow_abs h hb hf zero)

/-- **Refinement, one operation.** For every client operation `op` (allocate raw / zeroed / a struct with
    relocatable fields, make_ptr_relocatable, store a pointer obtained from ref_to_ptr into a registered slot,
    write-and-register a pointer, register-and-fill a slot that held anything, memcpy into allocated bytes, read a
    slot back through ptr_to_ref, ref_to_ptr followed by ptr_to_ref) that the abstract machine accepts on the abstract content of `a` (`astep (abs a) op`
    is defined: the operation is inside the protocol), for every configuration — always-move hook, initial size
    `a.init`, capacities and base addresses of `a`, allocator answer `nb` admissible *if looked at* — the real
    operation succeeds with exactly the observation `o` the abstract machine prescribes, keeps the protocol `WF`
    (no stale pointer) and yields an arena whose abstract content is the abstract machine's; the only other
    outcome is ERROR_INSUFFICIENT_MEMORY (a buffer would exceed its maximum size — which does depend on the
    initial size).  No assert of arena.c fires, nothing is read or written out of bounds. -/
theorem exec_refines (cfg : Cfg) (nb : Nat) {a : Arena} (h : WF a) (hinit : 0 < a.init) {op : Op} {x' : AArena} {o : Out}
    (hspec : astep (abs a) op = some (x', o)) (hfresh : StepFresh cfg nb a op) :
    (∃ a', exec cfg nb a op = .ok (a', o) ∧ WF a' ∧ a'.init = a.init ∧ abs a' = x') ∨
      exec cfg nb a op = .error .insufficientMemory :=
  exec_sim cfg nb h hinit hspec hfresh

/-- **Refinement, any sequence.** By induction over the operation list: a run of the real arena under any
    configuration and any admissible realloc schedule (`AdmRun`) realises the run of the abstract machine — same
    observations step by step, abstract content of the final arena = final abstract arena — or stops with
    ERROR_INSUFFICIENT_MEMORY. -/
theorem run_refines (cfg : Cfg) (ops : List Op) (bases : List Nat) {a : Arena} (h : WF a) (hinit : 0 < a.init)
    {x' : AArena} {outs : List Out} (hspec : arun (abs a) ops = some (x', outs)) (hadm : AdmRun cfg bases a ops) :
    (∃ a', runOut cfg bases a ops = .ok (a', outs) ∧ WF a' ∧ abs a' = x') ∨
      runOut cfg bases a ops = .error .insufficientMemory :=
  runOut_sim cfg ops bases a x' outs h hinit hspec hadm

/-- **Compiled rules do not depend on how internal storage grew.**  Two runs of the same
    sequence of arena operations obeying the protocol (`OpsOK`, a decidable predicate of the sequence and the
    abstract content it starts from), started from arenas with the same abstract content but with different
    initial buffer sizes, capacities, base addresses, always-move settings (`cfg₁`, `cfg₂`) and allocator answers
    (`bases₁`, `bases₂`: any admissible realloc schedules) produce the same observations at every step (the
    references returned by allocations, the results of pointer → reference queries) and end in arenas with the
    same abstract content — hence byte-identical saved images — in which the protocol still holds. -/
theorem run_abs (ops : List Op) (cfg₁ cfg₂ : Cfg) (bases₁ bases₂ : List Nat) {a₁ a₂ a₁' a₂' : Arena} {outs₁ outs₂ : List Out}
    (h₁ : WF a₁) (h₂ : WF a₂) (hi₁ : 0 < a₁.init) (hi₂ : 0 < a₂.init) (habs : abs a₁ = abs a₂)
    (hok : OpsOK (abs a₁) ops = true)
    (had₁ : AdmRun cfg₁ bases₁ a₁ ops) (had₂ : AdmRun cfg₂ bases₂ a₂ ops)
    (hr₁ : runOut cfg₁ bases₁ a₁ ops = .ok (a₁', outs₁)) (hr₂ : runOut cfg₂ bases₂ a₂ ops = .ok (a₂', outs₂)) :
    outs₁ = outs₂ ∧ abs a₁' = abs a₂' ∧ save a₁' = save a₂' ∧ WF a₁' ∧ WF a₂' := by
  unfold OpsOK at hok
  cases hspec : arun (abs a₁) ops with
  | none => rw [hspec] at hok; cases hok
  | some p =>
    obtain ⟨x', outs⟩ := p
    have hspec₂ : arun (abs a₂) ops = some (x', outs) := by rw [← habs]; exact hspec
    obtain ⟨rfl, w₁, ab₁⟩ := runOut_sim_ok cfg₁ ops bases₁ h₁ hi₁ hspec had₁ hr₁
    obtain ⟨rfl, w₂, ab₂⟩ := runOut_sim_ok cfg₂ ops bases₂ h₂ hi₂ hspec₂ had₂ hr₂
    have habs' : abs a₁' = abs a₂' := ab₁.trans ab₂.symm
    exact ⟨rfl, habs', save_eq_of_abs_eq habs', w₁, w₂⟩

/-- … in particular from creation: `yr_arena_create(n, init₁)` and `yr_arena_create(n, init₂)` followed by the same
    protocol-obeying operations give the same observations and the same saved image, whatever the two initial
    buffer sizes, hook settings and allocator schedules. -/
theorem create_run_abs (n : Nat) (hn : n ≤ maxBuffers) (ops : List Op) (hok : OpsOK (aCreate n) ops = true)
    (cfg₁ cfg₂ : Cfg) (init₁ init₂ : Nat) (hi₁ : 0 < init₁) (hi₂ : 0 < init₂) (bases₁ bases₂ : List Nat)
    {a₁' a₂' : Arena} {outs₁ outs₂ : List Out}
    (had₁ : AdmRun cfg₁ bases₁ (create n init₁) ops) (had₂ : AdmRun cfg₂ bases₂ (create n init₂) ops)
    (hr₁ : runOut cfg₁ bases₁ (create n init₁) ops = .ok (a₁', outs₁))
    (hr₂ : runOut cfg₂ bases₂ (create n init₂) ops = .ok (a₂', outs₂)) :
    outs₁ = outs₂ ∧ abs a₁' = abs a₂' ∧ save a₁' = save a₂' ∧ WF a₁' ∧ WF a₂' :=
  run_abs ops cfg₁ cfg₂ bases₁ bases₂ (wf_create init₁ hn) (wf_create init₂ hn) hi₁ hi₂
    (by rw [abs_create, abs_create]) (by rw [abs_create]; exact hok) had₁ had₂ hr₁ hr₂

/-- the hypotheses are satisfiable by a non-trivial session (`exOps`, Lemmas/ArenaSession.lean): 17 operations of
    every kind on two buffers; a pointer is stored in a registered slot, then both the buffer it points into and
    the buffer holding the slot are forced to grow before the slot is read back.  Run 1: initial size 1, hook off,
    ascending addresses (buffer 0 is reallocated 3 times, ends with capacity 256); run 2: initial size 64,
    always-move on, descending addresses (every allocation moves its buffer, final capacity 224).  The sequence
    obeys the protocol, both schedules are admissible, both runs succeed — so the theorem applies, and the
    read-backs return the references stored (1.2 and 0.20) although every address changed in between. -/
example : ∃ a₁' a₂' outs, runOut {} exBases₁ (create 2 1) exOps = .ok (a₁', outs) ∧
    runOut { alwaysMove := true } exBases₂ (create 2 64) exOps = .ok (a₂', outs) ∧
    save a₁' = save a₂' ∧ outs[5]? = some (.found (some ⟨1, 2⟩)) ∧ outs[8]? = some (.found (some ⟨0, 20⟩)) ∧
    (a₁'.bufAt 0).base ≠ (a₂'.bufAt 0).base ∧ (a₁'.bufAt 0).cap ≠ (a₂'.bufAt 0).cap := by
  obtain ⟨_, _, hspec, _⟩ := exOps_arun
  obtain ⟨a₁', o₁, hr₁, had₁, _, h5, h8, hb₁, hc₁⟩ := exOps_run₁
  obtain ⟨a₂', o₂, hr₂, had₂, hb₂, hc₂⟩ := exOps_run₂
  have ⟨ho, _, hs, _, _⟩ := create_run_abs 2 (by decide) exOps (by unfold OpsOK; rw [hspec]; rfl) {} { alwaysMove := true }
    1 64 (by decide) (by decide) exBases₁ exBases₂ had₁ had₂ hr₁ hr₂
  subst ho
  exact ⟨a₁', a₂', o₁, hr₁, hr₂, hs, h5, h8, by rw [hb₁, hb₂]; decide, by rw [hc₁, hc₂]; decide⟩

/-- **Nothing unspecified.** The abstract content ignores one thing the model tracks: whether a zeroed allocation was
    served from spare capacity that was never cleared (`unspec`; arena.c clears only on the growth path — which
    capacity-dependent runs reach at different moments).  If the operation list never sends a zeroed allocation
    (allocate_zeroed_memory / allocate_struct) to a buffer that earlier received a raw one (write_data) — `KindsOK`,
    decidable, a property of the list alone; the compiler's buffers are each of one kind — then, whatever the
    configuration and the allocator, the flag is never raised: every byte of the final arena is the one `abs` shows. -/
theorem run_defined (cfg : Cfg) (bases : List Nat) (ops : List Op) {a a' : Arena} {raws : List Nat} {outs : List Out}
    (hd : ∀ j, (a.bufAt j).dirty = true → j ∈ raws) (hu : a.unspec = false) (hk : KindsOK raws ops = true)
    (hr : runOut cfg bases a ops = .ok (a', outs)) : a'.unspec = false := by
  -- along the run itself: only its two successful branches can have produced `(a', outs)`
  fun_induction runOut cfg bases a ops generalizing raws outs a' <;> cases hr
  case case1 => exact hu
  case case4 op _ a1 _ h1 _ _ h2 ih =>
    simp only [KindsOK, Bool.and_eq_true] at hk
    have ⟨hd1, hu1⟩ := exec_flags h1
    refine ih ?_ ?_ hk.2 h2
    · intro j hj
      rcases hd1 j hj with h | h
      · have := hd j h
        cases opRaw op <;> simp [this]
      · rw [h]; simp
    · cases hx : a1.unspec with
      | false => rfl
      | true =>
        rcases hu1 hx with h | ⟨b, hb, hdb⟩
        · rw [hu] at h; cases h
        · have hk1 := hk.1
          rw [hb] at hk1
          simp only [Bool.not_eq_true', List.contains_eq_mem, decide_eq_false_iff_not] at hk1
          exact absurd (hd b hdb) hk1

/-- … in particular from `yr_arena_create`; the example session sends zeroed allocations to buffer 0 and raw ones to buffer 1 -/
example (cfg : Cfg) (init : Nat) (bases : List Nat) {a' : Arena} {outs : List Out}
    (hr : runOut cfg bases (create 2 init) exOps = .ok (a', outs)) : a'.unspec = false :=
  run_defined cfg bases exOps (dirtyIn_create 2 init) rfl (by decide) hr

end YaraModel.Arena
