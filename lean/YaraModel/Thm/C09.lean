/-
  C09 — Concurrent scans that share one rule set are race-free and deterministic.  PARTIAL claim:
  proved here, for ALL schedules (every interleaving of every thread's actions, any number of threads, any scripts),
  is the model of Model/Concurrent.lean: per-thread results equal the sequential results (non-interference by the
  frame property), the rules never change, and the signal-handler use-count protocol of exception.h keeps
  "handler installed ⟺ count > 0" and restores the previous handler when the count returns to 0.
  The frame hypothesis itself ("a scan only reads YR_RULES and writes only its own scanner") and data-race freedom in
  the C memory model are checked on the real code by vf/checks/c09.py (read-only mapped rule arenas, trace comparison,
  ThreadSanitizer) — sampled. Property theorems only.
-/
import YaraModel.Lemmas.Concurrent
namespace YaraModel.C09
open YaraModel.Concurrent

variable {ρ σ : Type}

/-- **Non-interference**: after ANY schedule, the scanner state of every thread is exactly what the actions it has
    executed so far produce when run alone on the same rules — nothing another thread did is visible in it. -/
theorem noninterference (prog : Nat → List (Act ρ σ)) (rules : ρ) (h0 : Handler) (st0 : Nat → σ) (sched : List Nat) (t : Nat) :
    (run prog (init rules h0 st0) sched).st t =
      seqRun rules (prog t) ((run prog (init rules h0 st0) sched).pc t) (st0 t) := by
  have := run_ownRun prog rules h0 st0 sched t
  rw [run_rules] at this
  exact this

/-- Each thread executes exactly its own script, in order: its program counter is the number of times it was
    scheduled, capped by the script length (no lost or duplicated action under any interleaving). -/
theorem progress_is_own_schedule_count (prog : Nat → List (Act ρ σ)) (rules : ρ) (h0 : Handler) (st0 : Nat → σ)
    (sched : List Nat) (t : Nat) :
    (run prog (init rules h0 st0) sched).pc t = min (sched.count t) (prog t).length := by
  have := run_pc prog t sched (init rules h0 st0) (Nat.zero_le _)
  rwa [show (init rules h0 st0).pc t = 0 from rfl, Nat.zero_add] at this

/-- **Determinism**: two schedules that let thread `t` run the same number of actions leave it in the same state;
    in particular every complete schedule gives the single-threaded result. -/
theorem deterministic_result (prog : Nat → List (Act ρ σ)) (rules : ρ) (h0 : Handler) (st0 : Nat → σ)
    (s1 s2 : List Nat) (t : Nat) (h : s1.count t = s2.count t) :
    (run prog (init rules h0 st0) s1).st t = (run prog (init rules h0 st0) s2).st t := by
  rw [noninterference, noninterference, progress_is_own_schedule_count, progress_is_own_schedule_count, h]

/-- The shared rule set is never modified. -/
theorem rules_immutable (prog : Nat → List (Act ρ σ)) (rules : ρ) (h0 : Handler) (st0 : Nat → σ) (sched : List Nat) :
    (run prog (init rules h0 st0) sched).rules = rules := by
  rw [run_rules]; rfl

/-- **Handler protocol** (exception.h): under every interleaving of enter/leave, the use count equals the number of
    threads inside YR_TRYCATCH, and YARA's handler is installed exactly while the count is positive
    (the handler found installed is a `.user` handler, i.e. not YARA's own). -/
theorem handler_installed_iff_count_pos (prog : Nat → List (Act ρ σ)) (rules : ρ) (uid : Nat) (st0 : Nat → σ) (sched : List Nat) :
    let g := run prog (init rules (.user uid) st0) sched
    (g.cur = .yara ↔ 0 < g.count) ∧ g.count = g.inside.length := by
  have H := (run_hinv prog rules (.user uid) st0 sched).1
  exact ⟨H.on_iff nofun, H.1⟩

/-- …and whenever the count is back to 0 the handler that was installed before the first scan is in place again. -/
theorem old_handler_restored_at_zero (prog : Nat → List (Act ρ σ)) (rules : ρ) (h0 : Handler) (st0 : Nat → σ) (sched : List Nat)
    (hz : (run prog (init rules h0 st0) sched).count = 0) :
    (run prog (init rules h0 st0) sched).cur = h0 :=
  (run_hinv prog rules h0 st0 sched).1.zero hz

/-- non-trivial instance: two threads, interleaved enters/leaves and work; thread 1's result is its sequential one -/
example :
    let prog : Nat → List (Act Nat Nat) := fun t =>
      if t = 0 then [.enter, .work (fun r s => s + r), .leave]
      else if t = 1 then [.enter, .work (fun r s => s * r), .work (fun _ s => s + 1), .leave] else []
    let g := run prog (init 7 (.user 3) (fun _ => 2)) [0, 1, 1, 0, 0, 1, 1]
    g.st 0 = 9 ∧ g.st 1 = 15 ∧ g.count = 0 ∧ g.cur = .user 3 := by decide

example :
    let prog : Nat → List (Act Nat Nat) := fun t => if t < 2 then [.enter, .work (fun r s => s + r), .leave] else []
    let g := run prog (init 7 (.user 3) (fun _ => 2)) [0, 1, 0]
    g.cur = .yara ∧ g.count = 2 := by decide

/-- **Library lifetime** (yr_initialize / yr_finalize): for every interleaving of the users' init/finalize calls, the
    process-wide resources (TLS keys of the try/catch trampolines, modules, heap) exist exactly while somebody holds a
    reference, and the reference count equals the number of holders — so no user's finalize can tear the library down
    under another user's scans. -/
theorem library_alive_iff_referenced (evs : List LibEv) :
    ((lrun evs).alive = true ↔ 0 < (lrun evs).count) ∧ (lrun evs).count = (lrun evs).users.length :=
  ⟨(lrun_inv evs).on_iff nofun, (lrun_inv evs).1⟩

/-- a user that still holds its reference finds the library alive, whatever the others did in between -/
theorem holder_sees_library_alive (evs : List LibEv) (u : Nat) (h : u ∈ (lrun evs).users) : (lrun evs).alive = true := by
  have H := lrun_inv evs
  exact H.pos (H.1 ▸ List.length_pos_of_mem h)

example : (lrun [.init 0, .init 1, .fin 1]).alive = true ∧ (lrun [.init 0, .init 1, .fin 1, .fin 0]).alive = false ∧
    (lrun [.init 0, .fin 0, .fin 0]).finErrors = 1 := by decide

end YaraModel.C09
