/-
  C01 — end to end over the model: atoms → automaton construction → scan → verification → match list.
  Thm/C01.lean proves the pipeline exact for ANY candidate stage that meets the automaton contract `CandsOK`;
  Thm/AcBuild.lean proves that the automaton BUILT by the model of ahocorasick.c meets that contract for every atom list.
  Composed here: for every rule set of text strings (any modifiers, any window choice per string, any number of strings
  sharing the automaton) and every buffer, each string's reported offsets are exactly its documented occurrences.
  No certificate is left; of the automaton only `build … = some T` (discharged by `build_some` for at most 32 637 atom bytes) and
  fewer than 2^32 atoms are assumed; the two semantic hypotheses of C01 (F19, F20) remain.
-/
import YaraModel.Thm.C01
import YaraModel.Lemmas.TextChain
namespace YaraModel.Text
open YaraModel.AC YaraModel.AC.Build

/-- a text string of a rule set: its index, the window the atom heuristic picked, modifiers, bytes -/
structure TStr where
  idx : Nat
  w : Nat
  m : Mods
  s : Bytes

/-- everything `yr_ac_add_string` is given for the rule set, string by string -/
def atomsFor (strs : List TStr) : List (Nat × Atom) :=
  strs.flatMap fun t => (atomsOf t.w t.m t.s).map fun a => (t.idx, a)

theorem mem_atomsFor {strs : List TStr} (hidx : (strs.map (·.idx)).Nodup) {t : TStr} (ht : t ∈ strs) (a : Atom) :
    (t.idx, a) ∈ atomsFor strs ↔ a ∈ atomsOf t.w t.m t.s := by
  unfold atomsFor
  simp only [List.mem_flatMap, List.mem_map, Prod.mk.injEq]
  constructor
  · rintro ⟨t', ht', a', ha', hi, rfl⟩
    -- distinct indices: the index determines the string
    cases List.Pairwise.forall_of_forall_of_flip (R := fun x y : TStr => x.idx = y.idx → x = y) (fun _ _ _ => rfl)
      ((List.pairwise_map.1 hidx).imp fun h e => absurd e h) ((List.pairwise_map.1 hidx).imp fun h e => absurd e.symm h) ht' ht hi
    exact ha'
  · intro ha
    exact ⟨t, ht, a, ha, rfl, rfl⟩

/-- **End to end.** For every rule set of text strings with distinct indices (each legal, non-empty, with any valid atom
    window), for the automaton the construction builds from all their atoms together, every string `t` of the set and every
    buffer: running verification and match-list insertion on the candidates the automaton's scan reports for `t` gives
    exactly the documented occurrences of `t`, ascending, each with an admissible length/key. (`h19`, `h20`: the two
    known deviations F19 / F20 of the verification step, see Thm/C01.) -/
theorem text_strings_end_to_end (strs : List TStr) (hidx : (strs.map (·.idx)).Nodup)
    (hleg : ∀ t ∈ strs, t.m.legal = true) (hs : ∀ t ∈ strs, t.s.isEmpty = false) (hw : ∀ t ∈ strs, ValidWindow t.w t.s)
    (hlen : (atomsFor strs).length < 2 ^ 32) (T : Tables) (hb : build (atomsFor strs) = some T)
    (t : TStr) (ht : t ∈ strs) (buf : Bytes)
    (h19 : ∀ o, variantsAt (anyKey t.m) t.s buf o = variantsAt t.m t.s buf o) (h20 : ∀ o, ¬ MixedAt t.m t.s buf o) :
    let C := (scan T buf).filterMap fun x => if x.1 = t.idx then some (x.2.1, x.2.2) else none
    (pipeline t.m t.s buf C).map (·.off) = (occurrences t.m t.s buf).map (·.1) ∧
    (∀ x ∈ pipeline t.m t.s buf C, (x.len, x.key) ∈ admissibleAt t.m t.s buf x.off) ∧
    Asc (pipeline t.m t.s buf C) := by
  intro C
  have hne : ∀ a ∈ atomsFor strs, a.2.bytes ≠ [] := by
    intro a ha
    unfold atomsFor at ha
    simp only [List.mem_flatMap, List.mem_map] at ha
    obtain ⟨t', ht', a', ha', rfl⟩ := ha
    exact atomsOf_bytes_ne_nil (hleg t' ht') (by have := hs t' ht'; rintro h; simp [h] at this) (hw t' ht') a' ha'
  have hC : CandsOK t.w t.m t.s buf C :=
    build_candsOK (atomsFor strs) (backtrack_of_ne_nil hne) hlen T hb t.idx t.w t.m t.s (mem_atomsFor hidx ht) buf
  exact pipeline_exact_partial t.w t.m t.s buf C (hleg t ht) (hs t ht) (hw t ht) hC h19 h20

/-! Non-vacuity: two strings sharing a prefix in one automaton ("abcd" nocase-free ascii, "abce" wide+ascii); the built
    automaton's scan, filtered per string and run through the pipeline, reports each string's occurrences. -/
example :
    let m1 : Mods := { ascii := true, wide := false, nocase := false, fullword := false, xor := none }
    let m2 : Mods := { ascii := true, wide := true, nocase := false, fullword := false, xor := none }
    let strs : List TStr := [⟨0, 0, m1, [0x61, 0x62, 0x63, 0x64]⟩, ⟨1, 0, m2, [0x61, 0x62, 0x63, 0x65]⟩]
    let buf : Bytes := [0x2e, 0x61, 0x62, 0x63, 0x64, 0x61, 0x62, 0x63, 0x65, 0x61, 0x00, 0x62, 0x00, 0x63, 0x00, 0x65, 0x00]
    (build (atomsFor strs)).map (fun T =>
      (strs.map fun t => (pipeline t.m t.s buf ((scan T buf).filterMap fun x => if x.1 = t.idx then some (x.2.1, x.2.2) else none)).map (·.off))) =
      some [[1], [5, 9]] := by
  intro m1 m2 strs buf
  rw [build_map_scan (atomsFor strs) (by decide +kernel) buf fun S => strs.map fun t =>
    (pipeline t.m t.s buf (S.filterMap fun x => if x.1 = t.idx then some (x.2.1, x.2.2) else none)).map (·.off)]
  decide +kernel

/-- the chain of `text_strings_end_to_end` for a single string, as a function -/
def chainOffsets (t : TStr) (buf : Bytes) : Option (List Nat) :=
  (build (atomsFor [t])).map fun T =>
    (pipeline t.m t.s buf ((scan T buf).filterMap fun x => if x.1 = t.idx then some (x.2.1, x.2.2) else none)).map (·.off)

/-- **F19 (known finding), negation witness.** Without `h19` the statement is false: `ascii wide xor(4-7)`, atom window 5 —
    the buffer holds the string xored with key 3 (out of range) at offset 0; an in-range wide atom (same window, the other encoding, key 4) raises a
    verification at that offset and the verification accepts any key. The chain reports offset 0, the documented occurrences
    are none. (corpus/C01 case k0, replayed on the real code by the check.) -/
theorem full_statement_false_without_h19 :
    let m : Mods := { ascii := true, wide := true, nocase := false, fullword := false, xor := some (4, 7) }
    let s : Bytes := [0x42, 0xcc, 0x01, 0x00, 0x41, 0x63, 0x90, 0x20, 0xc4, 0x42]
    let buf : Bytes := [0x41, 0xcf, 0x02, 0x03, 0x42, 0x60, 0x93, 0x23, 0xc7, 0x41, 0x67, 0x04, 0x94, 0x04, 0x24, 0x04, 0xc0, 0x04, 0x46, 0x04,
      0x41, 0x20, 0x09, 0x4b, 0x87, 0x4b, 0x4a, 0x4b, 0x4b, 0x4b, 0x0a, 0x4b, 0x28, 0x4b, 0xdb, 0x4b, 0x6b, 0x4b, 0x8f, 0x4b, 0x09, 0x4b]
    m.legal = true ∧ (5 + min 4 s.length ≤ s.length) ∧ chainOffsets ⟨0, 5, m, s⟩ buf = some [0] ∧ (occurrences m s buf).map (·.1) = [] := by
  intro m s buf
  refine ⟨by decide, by decide, ?_, by decide +kernel⟩
  have hat : ∀ a, (0, a) ∈ atomsFor [⟨0, 5, m, s⟩] ↔ a ∈ atomsOf 5 m s := by simp [atomsFor]
  show (build (atomsFor [⟨0, 5, m, s⟩])).map (fun T => (pipeline m s buf (candsOf T buf 0)).map (·.off)) = some [0]
  rw [build_pipeline_offs _ (by decide +kernel) 0 5 m s hat buf]
  decide +kernel

/-- **F20 (known finding), negation witness.** Without `h20` the statement is false: `ascii wide fullword` on a string with NUL
    bytes — at offset 11 both encodings occur, the ascii one fails `fullword`, the wide one passes; verification stops at the
    first encoding that compares equal and reports nothing, the documented occurrences contain offset 11. -/
theorem full_statement_false_without_h20 :
    let m : Mods := { ascii := true, wide := true, nocase := false, fullword := true, xor := none }
    let s : Bytes := [0x42, 0x00, 0x00]
    let buf : Bytes := [0x30, 0x39, 0xff, 0x00, 0x20, 0x39, 0x01, 0xff, 0x39, 0x00, 0x42, 0x42, 0x00, 0x00, 0x00, 0x00, 0x00, 0x20, 0x7a, 0x5f,
      0x42, 0x30, 0x00, 0x42, 0x90, 0x00, 0x42, 0x20, 0x00, 0x42, 0x00, 0x20, 0x42, 0x00, 0x01]
    m.legal = true ∧ (0 + min 4 s.length ≤ s.length) ∧ chainOffsets ⟨0, 0, m, s⟩ buf = some [] ∧ (occurrences m s buf).map (·.1) = [11] := by
  intro m s buf
  refine ⟨by decide, by decide, ?_, by decide +kernel⟩
  have hat : ∀ a, (0, a) ∈ atomsFor [⟨0, 0, m, s⟩] ↔ a ∈ atomsOf 0 m s := by simp [atomsFor]
  show (build (atomsFor [⟨0, 0, m, s⟩])).map (fun T => (pipeline m s buf (candsOf T buf 0)).map (·.off)) = some []
  rw [build_pipeline_offs _ (by decide +kernel) 0 0 m s hat buf]
  decide +kernel

end YaraModel.Text
