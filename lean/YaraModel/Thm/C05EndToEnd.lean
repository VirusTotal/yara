/-
  C05 — independence of the company, end to end over the model (property theorems only).
  `Thm/C05.company_independent` assumes the automaton contract for both compilations; `Thm/AcBuild` proves the contract for the
  automaton the construction builds.  Composed (through `Thm/C01EndToEnd`): the SAME text string compiled in two DIFFERENT rule
  sets — alone or among arbitrary other strings, with whatever atom window each compilation picked, at whatever index —
  reports the same offsets on every buffer, namely its documented occurrences.
-/
import YaraModel.Thm.C01EndToEnd
namespace YaraModel.Text
open YaraModel.AC YaraModel.AC.Build

/-- **Independence of the company, with the automata built rather than assumed.**  `t₁ ∈ strs₁` and `t₂ ∈ strs₂` are the same
    string (same bytes, same modifiers) in two rule sets; indices, atom windows and all the OTHER strings may differ.  For the
    automata built from each set's atoms and every buffer, both compilations report exactly the documented occurrences — hence
    the same offsets. -/
theorem company_independent_end_to_end (strs₁ strs₂ : List TStr)
    (hi₁ : (strs₁.map (·.idx)).Nodup) (hi₂ : (strs₂.map (·.idx)).Nodup)
    (hl₁ : ∀ t ∈ strs₁, t.m.legal = true) (hl₂ : ∀ t ∈ strs₂, t.m.legal = true)
    (hs₁ : ∀ t ∈ strs₁, t.s.isEmpty = false) (hs₂ : ∀ t ∈ strs₂, t.s.isEmpty = false)
    (hw₁ : ∀ t ∈ strs₁, ValidWindow t.w t.s) (hw₂ : ∀ t ∈ strs₂, ValidWindow t.w t.s)
    (hn₁ : (atomsFor strs₁).length < 2 ^ 32) (hn₂ : (atomsFor strs₂).length < 2 ^ 32)
    (T₁ T₂ : Tables) (hb₁ : build (atomsFor strs₁) = some T₁) (hb₂ : build (atomsFor strs₂) = some T₂)
    (t₁ t₂ : TStr) (ht₁ : t₁ ∈ strs₁) (ht₂ : t₂ ∈ strs₂) (hm : t₁.m = t₂.m) (hss : t₁.s = t₂.s) (buf : Bytes)
    (h19 : ∀ o, variantsAt (anyKey t₁.m) t₁.s buf o = variantsAt t₁.m t₁.s buf o) (h20 : ∀ o, ¬ MixedAt t₁.m t₁.s buf o) :
    (pipeline t₁.m t₁.s buf (candsOf T₁ buf t₁.idx)).map (·.off) = (pipeline t₂.m t₂.s buf (candsOf T₂ buf t₂.idx)).map (·.off) ∧
    (pipeline t₁.m t₁.s buf (candsOf T₁ buf t₁.idx)).map (·.off) = (occurrences t₁.m t₁.s buf).map (·.1) := by
  have a := (text_strings_end_to_end strs₁ hi₁ hl₁ hs₁ hw₁ hn₁ T₁ hb₁ t₁ ht₁ buf h19 h20).1
  have b := (text_strings_end_to_end strs₂ hi₂ hl₂ hs₂ hw₂ hn₂ T₂ hb₂ t₂ ht₂ buf (by rw [← hm, ← hss]; exact h19)
    (by rw [← hm, ← hss]; exact h20)).1
  refine ⟨?_, a⟩
  unfold candsOf
  rw [a, b, hm, hss]

/-! Non-vacuity: "abcd" alone (index 0, window 0) and in a company of three strings sharing prefixes and suffixes with it
    (index 2, window 0): same offsets from the two built automata. -/
example :
    let m : Mods := { ascii := true, wide := false, nocase := false, fullword := false, xor := none }
    let s : Bytes := [0x61, 0x62, 0x63, 0x64]
    let alone : List TStr := [⟨0, 0, m, s⟩]
    let company : List TStr := [⟨0, 0, m, [0x61, 0x62, 0x63, 0x78]⟩, ⟨1, 0, m, [0x62, 0x63, 0x64, 0x65]⟩, ⟨2, 0, m, s⟩]
    let buf : Bytes := [0x61, 0x62, 0x63, 0x64, 0x65, 0x2e, 0x61, 0x62, 0x63, 0x78, 0x61, 0x62, 0x63, 0x64]
    (build (atomsFor alone)).map (fun T => (pipeline m s buf (candsOf T buf 0)).map (·.off)) = some [0, 10] ∧
    (build (atomsFor company)).map (fun T => (pipeline m s buf (candsOf T buf 2)).map (·.off)) = some [0, 10] := by
  intro m s alone company buf
  have h (strs : List TStr) (i : Nat) (hsmall : smallAtoms (atomsFor strs) = true) :=
    build_map_scan (atomsFor strs) hsmall buf fun S =>
      (pipeline m s buf (S.filterMap fun x => if x.1 = i then some (x.2.1, x.2.2) else none)).map (·.off)
  constructor
  · exact (h alone 0 (by decide +kernel)).trans (by decide +kernel)
  · exact (h company 2 (by decide +kernel)).trans (by decide +kernel)

end YaraModel.Text
