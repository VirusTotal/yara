/-
  C12 — Shortcuts never change a verdict: the three string flags derived from a condition
  (definitions in Spec/CondFlags.lean, over the condition language `Expr` / `Env` / `eval` of Spec/Cond.lean).
  Each theorem holds for ALL environments and ALL expressions (induction along the recursion of `usesOk` / `needsMatch`,
  nested lists included).
-/
import YaraModel.Lemmas.CondFlags
namespace YaraModel.Cond

/-- **fixed_offset_sound** (STRING_FLAGS_FIXED_OFFSET): if every use of string `n` in the condition is `$n at k` with the
    one integer literal `k` (or `$ at k` inside a `for..of` over a set containing it), then discarding all matches of
    string `n` at other offsets changes the value of no expression — in any loop context whose placeholder is not `n`. -/
theorem fixed_offset_sound (env : Env) (n : Nat) (k : Int) (l : LEnv) (e : Expr)
    (hl : l.cur ≠ some n) (h : onlyAt n k e = true) :
    eval (restrictAt env n k) l e = eval env l e :=
  agree (sameBut_restrictAt env n k) e false l (fun hc => absurd hc hl) h

theorem fixed_offset_verdict (env : Env) (n : Nat) (k : Int) (cond : Expr) (h : onlyAt n k cond = true) :
    ruleVerdict (restrictAt env n k) cond = ruleVerdict env cond := by
  unfold ruleVerdict
  rw [fixed_offset_sound env n k {} cond (by simp) h]

example : onlyAt 0 5 (.and (.foundAt (.id 0) (.int 5)) (.cmp .gt (.count (.id 1)) (.int 0))) = true ∧
    onlyAt 0 5 (.or (.foundAt (.id 0) (.int 5)) (.foundAt (.id 0) (.int 6))) = false ∧
    onlyAt 0 5 (.forOf .any (.int 0) [0, 1] (.foundAt .cur (.int 5))) = true ∧
    (restrictAt ⟨[[(0, 2), (5, 2)], [(1, 1)]], [], 9, [], [], [], default⟩ 0 5).strs = [[(5, 2)], [(1, 1)]] := by decide

/-- **single_match_sound** (STRING_FLAGS_SINGLE_MATCH with fast mode): if string `n` is only tested for presence
    (`$n`, membership in a plain `N of` / `P% of` set, `$` in the body of a `for..of`), then keeping only its first
    match changes the value of no expression — in any loop context whose placeholder is not `n`.
    Not covered (rejected by `onlyFound`): `#n`, `@n`, `!n`, `$n at/in`, and sets of `of … at/in` containing `n`. -/
theorem single_match_sound (env : Env) (n : Nat) (l : LEnv) (e : Expr)
    (hl : l.cur ≠ some n) (h : onlyFound n e = true) :
    eval (firstOnly env n) l e = eval env l e :=
  agree (sameBut_firstOnly env n) e false l (fun hc => absurd hc hl) h

theorem single_match_verdict (env : Env) (n : Nat) (cond : Expr) (h : onlyFound n cond = true) :
    ruleVerdict (firstOnly env n) cond = ruleVerdict env cond := by
  unfold ruleVerdict
  rw [single_match_sound env n {} cond (by simp) h]

example : onlyFound 0 (.and (.found (.id 0)) (.ofStr .all (.int 0) [0, 1])) = true ∧
    onlyFound 0 (.forOf .any (.int 0) [0, 1] (.and (.found .cur) (.cmp .lt (.filesize) (.int 9)))) = true ∧
    onlyFound 0 (.cmp .eq (.count (.id 0)) (.int 2)) = false ∧
    (firstOnly ⟨[[(0, 2), (5, 2)], [(1, 1)]], [], 9, [], [], [], default⟩ 0).strs = [[(0, 2)], [(1, 1)]] := by decide

/-- **needs_match_sound** (`required_strings > 0`, exec.c OP_INIT_RULE skipping the rule): a condition that `needsMatch`
    accepts is false — in every loop context, so in particular as a rule condition — whenever no string of the rule
    has a match.  `needsMatch` mirrors grammar.y's `required_strings.count` (`$a`, `$a at e`, `$a in (..)`, `all/any/N of S
    [in (..)] [at e]` and `P% of S` with positive LITERAL N / P, `and` = sum, `or` = minimum, everything else 0).
    Not covered: quantifiers / percentages that are constant EXPRESSIONS folded by the compiler (`(1+1) of them`). -/
theorem needs_match_sound (env : Env) (e : Expr) (h : needsMatch e = true)
    (h0 : ∀ n, env.strs.getD n [] = []) : asBool (eval env {} e) = false :=
  needsMatch_false env h0 e {} h

theorem needs_match_verdict (env : Env) (cond : Expr) (h : needsMatch cond = true)
    (h0 : ∀ n, env.strs.getD n [] = []) : ruleVerdict env cond = false :=
  needs_match_sound env cond h h0

example : needsMatch (.and (.cmp .lt .filesize (.int 9)) (.or (.found (.id 0)) (.ofStr .num (.int 2) [0, 1]))) = true ∧
    needsMatch (.or (.found (.id 0)) (.cmp .lt .filesize (.int 9))) = false ∧
    needsMatch (.not (.found (.id 0))) = false ∧ needsMatch (.ofStr .none (.int 0) [0]) = false := by decide

example : (∀ n, (⟨[[], []], [], 3, [], [], [], default⟩ : Env).strs.getD n [] = []) := by
  intro n
  match n with
  | 0 => rfl
  | 1 => rfl
  | _ + 2 => rfl

end YaraModel.Cond
