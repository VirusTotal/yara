/-
  C10 — A scanner's results do not depend on its scan history.
  Property theorems only (helpers: Lemmas/ScannerFrame.lean, Lemmas/ScannerHistory.lean).
  Model: Model/Scanner.lean (`scanCall` = yr_scanner_scan_mem_blocks), formulation: Spec/Scanner.lean.
  All statements quantify over EVERY parameter instantiation `P` (rules, conditions, matchers, modules),
  every history (unbounded list of calls with arbitrary iterators: any blocks, any not-ready / stall /
  error behaviour, any callback reactions, any stack size), every clock value.
  `Variant.fixed` = the code with notes/C10-entry-point-reset.diff and notes/C10-abandoned-scan.diff;
  `Variant.current` = yara 4.5.2 as found, for which the property is REFUTED below (F6, F7).
-/
import YaraModel.Lemmas.ScannerHistory
namespace YaraModel.Scan

/-- **`_exit` restores a clean scanner for every outcome** (success, CALLBACK_ABORT / CALLBACK_ERROR at any
    message, timeout, too-many-matches, iterator error, evaluation error, missing callback) — every result
    code except "suspended by a not-ready block". Holds for the current code too. -/
theorem scan_restores_clean (P : Params) (v : Variant) (cb : Nat → CbRet) (stack : Nat) (s : Sc) (it : It) (w : World)
    (hm : s.core.modules = []) (h : (scanCall P v cb stack s it w).rc ≠ .blockNotReady) :
    (scanCall P v cb stack s it w).sc.core.Clean :=
  scanCall_clean hm h

/-- **Pending pieces of chained strings never survive a scan**: whatever the outcome (other than "suspended"), the lists of
    unconfirmed matches (`unconfirmed_matches[]`, heads of `{ .. [-] .. }` / large-jump chains waiting for their tail) are
    empty afterwards, as are the confirmed matches — so `history_independent` covers chained strings: a tail in a later
    scan can never be combined with a head of an earlier one. -/
theorem unconfirmed_never_survive (P : Params) (v : Variant) (cb : Nat → CbRet) (stack : Nat) (s : Sc) (it : It) (w : World)
    (hm : s.core.modules = []) (h : (scanCall P v cb stack s it w).rc ≠ .blockNotReady) :
    (scanCall P v cb stack s it w).sc.core.unconfirmed = [] ∧ (scanCall P v cb stack s it w).sc.core.found = [] :=
  ⟨(scanCall_clean hm h).unconfirmed, (scanCall_clean hm h).found⟩

/-- Along every history the scanner is either clean or holds a suspended scan (with its notebook);
    loaded modules never survive a call. -/
theorem history_invariant (P : Params) (v : Variant) (set : Settings) (w : World) (h : List HOp) (hv : reuseOk v h) :
    let st := runH P v (HSt.init set w) h
    st.sc.core.modules = [] ∧ (st.sc.core.notebook = false → st.sc.core.Clean) ∧
    (st.lastRc = .blockNotReady ↔ st.sc.core.notebook = true) := by
  have := runH_inv (P := P) (HInv.init set w) hv
  refine ⟨this.inv.modules, this.inv.clean, this.susp, fun hn => ?_⟩
  by_cases hl : (runH P v (HSt.init set w) h).lastRc = .blockNotReady
  · exact hl
  · have := this.idle hl; rw [hn] at this; cases this

/-- **Settings survive every scan, whatever its outcome**: after any history (scans of every kind, `yr_scanner_scan_proc`
    with any process memory or failing to attach, suspended / abandoned scans) the scanner's flags, timeout and callback
    are exactly what the last `yr_scanner_set_*` calls made them (`settingsAfter`). Holds for both variants. -/
theorem settings_survive (P : Params) (v : Variant) (set : Settings) (w0 : World) (h : List HOp) :
    (runH P v (HSt.init set w0) h).sc.set = settingsAfter set h := by
  suffices ∀ st : HSt, (runH P v st h).sc.set = settingsAfter st.sc.set h from this _
  intro st
  induction h generalizing st with
  | nil => rfl
  | cons op ops ih =>
    simp only [runH]
    rw [ih, stepH_set]
    cases op <;> rfl

/-- **History independence** (code with the two fixes): after ANY history `h` — scans that succeeded, were
    aborted or failed from the callback, timed out, hit the match limit, failed in verification or evaluation, were
    suspended and resumed, or suspended and abandoned, process scans, changes of flags / timeout between scans —
    a scan `x` (its first call and any number `k` of repetitions while it is suspended) produces, call by call,
    exactly the callback trace and result code it produces on a newly created scanner with the same settings
    (= the settings last given to the scanner, `settings_survive`). -/
theorem history_independent (P : Params) (set : Settings) (w0 : World)
    (h : List HOp) (x : Start) (k : Nat) (hcb : (settingsAfter set h).hasCallback = true) :
    let st := runH P .fixed (HSt.init set w0) h
    tracesH P .fixed st (.start x :: List.replicate k .cont) =
      tracesH P .fixed (HSt.init (settingsAfter set h) st.w) (.start x :: List.replicate k .cont) := by
  intro st
  have hset : st.sc.set = settingsAfter set h := settings_survive P .fixed set w0 h
  exact tracesH_forgets_history P st _ _ _ (runH_inv (HInv.init set w0) (reuseOk_fixed h))
    (hset ▸ hcb) (by rw [hset]; rfl) rfl (.inl ⟨x, rfl⟩)

/-- **… also when the caller re-uses its iterator object without resetting `last_error`** (e.g. after a scan in which a block
    was "not ready" during rule evaluation — finding F27 — which returns success but leaves ERROR_BLOCK_NOT_READY there):
    unless a suspended scan is really pending (the last call returned ERROR_BLOCK_NOT_READY), the next scan with that
    iterator, whatever stale `last_error` it carries, gives the trace and result of the same call on a new scanner. Nothing
    of the earlier scan is carried over: no matches, no flags, no skipped blocks. (Code with the fixes; needs
    "resume only when a scan is pending", /repo 434a87f.) -/
theorem history_independent_reused_iterator (P : Params) (set : Settings) (w0 : World)
    (h : List HOp) (x : Start) (k : Nat) (hcb : (settingsAfter set h).hasCallback = true) :
    let st := runH P .fixed (HSt.init set w0) h
    st.lastRc ≠ .blockNotReady →
    tracesH P .fixed st (.reuse x :: List.replicate k .cont) =
      tracesH P .fixed { HSt.init (settingsAfter set h) st.w with it := st.it } (.reuse x :: List.replicate k .cont) := by
  intro st hidle
  have hset : st.sc.set = settingsAfter set h := settings_survive P .fixed set w0 h
  exact tracesH_forgets_history P st _ _ _ (runH_inv (HInv.init set w0) (reuseOk_fixed h))
    (hset ▸ hcb) (by rw [hset]; rfl) rfl (.inr ⟨⟨x, rfl⟩, hidle, rfl⟩)

/-- A scanner without a callback reports nothing, whatever its history. -/
theorem no_callback_no_trace (P : Params) (v : Variant) (cb : Nat → CbRet) (stack : Nat) (s : Sc) (it : It) (w : World)
    (hcb : s.set.hasCallback = false) :
    (scanCall P v cb stack s it w).msgs = [] ∧ (scanCall P v cb stack s it w).rc = .callbackRequired := by
  rw [scanCall_noCallback hcb]
  exact ⟨rfl, rfl⟩

/-- **No notebook is leaked** (code with the fixes): neither by starting a scan over a suspended one nor by
    destroying the scanner after any prefix of any history. -/
theorem no_leak (P : Params) (set : Settings) (w : World) (h : List HOp) (it : It) :
    let st := runH P .fixed (HSt.init set w) h
    callLeaks .fixed st.sc it = 0 ∧ destroyLeaks .fixed st.sc = 0 := by
  simp [callLeaks, destroyLeaks, Variant.fixed]

namespace Witness

/-- rule 0: `entrypoint >= 0` (no strings); rule 1: `#s0 >= 2` -/
def P : Params :=
  { rules := [⟨0, false, false, true, []⟩, ⟨0, false, false, true, [0]⟩]
    imports := []
    strRule := fun _ => 1
    maxMatches := 1000
    cands := fun d => if d = 2 then [⟨0, 1, 3⟩] else if d = 3 then [⟨0, 2, 3⟩] else []   -- data 2 / 3: string 0 at offset 1 / 2
    ep := fun _ d _ _ => if d = 0 then some 512 else none      -- data 0: an executable with entry point 512
    singleMatch := fun _ => false, chain := fun _ => none, pruneSlack := 1028
    scanErr := fun _ => none
    cond := fun i v => if i = 0 then .ret v.entryPoint.isSome else .ret (decide ((tget v.found 0).length ≥ 2))
    modParse := fun _ _ => none }

def set : Settings := ⟨true, true, 0, true, false, false⟩
def cont : Nat → CbRet := fun _ => .cont
def exe : Start := ⟨[⟨0, 64, some 0⟩], [], some 64, cont, 16⟩
def text : Start := ⟨[⟨0, 8, some 1⟩], [], some 8, cont, 16⟩
/-- two blocks, the iterator answers "not ready" when asked for the second one -/
def slow : Start := ⟨[⟨0, 4, some 2⟩, ⟨4, 4, some 1⟩], [.ok, .notReady], some 8, cont, 16⟩
def once : Start := ⟨[⟨0, 5, some 3⟩], [], some 5, cont, 16⟩
def w0 : World := ⟨0, 0⟩

end Witness

open Witness in
/-- **F6**: with the code as found, a plain-text buffer scanned after an executable is reported as having
    an entry point (`entrypoint >= 0` matches); on a new scanner it is not. -/
theorem current_code_entry_point_leaks :
    tracesH P .current (runH P .current (HSt.init set w0) [.start exe]) [.start text]
      = [some ([.ruleMatching 0 [], .ruleNotMatching 1 [(0, [])], .scanFinished], .success)] ∧
    tracesH P .current (HSt.init set w0) [.start text]
      = [some ([.ruleNotMatching 0 [], .ruleNotMatching 1 [(0, [])], .scanFinished], .success)] := by
  decide +kernel

open Witness in
/-- **F7**: with the code as found, a scan abandoned after ERROR_BLOCK_NOT_READY leaves its matches behind:
    the next scan sees the string twice (`#s0 >= 2` matches, both occurrences reported), a new scanner
    sees it once; one notebook is lost when the next scan starts, and one if the scanner is destroyed
    instead. -/
theorem current_code_abandoned_scan_leaks :
    tracesH P .current (runH P .current (HSt.init set w0) [.start slow]) [.start once]
      = [some ([.ruleNotMatching 0 [], .ruleMatching 1 [(0, [⟨0, 1, 3⟩, ⟨0, 2, 3⟩])], .scanFinished], .success)] ∧
    tracesH P .current (HSt.init set w0) [.start once]
      = [some ([.ruleNotMatching 0 [], .ruleNotMatching 1 [(0, [⟨0, 2, 3⟩])], .scanFinished], .success)] ∧
    callLeaks .current (runH P .current (HSt.init set w0) [.start slow]).sc once.it = 1 ∧
    destroyLeaks .current (runH P .current (HSt.init set w0) [.start slow]).sc = 1 := by
  decide +kernel

open Witness in
/-- the same two histories with the fixes: as `history_independent` says -/
example :
    tracesH P .fixed (runH P .fixed (HSt.init set w0) [.start exe]) [.start text] =
      tracesH P .fixed (HSt.init set w0) [.start text] ∧
    tracesH P .fixed (runH P .fixed (HSt.init set w0) [.start slow]) [.start once] =
      tracesH P .fixed (HSt.init set w0) [.start once] := by
  decide +kernel

open Witness in
/-- the situation of `history_independent_reused_iterator`, concretely: the iterator answers "not ready" to the second block and
    is re-used, stale `last_error` included, after the scan was abandoned... with the fixes the re-used iterator starts a fresh
    scan of the other data; the 4.5.2 code resumed instead (`Variant.current`): no scan of the first block, stale matches. -/
example :
    let h : List HOp := [.start slow, .start once]          -- abandon the suspended scan, complete another one
    (runH P .fixed (HSt.init set w0) h).lastRc = .success ∧
    tracesH P .fixed (runH P .fixed (HSt.init set w0) [.start slow]) [.start once, .reuse once] =
      [some ([.ruleNotMatching 0 [], .ruleNotMatching 1 [(0, [⟨0, 2, 3⟩])], .scanFinished], .success),
       some ([.ruleNotMatching 0 [], .ruleNotMatching 1 [(0, [⟨0, 2, 3⟩])], .scanFinished], .success)] := by
  decide +kernel

open Witness in
/-- non-vacuity of `settings_survive` / `history_independent` with flags and process scans: the user sets
    SCAN_FLAGS_PROCESS_MEMORY, a process scan (here: of memory containing the executable) and a failed attach follow;
    the flag is still set, and clearing it later is what `settingsAfter` says. -/
example :
    let pm : Settings := { set with processMemory := true }
    (runH P .fixed (HSt.init set w0) [.config pm, .proc (some exe), .proc none, .start text]).sc.set = pm ∧
    (runH P .fixed (HSt.init set w0) [.config pm, .proc (some exe), .config set, .start exe]).sc.set = set ∧
    (tracesH P .fixed (HSt.init set w0) [.config pm, .proc (some exe), .proc none]).getLast? = some (some ([], .couldNotAttach)) := by
  decide +kernel

open Witness in
/-- non-vacuity of `scan_restores_clean` / `history_invariant`: a history whose scans end in different
    ways; the suspended one really holds state -/
example :
    (runH P .fixed (HSt.init set w0) [.start slow]).lastRc = .blockNotReady ∧
    (runH P .fixed (HSt.init set w0) [.start slow]).sc.core.found = [(0, [⟨0, 1, 3⟩])] ∧
    (runH P .fixed (HSt.init set w0) [.start slow, .cont]).lastRc = .success ∧
    (runH P .fixed (HSt.init set w0) [.start slow, .cont]).sc.core.found = [] := by
  decide +kernel

namespace WitnessChain

/-- one rule `$a` with `$a = { AA BB CC DD [-] EE FF 00 11 }`: string 0 is the head piece, string 1 the tail piece -/
def P : Params :=
  { rules := [⟨0, false, false, false, [0, 1]⟩]
    imports := []
    strRule := fun _ => 0
    maxMatches := 1000
    cands := fun d => if d = 0 then [⟨0, 10, 4⟩] else if d = 1 then [⟨1, 40, 4⟩] else if d = 2 then [⟨0, 10, 4⟩, ⟨1, 40, 4⟩] else []
    ep := fun _ _ _ _ => none
    singleMatch := fun _ => false
    chain := fun s => if s = 0 then some ⟨none, 0, 0, false⟩ else if s = 1 then some ⟨some 0, 0, 2147483647, true⟩ else none
    pruneSlack := 1028
    scanErr := fun _ => none
    cond := fun _ v => .ret (!(tget v.found 0).isEmpty)
    modParse := fun _ _ => none }

def set : Settings := ⟨true, true, 0, true, false, false⟩
def cont : Nat → CbRet := fun _ => .cont
def headOnly : Start := ⟨[⟨0, 64, some 0⟩], [], some 64, cont, 16⟩
def tailOnly : Start := ⟨[⟨0, 64, some 1⟩], [], some 64, cont, 16⟩
def both : Start := ⟨[⟨0, 64, some 2⟩], [], some 64, cont, 16⟩
/-- the head-only buffer followed by a block that is not ready: the scan is suspended with the head pending -/
def headThenWait : Start := ⟨[⟨0, 64, some 0⟩, ⟨64, 8, some 3⟩], [.ok, .notReady], some 72, cont, 16⟩

end WitnessChain

open WitnessChain in
/-- chained strings in histories: the whole pattern matches (offset 10, length 34); a head alone is pending only DURING
    its scan (visible while that scan is suspended) and is gone afterwards; a later scan containing only the tail reports
    nothing — on the re-used scanner exactly as on a new one. -/
example :
    tracesH P .fixed (HSt.init set ⟨0, 0⟩) [.start both] = [some ([.ruleMatching 0 [(0, [⟨0, 10, 34⟩]), (1, [])], .scanFinished], .success)] ∧
    (runH P .fixed (HSt.init set ⟨0, 0⟩) [.start headThenWait]).sc.core.unconfirmed = [(0, [⟨0, 10, 4, 0⟩])] ∧
    (runH P .fixed (HSt.init set ⟨0, 0⟩) [.start headOnly]).sc.core.unconfirmed = [] ∧
    tracesH P .fixed (runH P .fixed (HSt.init set ⟨0, 0⟩) [.start headOnly]) [.start tailOnly] =
      [some ([.ruleNotMatching 0 [(0, []), (1, [])], .scanFinished], .success)] ∧
    tracesH P .fixed (runH P .fixed (HSt.init set ⟨0, 0⟩) [.start headThenWait]) [.start tailOnly] =
      tracesH P .fixed (HSt.init set ⟨0, 0⟩) [.start tailOnly] := by
  decide +kernel

end YaraModel.Scan
