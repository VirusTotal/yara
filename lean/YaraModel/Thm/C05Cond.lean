/-
  C05 — A rule's result does not depend on what else is compiled with it: CONDITION level (property theorems only).
  Thm/C05.lean settles the string level (the shared automaton's contract makes each string's match list a function of the
  string and the buffer).  Here: given those match lists, the verdict of a rule is the same in every rule set that
  contains the rule and the rules it refers to — whatever other rules are defined before, between or after them.
  The condition language and `evalRules` are those of Spec/Cond.lean (tied to exec.c by C04's correspondence).
-/
import YaraModel.Lemmas.CondDeps
namespace YaraModel.Cond

/-- **Independence of the company, condition level.**  `small` is a rule set in which every rule refers only to earlier
    rules (the compiler admits nothing else); `big` is ANY rule set that contains the rules of `small` in the same order
    at positions `pos 0 < pos 1 < …` (identifiers re-resolved to the new positions), among arbitrary other rules with
    arbitrary strings and conditions.  For every memory-block layout, file size and set of external values, each rule
    of `small` gets in `big` the verdict it gets in `small`. -/
theorem verdict_company_independent (blocks : List (Nat × Bytes)) (filesize : Int) (ext : List (String × Val))
    (pos : Nat → Nat) (small big : List Rule) (E : Embeds pos small big) (B : BackRefs small) :
    ∀ i, i < small.length →
      (evalRules blocks filesize ext big []).getD (pos i) false = (evalRules blocks filesize ext small []).getD i false := by
  -- the case of `verdictD_company_independent` with no rule switched off and the placeholder double operations
  simp only [← evalRulesD_nil]
  exact verdictD_company_independent blocks filesize ext _ [] [] pos small big E B fun _ _ => rfl

/-- Special case: a rule that names no other rule has the verdict it has when compiled ALONE, wherever it stands. -/
theorem verdict_alone (blocks : List (Nat × Bytes)) (filesize : Int) (ext : List (String × Val))
    (r : Rule) (hr : ruleRefs r.cond = []) (before after : List Rule) :
    (evalRules blocks filesize ext (before ++ r :: after) []).getD before.length false =
      (evalRules blocks filesize ext [r] []).getD 0 false := by
  have hfix : renameRules (fun _ => before.length) r.cond = r.cond :=
    renameRules_eq_self _ r.cond (by rw [hr]; intro k hk; cases hk)
  have E : Embeds (fun _ => before.length) [r] (before ++ r :: after) :=
    { mono := fun i j hij hj => by simp only [List.length_singleton] at hj; omega
      inside := fun _ _ => by simp
      same := fun i hi _ => by
        obtain rfl : i = 0 := by simpa using hi
        simp [hfix] }
  have B : BackRefs [r] := fun i hi k hk => by
    obtain rfl : i = 0 := by simpa using hi
    simp [hr] at hk
  exact verdict_company_independent blocks filesize ext _ [r] _ E B 0 (by simp)

/-! Non-vacuity: `r0: #s0 > 0`, `r1: r0 and filesize > 10`; in the big set two unrelated rules (one true, one referring to
    r0 negatively) are put before and between them: same verdicts at the new positions. -/
example :
    let r0 : Rule := { strs := [[(3, 2)]], cond := .cmp .gt (.count (.id 0)) (.int 0) }
    let r1 : Rule := { strs := [], cond := .and (.ruleRef 0) (.cmp .gt .filesize (.int 10)) }
    let x : Rule := { strs := [], cond := .tt }
    let y : Rule := { strs := [], cond := .not (.ruleRef 1) }
    let pos : Nat → Nat := fun i => if i = 0 then 1 else 3
    evalRules [] 20 [] [r0, r1] [] = [true, true] ∧
    evalRules [] 20 [] [x, r0, y, { r1 with cond := renameRules pos r1.cond }] [] = [true, true, false, true] := by
  decide

end YaraModel.Cond
