/-
  C02 end to end for ONE non-chained hex string in one block: atoms → automaton → candidates → verification → match list,
  with the automaton contract of `scan_complete_ctx` (Lemmas/ReScanComplete.lean) DISCHARGED by the theorems of Thm/AcBuild.lean
  (`build_sound`).  Property theorems only (helpers: Lemmas/HexEndToEnd.lean).
-/
import YaraModel.Thm.C02
import YaraModel.Thm.AcBuild
import YaraModel.Lemmas.HexEndToEnd
namespace YaraModel.C02
open YaraModel.Re YaraModel.ReVm YaraModel.ReEmit YaraModel.ReScan YaraModel.ReAtoms YaraModel.HexE2E YaraModel.ReHexG

/-- `hex_end_to_end_partial`: one non-chained hex string, one block, over the MODEL chain
      `atomsOf q m r` (Model/ReAtoms.lean: what `yr_ac_add_string` receives — masked atoms already expanded into literal
        atoms, or the zero-length atom)
      → `AC.Build.build` of these atoms (Model/AcBuild.lean: trie, failure links, packed transition table)
      → `AC.scan` of the block (Model/AcScan.lean) → `candsOf` (Lemmas/HexEndToEnd.lean: the report of atom number i at offset
        s becomes the verification candidate with the code positions of the node atom i begins at — equal to the
        `fwdRef` / `bwdRef` the atoms model records, `candOfAtom_refs`; zero-length atom: forward code from its beginning)
      → `scanHex` (Model/ReScan.lean: non-exhaustive forward run, exhaustive backward run, match callback, match list).
    For EVERY AST `r` the hex grammar can build (`Gram k r`, Thm/C02 `hexGrammar_builds_HexG`), every quality function of
    the atom heuristic, every buffer:
      (1) SOUND: every (offset, length) in the match list is a match of the pattern;
      (2) COMPLETE: every match [p, q') of the pattern with q' − p ≤ 1024 has its offset p in the match list;
    hence, when every match of the pattern in the block is at most 1024 bytes long, the set of reported offsets is exactly
    the set of offsets the specification admits.
    Remaining hypotheses, all explicit:
      * `hT`   the automaton was built (`build = some`: the transition-table assertion did not fail — `AC.Build.build_some`
               gives it when the atoms have at most 32 637 bytes in total), fewer than 2^32 atoms;
      * `hrun` no verification run of a candidate ends in an error (fiber limit / fuel);
      * code below 32000 bytes, at most 256 alternatives, byte mode, modifiers consistent with the flags.
    `_partial`: what is NOT in the chain: the automaton model's match entries carry a label but no code references — the
    label is the atom's position in the list and the references are looked up (`candsOf`); the byte-level equality of that
    lookup with the real match entries is a tie (atoms tie: `fwdRef` / `bwdRef` vs. the real entries), not a theorem; other
    strings sharing the automaton (`build_sound` holds for any atom list, the filter by string is not modelled here);
    chained strings; several blocks; the fast matcher; matches longer than 1024 bytes. -/
theorem hex_end_to_end_partial (q : Atom → Int) (m : Mods) (k : Kind) (r : Re) (hgram : Gram k r)
    (hszf : (emit false r 0).1.length < 32000) (hidf : (emit false r 0).2 ≤ 256)
    (hszb : (emit true r 0).1.length < 32000) (hidb : (emit true r 0).2 ≤ 256)
    (buf : Bytes) (fl : VmFlags) (hw : fl.wide = false) (hw0 : m.wide = false ∨ m.ascii = true) (hn : m.nocase = fl.nocase)
    (fuel : Nat) (T : YaraModel.AC.Tables) (hlen : (atomsOf q m r).length < 2 ^ 32)
    (hT : YaraModel.AC.Build.build (acAtoms (atomsOf q m r)) = some T)
    (hrun : ∀ c ∈ candsOf r (atomsOf q m r) (YaraModel.AC.scan T buf.toList),
      (∃ m1 c1, exec { code := (emitCode false r).toArray, entry := c.fwd, buf := buf, start := c.off, fl := fwdFlags fl, syncFuel := fuel } = .done m1 c1) ∧
      (∀ b, c.bwd = some b → ∃ m2 c2, exec { code := (emitCode true r).toArray, entry := b, buf := buf, start := c.off, fl := bwdFlags fl, syncFuel := fuel } = .done m2 c2)) :
    (∀ x ∈ scanHex r buf fl fuel (candsOf r (atomsOf q m r) (YaraModel.AC.scan T buf.toList)),
      Re.Matches (specFlags fl) buf r x.1 (x.1 + x.2)) ∧
    (∀ p q', p ≤ buf.size → Re.Matches (specFlags fl) buf r p q' → q' - p ≤ 1024 →
      ∃ len, (p, len) ∈ scanHex r buf fl fuel (candsOf r (atomsOf q m r) (YaraModel.AC.scan T buf.toList))) := by
  obtain ⟨hg, hgr, hmk⟩ := hexGrammar_builds_HexG k r hgram
  have hS := YaraModel.AC.Build.build_sound (acAtoms (atomsOf q m r)) (acAtoms_backtrack _) (acAtoms_length _ ▸ hlen) T hT buf.toList
  constructor
  · exact specFlagsG_eq hw ▸ hex_scan_sound r hg.hexAst hszf hszb buf fl fuel _ (cands_ok hg.hexAst hS)
  · intro p q' hp hm hwin
    exact scan_complete_ctx q m r hg hgr hmk hszf hidf hszb hidb buf fl hw hw0 hn fuel _
      (fun x hx s hs hb => hcands_holds hS hx hs hb) hrun p q' hp hm hwin

/-- the offsets: when no match of the pattern in the block is longer than 1024 bytes, an offset is in the match list iff
    the pattern matches there -/
theorem hex_end_to_end_offsets_partial (q : Atom → Int) (m : Mods) (k : Kind) (r : Re) (hgram : Gram k r)
    (hszf : (emit false r 0).1.length < 32000) (hidf : (emit false r 0).2 ≤ 256)
    (hszb : (emit true r 0).1.length < 32000) (hidb : (emit true r 0).2 ≤ 256)
    (buf : Bytes) (fl : VmFlags) (hw : fl.wide = false) (hw0 : m.wide = false ∨ m.ascii = true) (hn : m.nocase = fl.nocase)
    (fuel : Nat) (T : YaraModel.AC.Tables) (hlen : (atomsOf q m r).length < 2 ^ 32)
    (hT : YaraModel.AC.Build.build (acAtoms (atomsOf q m r)) = some T)
    (hrun : ∀ c ∈ candsOf r (atomsOf q m r) (YaraModel.AC.scan T buf.toList),
      (∃ m1 c1, exec { code := (emitCode false r).toArray, entry := c.fwd, buf := buf, start := c.off, fl := fwdFlags fl, syncFuel := fuel } = .done m1 c1) ∧
      (∀ b, c.bwd = some b → ∃ m2 c2, exec { code := (emitCode true r).toArray, entry := b, buf := buf, start := c.off, fl := bwdFlags fl, syncFuel := fuel } = .done m2 c2))
    (hshort : ∀ p q', Re.Matches (specFlags fl) buf r p q' → q' - p ≤ 1024) (p : Nat) (hp : p ≤ buf.size) :
    (∃ len, (p, len) ∈ scanHex r buf fl fuel (candsOf r (atomsOf q m r) (YaraModel.AC.scan T buf.toList))) ↔
    (∃ q', Re.Matches (specFlags fl) buf r p q') := by
  obtain ⟨h1, h2⟩ := hex_end_to_end_partial q m k r hgram hszf hidf hszb hidb buf fl hw hw0 hn fuel T hlen hT hrun
  constructor
  · rintro ⟨len, h⟩; exact ⟨_, h1 _ h⟩
  · rintro ⟨q', h⟩; exact h2 p q' hp h (hshort p q' h)

/-- instance of the whole chain: `?? 41 42 43 44 ?? 45` (the heuristic picks the interior atom `41 42 43 44`, leaf 1) over
    `x A B C D y E A B C D z A B C D w E`: the automaton is built, reports the atom at offsets 1, 7 and 12, the candidates
    carry the code positions of leaf 1 (forward 1, backward behind the node), and the match list is [(0,7), (11,7)] — the
    occurrence at 7 is followed by `z A`, not by `?? 45` -/
example : (let r : Re := .cat .any (.cat (.lit 0x41) (.cat (.lit 0x42) (.cat (.lit 0x43) (.cat (.lit 0x44) (.cat .any (.lit 0x45))))))
    let buf : Bytes := #[0x78, 0x41, 0x42, 0x43, 0x44, 0x79, 0x45, 0x41, 0x42, 0x43, 0x44, 0x7a, 0x41, 0x42, 0x43, 0x44, 0x77, 0x45]
    (YaraModel.AC.Build.build (acAtoms (atomsOf quality {} r))).map fun T =>
      ((candsOf r (atomsOf quality {} r) (YaraModel.AC.scan T buf.toList)).map (fun c => (c.fwd, c.bwd, c.off)),
       scanHex r buf {} 1000 (candsOf r (atomsOf quality {} r) (YaraModel.AC.scan T buf.toList)))) =
    some ([(1, some 11, 1), (1, some 11, 7), (1, some 11, 12)], [(0, 7), (11, 7)]) := by decide +kernel

end YaraModel.C02
