/-
  64-bit two's-complement C integer semantics carried on `Int` (core Lean only).
  Values are kept in [-2^63, 2^63); `wrap` is what the hardware does on signed overflow
  (formally UB in C; gcc/clang on x86-64/aarch64 wrap for + - * and the shifts used here).
-/
namespace YaraModel.C

def INT64_MAX : Int := 9223372036854775807
def INT64_MIN : Int := -9223372036854775808
/-- `YR_UNDEFINED` = 0xFFFABADAFABADAFF read as int64 -/
def UNDEF : Int := -1483400188077313

def inRange (x : Int) : Prop := INT64_MIN ≤ x ∧ x ≤ INT64_MAX
instance (x : Int) : Decidable (inRange x) := by unfold inRange; exact inferInstance

def wrap (x : Int) : Int := (x + 9223372036854775808) % 18446744073709551616 - 9223372036854775808

def isUndef (x : Int) : Bool := x == UNDEF
def b2i (b : Bool) : Int := if b then 1 else 0

def add (a b : Int) : Int := wrap (a + b)
def sub (a b : Int) : Int := wrap (a - b)
def mul (a b : Int) : Int := wrap (a * b)
def neg (a : Int) : Int := wrap (-a)
/-- C division truncates toward zero; callers guard `b ≠ 0` and `INT64_MIN / -1` -/
def div (a b : Int) : Int := wrap (Int.tdiv a b)
def mod (a b : Int) : Int := Int.tmod a b
/-- `a << b` for 0 ≤ b < 64 (callers guard the range) -/
def shl (a b : Int) : Int := wrap (a * 2 ^ b.toNat)
/-- arithmetic `a >> b` for 0 ≤ b < 64 -/
def shr (a b : Int) : Int := a / 2 ^ b.toNat
def band (a b : Int) : Int := (BitVec.ofInt 64 a &&& BitVec.ofInt 64 b).toInt
def bor (a b : Int) : Int := (BitVec.ofInt 64 a ||| BitVec.ofInt 64 b).toInt
def bxor (a b : Int) : Int := (BitVec.ofInt 64 a ^^^ BitVec.ofInt 64 b).toInt
def bnot (a : Int) : Int := (~~~ BitVec.ofInt 64 a).toInt
/-- glibc `llabs`: `llabs(INT64_MIN)` overflows back to `INT64_MIN` -/
def llabs (a : Int) : Int := if a < 0 then neg a else a

theorem wrap_of_inRange {x : Int} (h : inRange x) : wrap x = x := by
  unfold inRange INT64_MIN INT64_MAX at h
  unfold wrap; omega

theorem wrap_inRange (x : Int) : inRange (wrap x) := by
  unfold inRange INT64_MIN INT64_MAX wrap; omega

theorem isUndef_UNDEF : isUndef UNDEF = true := by decide

theorem isUndef_of_ne {i : Int} (h : i ≠ UNDEF) : isUndef i = false := by
  simp [isUndef, h]

theorem isUndef_b2i (b : Bool) : isUndef (b2i b) = false := by cases b <;> decide

theorem add_exact {a b : Int} (h : inRange (a + b)) : add a b = a + b := wrap_of_inRange h

theorem sub_exact {a b : Int} (h : inRange (a - b)) : sub a b = a - b := wrap_of_inRange h

end YaraModel.C
