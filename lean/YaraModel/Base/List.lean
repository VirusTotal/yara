/- Facts about `List` that core Lean lacks and that more than one stack of proofs uses. -/

universe u v

/-- an invariant of `foldl` that speaks of the part of the list consumed so far; the step may use where in `l` it
    stands (for an invariant of the accumulator alone core has `List.foldlRecOn`) -/
theorem List.foldl_prefix_inv {α : Type u} {β : Type v} {f : β → α → β} (J : List α → β → Prop) (l : List α) {b : β}
    (h0 : J [] b) (step : ∀ pre a post b, l = pre ++ a :: post → J pre b → J (pre ++ [a]) (f b a)) :
    J l (l.foldl f b) := by
  suffices H : ∀ rest pre b, l = pre ++ rest → J pre b → J l (rest.foldl f b) from H l [] b rfl h0
  intro rest
  induction rest with
  | nil => intro pre b hl hj; rw [List.append_nil] at hl; exact hl ▸ hj
  | cons a rest ih =>
    exact fun pre b hl hj => ih (pre ++ [a]) (f b a) (by rw [hl, List.append_assoc]; rfl) (step pre a rest b hl hj)

theorem List.snoc_induction {α : Type u} {P : List α → Prop} (nil : P [])
    (snoc : ∀ (l : List α) (a : α), P l → P (l ++ [a])) : ∀ l, P l := by
  intro l
  rw [← List.reverse_reverse l]
  induction l.reverse with
  | nil => exact nil
  | cons a t ih => simpa using snoc _ _ ih

/-- the sorted insertion without duplicates of `_yr_scan_add_match_to_list` -/
def List.insertKey {α : Type u} (key : α → Nat) (m : α) : List α → List α
  | [] => [m]
  | x :: t => if key m = key x then x :: t else if key m < key x then m :: x :: t else x :: insertKey key m t

theorem List.insertKey_spec {α : Type u} (key : α → Nat) (m : α) (l : List α) :
    (∀ x, x ∈ l → x ∈ insertKey key m l) ∧ (∀ x, x ∈ insertKey key m l → x ∈ l ∨ x = m) ∧
    ∃ y, y ∈ insertKey key m l ∧ key y = key m := by
  fun_induction insertKey key m l with
  | case1 => exact ⟨nofun, fun _ h => .inr (List.mem_singleton.1 h), m, List.mem_singleton.2 rfl, rfl⟩
  | case2 y t h => exact ⟨fun _ h => h, fun _ => .inl, y, List.mem_cons_self, h.symm⟩
  | case3 y t => exact ⟨fun _ => List.mem_cons_of_mem _, fun x hx => (List.mem_cons.1 hx).elim .inr .inl, m, List.mem_cons_self, rfl⟩
  | case4 y t _ _ ih =>
    obtain ⟨ih1, ih2, z, hz, hk⟩ := ih
    refine ⟨fun x hx => ?_, fun x hx => ?_, z, List.mem_cons_of_mem _ hz, hk⟩
    · exact (List.mem_cons.1 hx).elim (fun e => e ▸ List.mem_cons_self) fun h => List.mem_cons_of_mem _ (ih1 x h)
    · exact (List.mem_cons.1 hx).elim (fun e => .inl (e ▸ List.mem_cons_self)) fun h => (ih2 x h).imp_left (List.mem_cons_of_mem _)

theorem List.mem_insertKey_of_mem {α : Type u} (key : α → Nat) (m : α) {l : List α} {x : α} (h : x ∈ l) : x ∈ insertKey key m l :=
  (insertKey_spec key m l).1 x h

theorem List.mem_insertKey {α : Type u} {key : α → Nat} {m x : α} {l : List α} (h : x ∈ insertKey key m l) : x ∈ l ∨ x = m :=
  (insertKey_spec key m l).2.1 x h

theorem List.insertKey_has {α : Type u} (key : α → Nat) (m : α) (l : List α) : ∃ y, y ∈ insertKey key m l ∧ key y = key m :=
  (insertKey_spec key m l).2.2

theorem List.pairwise_insertKey {α : Type u} (key : α → Nat) (m : α) {l : List α} (h : l.Pairwise (fun a b => key a < key b)) :
    (insertKey key m l).Pairwise (fun a b => key a < key b) := by
  fun_induction insertKey key m l with
  | case1 => exact List.pairwise_singleton _ _
  | case2 => exact h
  | case3 y t _ hlt =>
    exact List.pairwise_cons.2 ⟨fun a ha => (List.mem_cons.1 ha).elim (fun e => e ▸ hlt)
      fun h' => Nat.lt_trans hlt ((List.pairwise_cons.1 h).1 a h'), h⟩
  | case4 y t hne hge ih =>
    rw [List.pairwise_cons] at h
    refine List.pairwise_cons.2 ⟨fun a ha => ?_, ih h.2⟩
    rcases mem_insertKey ha with ha' | rfl
    · exact h.1 a ha'
    · omega

theorem List.set_split {α : Type u} {l : List α} {i : Nat} {a : α} (h : l[i]? = some a) :
    ∃ A B, l = A ++ a :: B ∧ ∀ x, l.set i x = A ++ x :: B := by
  obtain ⟨hi, rfl⟩ := List.getElem?_eq_some_iff.1 h
  exact ⟨l.take i, l.drop (i + 1), by simp, fun x => by rw [List.set_eq_take_append_cons_drop, if_pos hi]⟩

theorem List.getElem?_set_cases {α : Type u} {l : List α} {i j : Nat} {x a : α} (h : (l.set i x)[j]? = some a) :
    (j = i ∧ a = x) ∨ (j ≠ i ∧ l[j]? = some a) := by
  rw [List.getElem?_set] at h
  split at h
  · next e =>
    split at h
    · exact Or.inl ⟨e.symm, (Option.some.inj h).symm⟩
    · cases h
  · next e => exact Or.inr ⟨fun e' => e e'.symm, h⟩

theorem List.forall_set_of_ne {α : Type u} {P : Nat → α → Prop} {l : List α} {i : Nat} {x : α}
    (hl : ∀ j y, j ≠ i → l[j]? = some y → P j y) (hx : P i x) : ∀ j y, (l.set i x)[j]? = some y → P j y := by
  intro j y hj
  rcases getElem?_set_cases hj with ⟨rfl, rfl⟩ | ⟨hne, hj'⟩
  · exact hx
  · exact hl j y hne hj'

theorem List.forall_set {α : Type u} {P : Nat → α → Prop} {l : List α} {i : Nat} {x : α}
    (hl : ∀ j y, l[j]? = some y → P j y) (hx : P i x) : ∀ j y, (l.set i x)[j]? = some y → P j y :=
  forall_set_of_ne (fun j y _ => hl j y) hx

theorem List.getD_modify {α : Type u} (l : List α) (i : Nat) (f : α → α) (j : Nat) (d : α) :
    (l.modify i f).getD j d = if i = j ∧ j < l.length then f (l.getD j d) else l.getD j d := by
  simp only [List.getD_eq_getElem?_getD, List.getElem?_modify]
  by_cases h : i = j
  · subst h
    by_cases hl : i < l.length <;> simp [hl]
  · simp [h]

theorem List.getD_map {α : Type u} {β : Type v} (f : α → β) (l : List α) (i : Nat) (d : α) :
    (l.map f).getD i (f d) = f (l.getD i d) := by
  simp only [List.getD_eq_getElem?_getD, List.getElem?_map, Option.getD_map]

theorem List.modify_comm {α : Type u} (l : List α) {i j : Nat} {f g : α → α}
    (h : i = j → ∀ x, l[i]? = some x → g (f x) = f (g x)) : (l.modify i f).modify j g = (l.modify j g).modify i f := by
  by_cases hij : i = j
  · subst hij
    rw [List.modify_modify_eq, List.modify_modify_eq]
    refine List.ext_getElem? fun k => ?_
    rw [List.getElem?_modify, List.getElem?_modify]
    exact Option.map_congr fun x hx => ite_congr rfl (fun e => h rfl x (e ▸ hx)) fun _ => rfl
  · exact List.modify_modify_ne _ _ _ hij
