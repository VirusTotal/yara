/-
  Aho-Corasick automaton CONSTRUCTION — executable model (core Lean only) of libyara/ahocorasick.c,
  function by function:
    yr_ac_add_string                          → `addAtom`   (`nextState`, `createState`, `walk`)
    _yr_ac_create_failure_links               → `createFailureLinks` (`rootFixup`, `findFailure`, `linkChild`)
    _yr_ac_transitions_subset                 → `transitionsSubset`
    _yr_ac_optimize_failure_links             → `optimizeFailureLinks` (`optStep`)
    yr_bitmask_find_non_colliding_offset      → `findOffset` (`fits`, `skipFull`)
    _yr_ac_find_suitable_transition_table_slot→ `findSlot`  (first fit + the growth rule)
    _yr_ac_build_transition_table             → `buildTransitionTable` (`initRoot`, `packStep`)
    yr_ac_compile                             → `compile`;   everything from the atom list: `build`.
  The result is a `Tables` value (Model/AcScan.lean) with the SAME layout as the arena tables of the real
  automaton (transition table, match table, match pool with its `next` links) — the driver engine `acbuild`
  prints it in the format harness/h_scan.c prints the real tables, and the two are compared verbatim.

  Representation choices (each checked by the verbatim comparison):
   * states are numbered in creation order (root = 0); `first_child`/`siblings` is the list `children`
     (newest child first, as `_yr_ac_state_create` links a new state in front);
   * the three queue traversals are the one generic `bfs` loop (pop the head, run the body, push the children
     at the tail; `fuel` = number of states, every state is pushed once);
   * `path` is a GHOST field (the bytes leading to the state); no computation reads it;
   * `depth` is a `Nat` (C: `uint8_t`, equal for atoms of at most 255 bytes; yara's atoms have at most 4);
   * the "in use" bitmask is an `Array Bool` of `tables_size` entries, positions outside it are free — the C
     bitmask has spare words that are always zero; `t_table_unused_candidate` only skips fully used 64-bit
     words and is kept with the C arithmetic (`cand / 64` words are skipped, the word index is stored back);
   * `assert(*slot + 257 < YR_AC_MAX_TRANSITION_TABLE_SIZE)`: a violated assertion clears `ok`, and `build`
     returns `none` (the C process aborts).
-/
import YaraModel.Model.AcScan
import YaraModel.Base.List
namespace YaraModel.AC.Build
open YaraModel.Text YaraModel.AC

/-- `YR_AC_STATE` -/
structure State where
  input : UInt8 := 0
  depth : Nat := 0
  matchesRef : Nat := 0            -- 1-based index into the match pool, 0 = YR_ARENA_NULL_REF
  failure : Nat := 0               -- state number
  slot : Nat := 0                  -- t_table_slot
  children : List Nat := []        -- first_child, then the siblings chain
  path : Bytes := []               -- ghost
deriving Inhabited, Repr

/-- `YR_AC_AUTOMATON` (the part that lives until `yr_ac_compile`) with the match pool of the arena -/
structure Auto where
  states : Array State
  pool : Array (Nat × Nat × Nat)   -- (string idx, backtrack, next as 1-based index or 0)
deriving Repr

def Auto.st (A : Auto) (i : Nat) : State := A.states.getD i default

def Auto.modify (A : Auto) (i : Nat) (f : State → State) : Auto :=
  { A with states := A.states.setIfInBounds i (f (A.st i)) }

/-- `yr_ac_automaton_create` -/
def empty : Auto := { states := #[{}], pool := #[] }

/-- `_yr_ac_next_state` -/
def nextState (A : Auto) (s : Nat) (c : UInt8) : Option Nat :=
  (A.st s).children.find? fun ch => (A.st ch).input == c

/-- `_yr_ac_state_create`: the new state becomes the FIRST child -/
def createState (A : Auto) (s : Nat) (c : UInt8) : Auto × Nat :=
  let n := A.states.size
  let ns : State := { input := c, depth := (A.st s).depth + 1, path := (A.st s).path ++ [c] }
  let A1 : Auto := { A with states := A.states.push ns }
  (A1.modify s fun x => { x with children := n :: x.children }, n)

/-- the `for` loop of `yr_ac_add_string` over the atom's bytes -/
def walk (A : Auto) (s : Nat) : Bytes → Auto × Nat
  | [] => (A, s)
  | c :: rest =>
    match nextState A s c with
    | some n => walk A n rest
    | none => let r := createState A s c; walk r.1 r.2 rest

/-- one iteration of the `while (atom != NULL)` loop of `yr_ac_add_string` -/
def addAtom (A : Auto) (sa : Nat × Atom) : Auto :=
  let r := walk A 0 sa.2.bytes
  let A1 := r.1
  let s := r.2
  let ref := A1.pool.size + 1
  let A2 : Auto := { A1 with pool := A1.pool.push (sa.1, (A1.st s).depth + sa.2.backtrack, (A1.st s).matchesRef) }
  A2.modify s fun x => { x with matchesRef := ref }

def addAtoms (atoms : List (Nat × Atom)) : Auto := atoms.foldl addAtom empty

/-! ### traversal -/

/-- the queue loop shared by the three passes: pop the head, run `body`, push the children of the popped state -/
def bfs {σ : Type} (children : σ → Nat → List Nat) (body : σ → Nat → σ) : Nat → List Nat → σ → σ
  | 0, _, x => x
  | _ + 1, [], x => x
  | fuel + 1, cur :: q, x =>
    let x1 := body x cur
    bfs children body fuel (q ++ children x1 cur) x1

/-! ### `_yr_ac_create_failure_links` -/

def poolNext (A : Auto) (i1 : Nat) : Nat := (A.pool.getD (i1 - 1) (0, 0, 0)).2.2
def poolBt (A : Auto) (i1 : Nat) : Nat := (A.pool.getD (i1 - 1) (0, 0, 0)).2.1

/-- `while (match->next != NULL) match = match->next;` from the entry with 1-based index `i1` -/
def lastMatch (A : Auto) : Nat → Nat → Nat
  | 0, i1 => i1
  | fuel + 1, i1 => if poolNext A i1 = 0 then i1 else lastMatch A fuel (poolNext A i1)

/-- `match->next = …` -/
def setNext (A : Auto) (i1 : Nat) (nx : Nat) : Auto :=
  let e := A.pool.getD (i1 - 1) (0, 0, 0)
  { A with pool := A.pool.setIfInBounds (i1 - 1) (e.1, e.2.1, nx) }

/-- first part of the loop body: the popped state inherits the root's match list -/
def rootFixup (A : Auto) (cur : Nat) : Auto :=
  if (A.st cur).matchesRef ≠ 0 then
    let l := lastMatch A A.pool.size (A.st cur).matchesRef
    if poolBt A l > 0 then setNext A l (A.st 0).matchesRef else A
  else A.modify cur fun x => { x with matchesRef := (A.st 0).matchesRef }

/-- the `while (1)` loop: first state on the failure chain of `f` that has a transition on `c` -/
def findFailure (A : Auto) (c : UInt8) : Nat → Nat → Option Nat
  | 0, _ => none
  | fuel + 1, f =>
    match nextState A f c with
    | some t => some t
    | none => if f = 0 then none else findFailure A c fuel (A.st f).failure

/-- the body of the loop over the children of the popped state -/
def linkChild (cur : Nat) (A : Auto) (ch : Nat) : Auto :=
  match findFailure A (A.st ch).input A.states.size (A.st cur).failure with
  | some t =>
    let A1 := A.modify ch fun x => { x with failure := t }
    if (A1.st ch).matchesRef = 0 then A1.modify ch fun x => { x with matchesRef := (A1.st t).matchesRef }
    else setNext A1 (lastMatch A1 A1.pool.size (A1.st ch).matchesRef) (A1.st t).matchesRef
  | none => A.modify ch fun x => { x with failure := 0 }

def linkStep (A : Auto) (cur : Nat) : Auto :=
  let A1 := rootFixup A cur
  (A1.st cur).children.foldl (linkChild cur) A1

def kids (A : Auto) (s : Nat) : List Nat := (A.st s).children

def createFailureLinks (A : Auto) : Auto :=
  -- root: failure = root; its children: failure = root, pushed
  let A1 := A.modify 0 fun x => { x with failure := 0 }
  let A2 := (A1.st 0).children.foldl (fun B ch => B.modify ch fun x => { x with failure := 0 }) A1
  bfs kids linkStep A2.states.size (A2.st 0).children A2

/-! ### `_yr_ac_optimize_failure_links` -/

/-- `_yr_ac_transitions_subset (s1, s2)`: every input accepted in `s2` is accepted in `s1` -/
def transitionsSubset (A : Auto) (s1 s2 : Nat) : Bool :=
  (A.st s2).children.all fun c2 => (A.st s1).children.any fun c1 => (A.st c1).input == (A.st c2).input

def optStep (A : Auto) (cur : Nat) : Auto :=
  let f := (A.st cur).failure
  if f ≠ 0 && transitionsSubset A cur f then A.modify cur fun x => { x with failure := (A.st f).failure } else A

def optimizeFailureLinks (A : Auto) : Auto :=
  bfs kids optStep A.states.size (A.st 0).children A

/-! ### `_yr_ac_build_transition_table` -/

/-- `YR_AC_MAKE_TRANSITION` -/
def mkTransition (state code : Nat) : UInt32 := (UInt32.ofNat state <<< 9) ||| UInt32.ofNat code

structure Pack where
  A : Auto
  t : Array UInt32
  m : Array UInt32
  used : Array Bool                -- automaton->bitmask, one entry per table slot
  cand : Nat                       -- t_table_unused_candidate
  ok : Bool                        -- no assertion failed so far

def Pack.size (P : Pack) : Nat := P.t.size   -- tables_size

def isUsed (used : Array Bool) (i : Nat) : Bool := used.getD i false

/-- the state's 257-bit mask (bit 0 and bit `input+1` of every child) does not collide at offset `p` -/
def fits (used : Array Bool) (inputs : List UInt8) (p : Nat) : Bool :=
  !isUsed used p && inputs.all fun c => !isUsed used (p + c.toNat + 1)

/-- a 64-bit word of the bitmask is `-1L` -/
def wordFull (used : Array Bool) (w : Nat) : Bool := (List.range 64).all fun j => isUsed used (w * 64 + j)

/-- the first `for` of `yr_bitmask_find_non_colliding_offset`: skip the words filled with ones -/
def skipFull (used : Array Bool) (lenA : Nat) : Nat → Nat → Nat
  | 0, i => i
  | fuel + 1, i => if i ≤ lenA / 64 && wordFull used i then skipFull used lenA fuel (i + 1) else i

/-- the search proper: first offset from `p` on (below `lenA`, in steps of one) where the mask fits -/
def firstFit (used : Array Bool) (inputs : List UInt8) (lenA : Nat) : Nat → Nat → Nat
  | 0, _ => lenA
  | fuel + 1, p => if p ≥ lenA then lenA else if fits used inputs p then p else firstFit used inputs lenA fuel (p + 1)

/-- `yr_bitmask_find_non_colliding_offset (bitmask, state_bitmask, tables_size, 257, &cand)`;
    returns (offset, new candidate) -/
def findOffset (used : Array Bool) (inputs : List UInt8) (lenA cand : Nat) : Nat × Nat :=
  let i := skipFull used lenA (lenA / 64 + 2) (cand / 64)
  (firstFit used inputs lenA (lenA + 1) (i * 64), i)

def growBy {α : Type} (a : Array α) (n : Nat) (v : α) : Array α := a ++ Array.replicate n v

/-- `_yr_ac_find_suitable_transition_table_slot` -/
def findSlot (P : Pack) (s : Nat) : Pack × Nat :=
  let inputs := (P.A.st s).children.map fun ch => (P.A.st ch).input
  let r := findOffset P.used inputs P.size P.cand
  let slot := r.1
  let P1 := { P with cand := r.2, ok := P.ok && decide (slot + 257 < 0x800000) }
  if slot > P1.size - 257 then
    ({ P1 with t := growBy P1.t 257 0, m := growBy P1.m 257 0, used := growBy P1.used 257 false }, slot)
  else (P1, slot)

/-- the loop over the children of a state placed at `slot` (also used for the root, slot 0) -/
def placeChild (slot : Nat) (P : Pack) (ch : Nat) : Pack :=
  let pos := slot + (P.A.st ch).input.toNat + 1
  { P with A := P.A.modify ch fun x => { x with slot := pos },
           t := P.t.setIfInBounds pos (mkTransition 0 ((P.A.st ch).input.toNat + 1)),
           used := P.used.setIfInBounds pos true }

def packStep (P : Pack) (s : Nat) : Pack :=
  let r := findSlot P s
  let P1 := r.1
  let slot := r.2
  let own := (P1.A.st s).slot
  let P2 := { P1 with
    t := (P1.t.setIfInBounds own (P1.t.getD own 0 ||| (UInt32.ofNat slot <<< 9))).setIfInBounds slot
           (mkTransition (P1.A.st (P1.A.st s).failure).slot 0),
    m := P1.m.setIfInBounds slot (UInt32.ofNat (P1.A.st s).matchesRef),
    A := P1.A.modify s fun x => { x with slot := slot },
    used := P1.used.setIfInBounds slot true }
  (P2.A.st s).children.foldl (placeChild slot) P2

def initRoot (A : Auto) : Pack :=
  let P0 : Pack := { A := A, t := Array.replicate 512 0, m := (Array.replicate 512 0).setIfInBounds 0 (UInt32.ofNat (A.st 0).matchesRef),
                     used := (Array.replicate 512 false).setIfInBounds 0 true, cand := 1, ok := true }
  (A.st 0).children.foldl (placeChild 0) P0

def buildTransitionTable (A : Auto) : Pack :=
  let P := initRoot A
  bfs (fun (P : Pack) s => kids P.A s) packStep A.states.size (A.st 0).children P

/-- `yr_ac_compile` -/
def compile (A : Auto) : Pack :=
  buildTransitionTable (optimizeFailureLinks (createFailureLinks A))

/-- everything: the atoms in insertion order ↦ the tables the scanner walks (`none`: an assertion fails) -/
def build (atoms : List (Nat × Atom)) : Option Tables :=
  let P := compile (addAtoms atoms)
  if P.ok then some { t := P.t, m := P.m, pool := P.A.pool } else none

/-! ### specification of the reports: what the scan of a correct automaton delivers, IN ORDER

  At every position `k` (0 … |buf|, the last one being the pass after the loop of `_yr_scanner_scan_mem_block`) the scanner
  walks the match list of the current state: the atoms that end at `k`, LONGEST first, among atoms with the same bytes the
  one inserted LAST first; zero-length atoms (root matches) come last, at every position. An entry is handed over only if
  `backtrack ≤ k` (the `match->backtrack <= i` guard). -/

/-- entries (0-based insertion numbers, newest first) of the atoms whose bytes are exactly `p` -/
def ownIdx (atoms : List (Nat × Atom)) (p : Bytes) : List Nat :=
  ((List.range atoms.length).filter fun e => decide ((atoms[e]?).map (fun a => a.2.bytes) = some p)).reverse

/-- one pass over the atoms computing `ownIdx` (what the compiled driver runs; equal to `ownIdx` by `ownIdx_eq_fast`) -/
def ownIdxFast (atoms : List (Nat × Atom)) (p : Bytes) : List Nat :=
  (atoms.foldl (fun (st : Nat × List Nat) a => (st.1 + 1, if a.2.bytes = p then st.1 :: st.2 else st.2)) (0, [])).2

theorem ownIdx_snoc (atoms : List (Nat × Atom)) (a : Nat × Atom) (p : Bytes) :
    ownIdx (atoms ++ [a]) p = if a.2.bytes = p then atoms.length :: ownIdx atoms p else ownIdx atoms p := by
  unfold ownIdx
  simp only [List.length_append, List.length_singleton, List.range_succ, List.filter_append]
  have h1 : (List.filter (fun e => decide ((((atoms ++ [a])[e]?).map fun a => a.2.bytes) = some p)) (List.range atoms.length)) =
      (List.filter (fun e => decide (((atoms[e]?).map fun a => a.2.bytes) = some p)) (List.range atoms.length)) := by
    apply List.filter_congr
    intro e he
    rw [List.mem_range] at he
    rw [List.getElem?_append_left he]
  rw [h1]
  by_cases h : a.2.bytes = p
  · simp [h]
  · simp [h]

@[csimp] theorem ownIdx_eq_fast : @ownIdx = @ownIdxFast := by
  funext atoms p
  unfold ownIdxFast
  rw [List.foldl_prefix_inv (b := (0, [])) (fun pre st => st = (pre.length, ownIdx pre p)) atoms rfl fun pre a _ st _ h => by
    rw [h, ownIdx_snoc, List.length_append]; rfl]

/-- entries of the atoms that are suffixes of `w`, longest first -/
def specList (atoms : List (Nat × Atom)) : Bytes → List Nat
  | [] => ownIdx atoms []
  | c :: t => ownIdx atoms (c :: t) ++ specList atoms t

/-- the candidate (string idx, offset, backtrack) entry `e` yields at position `n`, if it fits -/
def candOf (atoms : List (Nat × Atom)) (n e : Nat) : Option (Nat × Nat × Nat) :=
  match atoms[e]? with
  | some a => if a.2.bytes.length + a.2.backtrack ≤ n then some (a.1, n - (a.2.bytes.length + a.2.backtrack), a.2.bytes.length + a.2.backtrack) else none
  | none => none

def expectedSeq (atoms : List (Nat × Atom)) (w : Bytes) : List (Nat × Nat × Nat) :=
  (specList atoms w).filterMap (candOf atoms w.length)

/-- the whole candidate sequence of a buffer, in arrival order -/
def expectedScan (atoms : List (Nat × Atom)) (buf : Bytes) : List (Nat × Nat × Nat) :=
  (List.range (buf.length + 1)).flatMap fun k => expectedSeq atoms (buf.take k)

end YaraModel.AC.Build
